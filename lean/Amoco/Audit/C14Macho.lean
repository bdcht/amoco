import Amoco.Props.C14Macho
open Amoco.Macho
#print axioms macho_parse_eq_ref
#print axioms macho_walker_total
#print axioms macho_offsets_monotone
#print axioms macho_cmds_disjoint
#print axioms macho_cmds_disjoint_obj
#print axioms macho_magic_disjoint
-- the lemmas of Proofs/Macho.lean that the theorems above are corollaries of
#print axioms machoInit_eq_ref
#print axioms walk_eq_ref
#print axioms walk_no_fuel
