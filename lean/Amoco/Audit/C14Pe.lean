/- Axioms of the C14 / C20 property theorems for PE (Props/C14Pe.lean). -/
import Amoco.Props.C14Pe

#print axioms Amoco.Pe.Props.pe_layouts
#print axioms Amoco.Pe.Props.pe_parse_eq_ref
#print axioms Amoco.Pe.Props.pe_ctor_total
#print axioms Amoco.Pe.Props.pe_sections_bounded
#print axioms Amoco.Pe.Props.pe_magic_disjoint
#print axioms Amoco.Pe.Props.pe_locate_sound
