/-
  Amoco.Basic.Bits — natural numbers used as bit-vectors with an explicit width.
  Core Lean only (no Mathlib): these definitions are linked into the compiled driver.
-/
namespace Amoco

def maskN (n : Nat) : Nat := 2 ^ n - 1

/-- bits `[lo, lo+len)` of `x`, as a number `< 2^len` (Python `Bits.__getitem__` on a slice). -/
def bitsAt (x lo len : Nat) : Nat := (x >>> lo) % 2 ^ len

/-- little-endian value of a byte list (`Bits(bytes, bitorder=1).ival`). -/
def leVal : List Nat → Nat
  | [] => 0
  | b :: bs => b % 256 + 256 * leVal bs

def beVal (bs : List Nat) : Nat := leVal bs.reverse

/-- `popcount n x`: the number of one bits among the low `n` bits of `x` (the width comes first). -/
def popcount : Nat → Nat → Nat
  | 0, _ => 0
  | n+1, x => (if x.testBit n then 1 else 0) + popcount n x

theorem testBit_bitsAt (x lo len j : Nat) :
    (bitsAt x lo len).testBit j = (decide (j < len) && x.testBit (lo + j)) := by
  unfold bitsAt
  rw [Nat.testBit_mod_two_pow, Nat.testBit_shiftRight]

theorem bitsAt_lt (x lo len : Nat) : bitsAt x lo len < 2 ^ len := by
  unfold bitsAt; exact Nat.mod_lt _ (Nat.two_pow_pos len)

theorem leVal_lt (bs : List Nat) : leVal bs < 2 ^ (8 * bs.length) := by
  induction bs with
  | nil => simp [leVal]
  | cons b bs ih =>
    simp only [leVal, List.length_cons]
    have h : 2 ^ (8 * (bs.length + 1)) = 256 * 2 ^ (8 * bs.length) := by
      rw [Nat.mul_add, Nat.pow_add]; simp [Nat.mul_comm]
    have : b % 256 < 256 := Nat.mod_lt _ (by decide)
    omega

end Amoco
