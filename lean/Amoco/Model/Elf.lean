/-
  Amoco.Model.Elf — byte-level model of `amoco/system/elf.py` (`Elf.__init__`, `getinfo`,
  `getfileoffset`, `readsegment`, `readsection` and the symbol / relocation / dynamic tables),
  a reference reader written from the ELF specification (fixed offsets per class and byte order),
  and the `read_program` dispatch chain of `amoco/system/core.py` with the header-level acceptance
  predicates of ELF / PE / Mach-O / COFF / HEX / SREC.

  Layering:
  * `RawField`, `unpackFields` : `StructCore.unpack` over raw fields (alignment relative to the
    structure's base, `struct.unpack` on `data[offset:offset+size]`, `offset += f.size()`), `layout` : the offsets that
    walk produces from a relative origin;
  * `identFields … dynFields` : the `@StructDefine` field lists and the in-place patches of each
    `__init__` (`typename = "Q"`, `pop/insert/append`) exactly as coded;
  * `spec*` : the layout tables of the ELF specification (gABI figures 4-3, 4-8, 4-15, 4-21, 5-1);
  * `elfTables` / `elfSymbols` / `elfParseRaw` / `elfInit` : the constructor in `Except PyExn`;
  * `ref*` : the reference reader;
  * `readProgram` : the try/except chain.

  The model follows the code as repaired by `fix: malformed ELF content is reported as ElfError only`
  (everything that is not an `ElfError`/`StructureError` leaves `Elf.__init__` as an `ElfError`) and
  `fix: Elf.getfileoffset no longer raises AttributeError for mapped addresses`.  `elfParseRaw` is the
  constructor body without the wrapper; the exception class it reports is what escaped before the
  first of these.  Core Lean only.
-/
import Amoco.Model.HexSrec

namespace Amoco.Fmt

abbrev Bytes := List Nat

/-- little-endian value -/
def leVal : Bytes → Nat
  | [] => 0
  | b :: t => b + 256 * leVal t

/-- big-endian value -/
def beVal (bs : Bytes) : Nat := beNat bs 0

/-- `data[off : off+n]` (bytes object, or `DataIO.__getitem__` below 2^63) -/
def slice (data : Bytes) (off n : Nat) : Bytes := (data.drop off).take n

def pow63 : Nat := 9223372036854775808

/-- `f.seek(off); f.read(n)` / `f[off:off+n]` on the `DataIO`: `BytesIO.seek`/`read` take a
    `Py_ssize_t`, larger values raise `OverflowError`. -/
def fileRead (data : Bytes) (off n : Nat) : Py Bytes :=
  if off ≥ pow63 || n ≥ pow63 then .error .overflow else .ok (slice data off n)

/-! ## raw struct fields -/

structure RawField where
  name : String
  size : Nat        -- `struct.calcsize(typename)`
  count : Nat       -- 0: scalar, n>0: `typename*n`
  deriving Repr, DecidableEq, Inhabited

def RawField.nbytes (f : RawField) : Nat := if f.count == 0 then f.size else f.size * f.count

/-- `Field.align` -/
def alignUp (off a : Nat) : Nat :=
  if a == 0 then off else if off % a == 0 then off else off + (a - off % a)

/-- value of the bytes of a field: scalars by byte order, arrays (`c*3`, `b*7`) as the byte string
    (big-endian number of the bytes). -/
def fieldVal (be : Bool) (f : RawField) (bs : Bytes) : Nat :=
  if f.count == 0 then (if be then beVal bs else leVal bs) else beVal bs

/-- `RawField.unpack(data, offset)`: short data is a `struct.error`. -/
def rdField (be : Bool) (f : RawField) (data : Bytes) (off : Nat) : Py Nat :=
  let bs := slice data off f.nbytes
  if bs.length == f.nbytes then .ok (fieldVal be f bs) else .error .struct

abbrev Rec := List (String × Nat)

def fget (r : Rec) (k : String) : Nat := (r.lookup k).getD 0

/-- the field loop of `StructCore.unpack` (`aligned` = not packed): fields are aligned relative to the
    start `base` of the structure (`offset = base + f.align(offset - base)`, `offset += f.size()`);
    with `aligned = false` the loop of `Ehdr.unpack` (no alignment). `rel` is the running offset
    relative to `base`. No exception wrapper. -/
def unpackFields (be aligned : Bool) : List RawField → Bytes → Nat → Nat → Py Rec
  | [], _, _, _ => .ok []
  | f :: fs, data, base, rel =>
    let o := if aligned then alignUp rel f.size else rel
    match rdField be f data (base + o) with
    | .error e => .error e
    | .ok v =>
      match unpackFields be aligned fs data base (o + f.nbytes) with
      | .error e => .error e
      | .ok r => .ok ((f.name, v) :: r)

/-- `except Exception: raise StructureError(name)` of `StructCore.unpack`. -/
def toStructureError {α} : Py α → Py α
  | .error _ => .error .structureError
  | r => r

/-- `S(data, offset)` for a `StructFormatter` over raw fields -/
def structUnpack (be : Bool) (fs : List RawField) (data : Bytes) (off : Nat) : Py Rec :=
  toStructureError (unpackFields be true fs data off 0)

/-- relative layout `(name, offset, nbytes)` that the aligned field walk produces from origin `rel`. -/
def layout : List RawField → Nat → List (String × Nat × Nat)
  | [], _ => []
  | f :: fs, rel =>
    let o := alignUp rel f.size
    (f.name, o, f.nbytes) :: layout fs (o + f.nbytes)

/-- same without alignment (`Ehdr.unpack`) -/
def layoutPacked : List RawField → Nat → List (String × Nat × Nat)
  | [], _ => []
  | f :: fs, rel => (f.name, rel, f.nbytes) :: layoutPacked fs (rel + f.nbytes)

/-! ## the ELF structures as `elf.py` defines and patches them -/

def mkFields (l : List (String × Nat)) : List RawField := l.map (fun p => { name := p.1, size := p.2, count := 0 })

def setSize (fs : List RawField) (idx : List Nat) (sz : Nat) : List RawField :=
  fs.zipIdx.map (fun p => if idx.contains p.2 then { p.1 with size := sz } else p.1)

def identFields : List RawField :=
  [ ⟨"ELFMAG0", 1, 0⟩, ⟨"ELFMAG", 1, 3⟩, ⟨"EI_CLASS", 1, 0⟩, ⟨"EI_DATA", 1, 0⟩, ⟨"EI_VERSION", 1, 0⟩,
    ⟨"EI_OSABI", 1, 0⟩, ⟨"EI_ABIVERSION", 1, 0⟩, ⟨"unused", 1, 7⟩ ]

/-- fields[1:] of `Ehdr` (fields[0] is the IDENT) -/
def ehdrBase : List RawField :=
  mkFields [("e_type", 2), ("e_machine", 2), ("e_version", 4), ("e_entry", 4), ("e_phoff", 4), ("e_shoff", 4),
            ("e_flags", 4), ("e_ehsize", 2), ("e_phentsize", 2), ("e_phnum", 2), ("e_shentsize", 2),
            ("e_shnum", 2), ("e_shstrndx", 2)]

/-- `self.fields[4..6].typename = "Q"` (indices 3,4,5 of fields[1:]) -/
def ehdrFields (x64 : Bool) : List RawField := if x64 then setSize ehdrBase [3, 4, 5] 8 else ehdrBase

def shdrBase : List RawField :=
  mkFields [("sh_name", 4), ("sh_type", 4), ("sh_flags", 4), ("sh_addr", 4), ("sh_offset", 4), ("sh_size", 4),
            ("sh_link", 4), ("sh_info", 4), ("sh_addralign", 4), ("sh_entsize", 4)]

def shdrFields (x64 : Bool) : List RawField := if x64 then setSize shdrBase [2, 3, 4, 5, 8, 9] 8 else shdrBase

def phdrBase : List RawField :=
  mkFields [("p_type", 4), ("p_offset", 4), ("p_vaddr", 4), ("p_paddr", 4), ("p_filesz", 4), ("p_memsz", 4),
            ("p_flags", 4), ("p_align", 4)]

/-- `pflags = fields.pop(6); fields.insert(1, pflags); for f in fields[2:]: f.typename = "Q"` -/
def phdrFields (x64 : Bool) : List RawField :=
  if x64 then
    let pf := phdrBase.getD 6 default
    let l := (phdrBase.eraseIdx 6).insertIdx 1 pf
    setSize l [2, 3, 4, 5, 6, 7] 8
  else phdrBase

def symBase : List RawField :=
  mkFields [("st_name", 4), ("st_value", 4), ("st_size", 4), ("st_info", 1), ("st_other", 1), ("st_shndx", 2)]

/-- `fvalue = pop(1); fsize = pop(1); typename = "Q"; append(fvalue); append(fsize)` -/
def symFields (x64 : Bool) : List RawField :=
  if x64 then
    let fv := symBase.getD 1 default
    let l1 := symBase.eraseIdx 1
    let fs := l1.getD 1 default
    let l2 := l1.eraseIdx 1
    l2 ++ [{ fv with size := 8 }, { fs with size := 8 }]
  else symBase

def allSize (fs : List RawField) (sz : Nat) : List RawField := fs.map (fun f => { f with size := sz })

def relBase : List RawField := mkFields [("r_offset", 4), ("r_info", 4)]
def relaBase : List RawField := mkFields [("r_offset", 4), ("r_info", 4), ("r_addend", 4)]
def dynBase : List RawField := mkFields [("d_tag", 4), ("d_un", 4)]

def relFields (x64 : Bool) : List RawField := if x64 then allSize relBase 8 else relBase
def relaFields (x64 : Bool) : List RawField := if x64 then allSize relaBase 8 else relaBase
def dynFields (x64 : Bool) : List RawField := if x64 then allSize dynBase 8 else dynBase

/-! ## layout tables of the ELF specification  (name, offset, size) -/

def specEhdr (x64 : Bool) : List (String × Nat × Nat) :=
  if x64 then
    [("e_type", 16, 2), ("e_machine", 18, 2), ("e_version", 20, 4), ("e_entry", 24, 8), ("e_phoff", 32, 8),
     ("e_shoff", 40, 8), ("e_flags", 48, 4), ("e_ehsize", 52, 2), ("e_phentsize", 54, 2), ("e_phnum", 56, 2),
     ("e_shentsize", 58, 2), ("e_shnum", 60, 2), ("e_shstrndx", 62, 2)]
  else
    [("e_type", 16, 2), ("e_machine", 18, 2), ("e_version", 20, 4), ("e_entry", 24, 4), ("e_phoff", 28, 4),
     ("e_shoff", 32, 4), ("e_flags", 36, 4), ("e_ehsize", 40, 2), ("e_phentsize", 42, 2), ("e_phnum", 44, 2),
     ("e_shentsize", 46, 2), ("e_shnum", 48, 2), ("e_shstrndx", 50, 2)]

def specIdent : List (String × Nat × Nat) :=
  [("ELFMAG0", 0, 1), ("ELFMAG", 1, 3), ("EI_CLASS", 4, 1), ("EI_DATA", 5, 1), ("EI_VERSION", 6, 1),
   ("EI_OSABI", 7, 1), ("EI_ABIVERSION", 8, 1), ("unused", 9, 7)]

def specPhdr (x64 : Bool) : List (String × Nat × Nat) :=
  if x64 then
    [("p_type", 0, 4), ("p_flags", 4, 4), ("p_offset", 8, 8), ("p_vaddr", 16, 8), ("p_paddr", 24, 8),
     ("p_filesz", 32, 8), ("p_memsz", 40, 8), ("p_align", 48, 8)]
  else
    [("p_type", 0, 4), ("p_offset", 4, 4), ("p_vaddr", 8, 4), ("p_paddr", 12, 4), ("p_filesz", 16, 4),
     ("p_memsz", 20, 4), ("p_flags", 24, 4), ("p_align", 28, 4)]

def specShdr (x64 : Bool) : List (String × Nat × Nat) :=
  if x64 then
    [("sh_name", 0, 4), ("sh_type", 4, 4), ("sh_flags", 8, 8), ("sh_addr", 16, 8), ("sh_offset", 24, 8),
     ("sh_size", 32, 8), ("sh_link", 40, 4), ("sh_info", 44, 4), ("sh_addralign", 48, 8), ("sh_entsize", 56, 8)]
  else
    [("sh_name", 0, 4), ("sh_type", 4, 4), ("sh_flags", 8, 4), ("sh_addr", 12, 4), ("sh_offset", 16, 4),
     ("sh_size", 20, 4), ("sh_link", 24, 4), ("sh_info", 28, 4), ("sh_addralign", 32, 4), ("sh_entsize", 36, 4)]

def specSym (x64 : Bool) : List (String × Nat × Nat) :=
  if x64 then
    [("st_name", 0, 4), ("st_info", 4, 1), ("st_other", 5, 1), ("st_shndx", 6, 2), ("st_value", 8, 8), ("st_size", 16, 8)]
  else
    [("st_name", 0, 4), ("st_value", 4, 4), ("st_size", 8, 4), ("st_info", 12, 1), ("st_other", 13, 1), ("st_shndx", 14, 2)]

def specRel (x64 : Bool) : List (String × Nat × Nat) :=
  if x64 then [("r_offset", 0, 8), ("r_info", 8, 8)] else [("r_offset", 0, 4), ("r_info", 4, 4)]

def specRela (x64 : Bool) : List (String × Nat × Nat) :=
  if x64 then [("r_offset", 0, 8), ("r_info", 8, 8), ("r_addend", 16, 8)]
  else [("r_offset", 0, 4), ("r_info", 4, 4), ("r_addend", 8, 4)]

def specDyn (x64 : Bool) : List (String × Nat × Nat) :=
  if x64 then [("d_tag", 0, 8), ("d_un", 8, 8)] else [("d_tag", 0, 4), ("d_un", 4, 4)]

/-- total read of `n` bytes at `off` as a number (the reference reader's primitive). -/
def refNat (be : Bool) (data : Bytes) (off n : Nat) : Nat :=
  if be then beVal (slice data off n) else leVal (slice data off n)

/-- reference: read a structure through a specification table at base offset `base`.
    Multi-byte character arrays (the magic) are byte strings, i.e. big-endian numbers. -/
def refStruct (be : Bool) (arrays : List String) (tbl : List (String × Nat × Nat)) (data : Bytes) (base : Nat) : Rec :=
  tbl.map (fun e => (e.1, if arrays.contains e.1 then beVal (slice data (base + e.2.1) e.2.2)
                          else refNat be data (base + e.2.1) e.2.2))

/-! ## loops -/

/-- `for i in range(n): x = rd(offset); offset += stride` — stops at the first exception. -/
def tableM {α} (rd : Nat → Py α) : Nat → Nat → Nat → Py (List α)
  | 0, _, _ => .ok []
  | n + 1, off, stride =>
    match rd off with
    | .error e => .error e
    | .ok a =>
      match tableM rd n (off + stride) stride with
      | .error e => .error e
      | .ok r => .ok (a :: r)

/-- the same loop inside `try: … except Exception: pass` with the results appended as they come. -/
def tablePrefix {α} (rd : Nat → Py α) : Nat → Nat → Nat → List α
  | 0, _, _ => []
  | n + 1, off, stride =>
    match rd off with
    | .error _ => []
    | .ok a => a :: tablePrefix rd n (off + stride) stride

/-! ## UTF-8 (`codecs.decode(name)`, strict) -/

def isCont (b : Nat) : Bool := 128 ≤ b && b ≤ 191

def utf8Valid : Bytes → Bool
  | [] => true
  | b0 :: t =>
    if b0 < 128 then utf8Valid t
    else if 194 ≤ b0 && b0 ≤ 223 then
      match t with
      | b1 :: t1 => isCont b1 && utf8Valid t1
      | _ => false
    else if 224 ≤ b0 && b0 ≤ 239 then
      match t with
      | b1 :: b2 :: t2 =>
        let ok1 := if b0 == 224 then (160 ≤ b1 && b1 ≤ 191) else if b0 == 237 then (128 ≤ b1 && b1 ≤ 159) else isCont b1
        ok1 && isCont b2 && utf8Valid t2
      | _ => false
    else if 240 ≤ b0 && b0 ≤ 244 then
      match t with
      | b1 :: b2 :: b3 :: t3 =>
        let ok1 := if b0 == 240 then (144 ≤ b1 && b1 ≤ 191) else if b0 == 244 then (128 ≤ b1 && b1 ≤ 143) else isCont b1
        ok1 && isCont b2 && isCont b3 && utf8Valid t3
      | _ => false
    else false

def decodeUtf8 (b : Bytes) : Py Bytes := if utf8Valid b then .ok b else .error .unicode

/-- `data[i:].split(b"\0")[0]` -/
def cstrAt (data : Bytes) (i : Nat) : Bytes := (data.drop i).takeWhile (· != 0)

/-- `StrTable.__getitem__` : `data[i:].index(b"\0")` raises `ValueError` without terminator. -/
def strtabGet (data : Bytes) (i : Nat) : Py Bytes :=
  if (data.drop i).contains 0 then .ok (cstrAt data i) else .error .value

/-! ## the parsed object -/

structure ElfEnv where
  knownPT : List Nat       -- `Consts.All["p_type"].keys()`
  knownSHT : List Nat      -- `Consts.All["sh_type"].keys()`
  deriving Repr, Inhabited

structure Section where
  hdr : Rec
  name : Bytes             -- UTF-8 bytes of `s.name`
  deriving Repr, DecidableEq, Inhabited

structure ElfTables where
  ident : Rec
  ehdr : Rec
  x64 : Bool
  be : Bool
  dynamic : Bool
  basemap : Option Nat
  phdr : List Rec
  shdr : List Section
  deriving Repr, DecidableEq, Inhabited

inductive FuncVal
  | sym (name : Bytes) (size info shndx : Nat)
  | dyn (name : Bytes)
  deriving Repr, DecidableEq, Inhabited

structure ElfObj where
  t : ElfTables
  functions : List (Nat × FuncVal)     -- insertion order of the Python dict
  variables : List (Nat × FuncVal)
  deriving Repr, DecidableEq, Inhabited

def PT_LOAD : Nat := 1
def PT_INTERP : Nat := 3
def SHT_PROGBITS : Nat := 1
def SHT_SYMTAB : Nat := 2
def SHT_STRTAB : Nat := 3
def SHT_RELA : Nat := 4
def SHT_DYNAMIC : Nat := 6
def SHT_REL : Nat := 9
def SHT_DYNSYM : Nat := 11
def STT_OBJECT : Nat := 1
def STT_FUNC : Nat := 2

def asciiOfNat (n : Nat) : Bytes := (Nat.toDigits 10 n).map Char.toNat

/-- `".s%d" % i` -/
def defaultName (i : Nat) : Bytes := [46, 115] ++ asciiOfNat i

/-- first PT_LOAD with `not self.basemap` decides; a zero `p_vaddr` leaves it falsy. -/
def basemapOf : List Rec → Option Nat → Option Nat
  | [], b => b
  | p :: ps, b =>
    if fget p "p_type" == PT_LOAD then
      match b with
      | some v => if v == 0 then basemapOf ps (some (fget p "p_vaddr")) else basemapOf ps b
      | none => basemapOf ps (some (fget p "p_vaddr"))
    else basemapOf ps b

/-- the type filter of the program-header loop -/
def keepPhdr (_env : ElfEnv) (_p : Rec) : Bool :=
  -- (repair "Elf.Phdr keeps program headers of unknown type": entries whose `p_type` is outside
  --  `Consts.All["p_type"]` (PT_GNU_PROPERTY …) used to be dropped; they are only logged now)
  true

/-- `Ehdr.unpack`, first part: `fields[0].unpack` → `IDENT().unpack` (a `StructCore.unpack`), then
    the magic test of `IDENT.unpack`. -/
def elfIdent (data : Bytes) : Py Rec :=
  match structUnpack false identFields data 0 with
  | .error e => .error e
  | .ok ident =>
    if fget ident "ELFMAG0" != 0x7f || fget ident "ELFMAG" != 0x454c46 then .error .elfError else .ok ident

def identBE (ident : Rec) : Bool := fget ident "EI_DATA" == 2
def identX64 (ident : Rec) : Bool := fget ident "EI_CLASS" == 2

/-- `Ehdr.unpack`, second part: the remaining fields by `RawField.unpack` directly — no alignment,
    no `StructureError` wrapper. -/
def elfEhdr (ident : Rec) (data : Bytes) : Py Rec :=
  unpackFields (identBE ident) false (ehdrFields (identX64 ident)) data 0 16

/-- the program-header loop before the type filter -/
def elfPhdrsAll (be x64 : Bool) (eh : Rec) (data : Bytes) : Py (List Rec) :=
  if fget eh "e_phoff" != 0 then
    tableM (fun off => structUnpack be (phdrFields x64) data off) (fget eh "e_phnum") (fget eh "e_phoff") (fget eh "e_phentsize")
  else .ok []

/-- the section-header loop (inside `try/except Exception`) before the type filter -/
def elfShdrsAll (be x64 : Bool) (eh : Rec) (data : Bytes) : List Rec :=
  if fget eh "e_shoff" != 0 then
    tablePrefix (fun off => structUnpack be (shdrFields x64) data off) (fget eh "e_shnum") (fget eh "e_shoff") (fget eh "e_shentsize")
  else []

def nameSections (tab : Bytes) : List Rec → Py (List Section)
  | [] => .ok []
  | s :: rest =>
    match decodeUtf8 (cstrAt tab (fget s "sh_name")) with
    | .error e => .error e
    | .ok nm =>
      match nameSections tab rest with
      | .error e => .error e
      | .ok r => .ok ({ hdr := s, name := nm } :: r)

def defaultSections (sh : List Rec) : List Section :=
  sh.zipIdx.map (fun p => { hdr := p.1, name := defaultName p.2 })

/-- section names: `".s%d"` defaults, then the string table `Shdr[e_shstrndx]` -/
def elfNames (eh : Rec) (sh : List Rec) (data : Bytes) : Py (List Section) :=
  let n := fget eh "e_shstrndx"
  if n != 0 && n < sh.length then
    let S := sh.getD n []
    if fget S "sh_type" != SHT_STRTAB then .ok (defaultSections sh)
    else
      match fileRead data (fget S "sh_offset") (fget S "sh_size") with
      | .error e => .error e
      | .ok tab => nameSections tab sh
  else .ok (defaultSections sh)

/-- header, program headers, section headers and section names (`Elf.__init__` up to
    `self.__sections = {}`), exceptions as raised by the code. -/
def elfTables (env : ElfEnv) (data : Bytes) : Py ElfTables :=
  match elfIdent data with
  | .error e => .error e
  | .ok ident =>
    match elfEhdr ident data with
    | .error e => .error e
    | .ok eh =>
      let be := identBE ident
      let x64 := identX64 ident
      match elfPhdrsAll be x64 eh data with
      | .error e => .error e
      | .ok phAll =>
        -- (repair C14-elf-shdr-keep-unknown.diff: sections of a type outside `Consts.All["sh_type"]`
        --  are logged but kept, so `e_shstrndx` indexes the table the file encodes)
        let sh := elfShdrsAll be x64 eh data
        match elfNames eh sh data with
        | .error e => .error e
        | .ok secs =>
          .ok { ident := ident, ehdr := eh, x64 := x64, be := be,
                dynamic := phAll.any (fun p => fget p "p_type" == PT_INTERP),
                basemap := basemapOf phAll none,
                phdr := phAll.filter (keepPhdr env), shdr := secs }

/-! ### `readsection` and the symbol dictionaries -/

/-- what `readsection` returns (and caches under the section *name*). An entry of a table is
    `none` when the constructor got empty data (`if data:` false → nothing unpacked). -/
inductive Sec
  | syms (l : List (Option Rec))
  | strtab (d : Bytes)
  | rels (l : List (Option Rec))
  | dyns (l : List (Option Rec))
  | raw (d : Bytes)
  deriving Repr, DecidableEq, Inhabited

/-- Python truthiness of the value -/
def Sec.truthy : Sec → Bool
  | .syms l => !l.isEmpty
  | .strtab _ => true
  | .rels l => !l.isEmpty
  | .dyns l => !l.isEmpty
  | .raw d => !d.isEmpty

abbrev Cache := List (Bytes × Sec)

/-- bound on table sizes the executable model is willing to expand; beyond it the driver answers
    "unmodelled" (the code itself then loops for as many iterations). -/
def bigTable : Nat := 2000000

/-- `__read_symtab`, `__read_relocs`, `__read_dynamic`: entry loop over the section bytes. -/
def readEntries (be : Bool) (fs : List RawField) (S : Rec) (data : Bytes) : Py (List (Option Rec)) := do
  let l := fget S "sh_entsize"
  let sz := fget S "sh_size"
  if l == 0 then throw .zeroDiv
  if sz % l != 0 then throw .elfError
  let n := sz / l
  if n > bigTable then throw .notImpl
  tableM (fun off => if data.isEmpty then .ok none else (structUnpack be fs data off).map some) n 0 l

def readContent (t : ElfTables) (data : Bytes) (S : Rec) : Py Sec := do
  let ty := fget S "sh_type"
  let bytes ← fileRead data (fget S "sh_offset") (fget S "sh_size")
  -- repair C20-elf-truncated-tables.diff: a table section that the file does not hold completely is an
  -- ElfError (otherwise `Sym(b"", …)` unpacks nothing and the entry loop runs `sh_size / sh_entsize` times)
  if (ty == SHT_SYMTAB || ty == SHT_DYNSYM || ty == SHT_REL || ty == SHT_RELA || ty == SHT_DYNAMIC)
      && bytes.length != fget S "sh_size" then
    throw .elfError
  if ty == SHT_SYMTAB || ty == SHT_DYNSYM then
    return .syms (← readEntries t.be (symFields t.x64) S bytes)
  else if ty == SHT_STRTAB then return .strtab bytes
  else if ty == SHT_REL then return .rels (← readEntries t.be (relFields t.x64) S bytes)
  else if ty == SHT_RELA then return .rels (← readEntries t.be (relaFields t.x64) S bytes)
  else if ty == SHT_DYNAMIC then return .dyns (← readEntries t.be (dynFields t.x64) S bytes)
  else return .raw bytes

/-- `readsection(S)` for a section object: cache by name. -/
def readSection (t : ElfTables) (data : Bytes) (c : Cache) (S : Section) : Py (Sec × Cache) :=
  match c.lookup S.name with
  | some v => .ok (v, c)
  | none =>
    match readContent t data S.hdr with
    | .error e => .error e
    | .ok v => .ok (v, (S.name, v) :: c)

/-- `readsection(name)` : first section with that name, `None` if there is none. -/
def readSectionByName (t : ElfTables) (data : Bytes) (c : Cache) (name : Bytes) : Py (Option Sec × Cache) :=
  match t.shdr.find? (fun s => s.name == name) with
  | none => .ok (none, c)
  | some S =>
    match readSection t data c S with
    | .error e => .error e
    | .ok (v, c') => .ok (some v, c')

def dictSet {β} (d : List (Nat × β)) (k : Nat) (v : β) : List (Nat × β) :=
  if d.any (fun p => p.1 == k) then d.map (fun p => if p.1 == k then (k, v) else p) else d ++ [(k, v)]

/-- `strtab[i].decode()` where `strtab` is whatever `readsection` gave. -/
def nameLookup (strtab : Sec) (i : Nat) : Py Bytes :=
  match strtab with
  | .strtab d => do
    let b ← strtabGet d i
    decodeUtf8 b
  | _ => .error .attribute

/-- `__symbols(t)` -/
def symbolsOf (symtab : Option Sec) (strtab : Option Sec) (ty : Nat) : Py (List (Nat × FuncVal)) :=
  match strtab with
  | none => .ok []
  | some st =>
    if !st.truthy then .ok []
    else
      match symtab with
      | none => .ok []
      | some (.syms l) =>
        l.foldlM (fun (D : List (Nat × FuncVal)) (e : Option Rec) =>
          match e with
          | none => .error .attribute
          | some sym =>
            if fget sym "st_info" % 16 == ty && fget sym "st_value" != 0 then do
              let nm ← nameLookup st (fget sym "st_name")
              pure (dictSet D (fget sym "st_value") (.sym nm (fget sym "st_size") (fget sym "st_info") (fget sym "st_shndx")))
            else pure D) []
      | some (.strtab _) => .error .attribute
      | some s => if s.truthy then .error .attribute else .ok []

def ISZ_REL32 : Nat := 8
def ISZ_REL64 : Nat := 32

/-- `__dynamic()` given the already-read `.dynsym`/`.dynstr` -/
def dynLoop (t : ElfTables) (data : Bytes) (dynsym : Option Sec) (dynstr : Sec) :
    List Section → Cache → List (Nat × FuncVal) → Py (List (Nat × FuncVal) × Cache)
  | [], c, D => .ok (D, c)
  | s :: rest, c, D =>
    let ty := fget s.hdr "sh_type"
    if ty == SHT_REL || ty == SHT_RELA then
      match readSection t data c s with
      | .error e => .error e
      | .ok (content, c') =>
        let step (D : List (Nat × FuncVal)) (e : Option Rec) : Py (List (Nat × FuncVal)) :=
          match e with
          | none => .error .attribute
          | some r =>
            if r.lookup "r_offset" == none then .error .attribute
            else if fget r "r_offset" != 0 then
              let rsym := fget r "r_info" >>> (if t.x64 then ISZ_REL64 else ISZ_REL32)
              match dynsym with
              | some (.syms l) =>
                if l.isEmpty then .error .index      -- `[]` from `or []`
                else
                  match l[rsym]? with
                  | none => .error .index
                  | some none => .error .attribute
                  | some (some sym) =>
                    match nameLookup dynstr (fget sym "st_name") with
                    | .error e => .error e
                    | .ok nm => .ok (dictSet D (fget r "r_offset") (.dyn nm))
              | none => .error .index
              | some s' => if s'.truthy then .error .attribute else .error .index
            else .ok D
        let entries : Py (List (Option Rec)) :=
          match content with
          | .rels l => .ok l
          | .syms l => .ok l
          | .dyns l => .ok l
          | .strtab _ => .error .attribute
          | .raw d => if d.isEmpty then .ok [] else .error .attribute
        match entries with
        | .error e => .error e
        | .ok l =>
          match l.foldlM step D with
          | .error e => .error e
          | .ok D' => dynLoop t data dynsym dynstr rest c' D'
    else dynLoop t data dynsym dynstr rest c D

/-- `self.functions = self.__functions(); self.variables = self.__variables()` -/
def elfSymbols (t : ElfTables) (data : Bytes) : Py (List (Nat × FuncVal) × List (Nat × FuncVal)) := do
  let c0 : Cache := []
  let (symtab, c1) ← readSectionByName t data c0 [46, 115, 121, 109, 116, 97, 98]      -- ".symtab"
  let (strtab, c2) ← readSectionByName t data c1 [46, 115, 116, 114, 116, 97, 98]      -- ".strtab"
  let D ← symbolsOf symtab strtab STT_FUNC
  let (D2, c5) ← if t.dynamic then do
      let (_, c3) ← readSectionByName t data c2 [46, 100, 121, 110, 97, 109, 105, 99]  -- ".dynamic"
      let (dynsym, c4) ← readSectionByName t data c3 [46, 100, 121, 110, 115, 121, 109] -- ".dynsym"
      let (dynstr, c5) ← readSectionByName t data c4 [46, 100, 121, 110, 115, 116, 114] -- ".dynstr"
      match dynstr with
      | none => pure (D, c5)
      | some ds =>
        if !ds.truthy then pure (D, c5)
        else
          let dsym : Option Sec := match dynsym with
            | some s => if s.truthy then some s else none
            | none => none
          dynLoop t data dsym ds t.shdr c5 D
    else pure (D, c2)
  -- __variables: readsection again (cached)
  let (symtab', c6) ← readSectionByName t data c5 [46, 115, 121, 109, 116, 97, 98]
  let (strtab', _) ← readSectionByName t data c6 [46, 115, 116, 114, 116, 97, 98]
  let V ← symbolsOf symtab' strtab' STT_OBJECT
  pure (D2, V)

/-- body of the constructor (`Elf.__parse` after the repair): exception classes as raised. -/
def elfParseRaw (env : ElfEnv) (data : Bytes) : Py ElfObj := do
  let t ← elfTables env data
  let (f, v) ← elfSymbols t data
  pure { t := t, functions := f, variables := v }

/-- `except (ElfError, StructureError): raise` / `except Exception as e: raise ElfError(…)` -/
def toElfError {α} : Py α → Py α
  | .error .elfError => .error .elfError
  | .error .structureError => .error .structureError
  | .error _ => .error .elfError
  | r => r

/-- `Elf(f)` -/
def elfInit (env : ElfEnv) (data : Bytes) : Py ElfObj := toElfError (elfParseRaw env data)

def ElfObj.entrypoints (o : ElfObj) : List Nat := [fget o.t.ehdr "e_entry"]

/-! ### address queries -/

inductive Where
  | none
  | sec (i : Nat)      -- index into `Shdr`
  | seg (i : Nat)      -- index into `Phdr`
  deriving Repr, DecidableEq, Inhabited

/-- scan `reversed(l)` : returns the highest index whose element satisfies `p`. -/
def findLastIdxAux {α} (p : α → Bool) : List α → Nat → Option Nat → Option Nat
  | [], _, acc => acc
  | x :: xs, i, acc => findLastIdxAux p xs (i + 1) (if p x then some i else acc)

def findLastIdx {α} (p : α → Bool) (l : List α) : Option Nat := findLastIdxAux p l 0 none

/-- `getinfo(addr)` for an integer address: `(s, offset, base)` -/
def getinfo (t : ElfTables) (addr : Nat) : Where × Nat × Nat :=
  if !t.shdr.isEmpty then
    match findLastIdx (fun (s : Section) => fget s.hdr "sh_type" == SHT_PROGBITS &&
        fget s.hdr "sh_addr" ≤ addr && addr < fget s.hdr "sh_addr" + fget s.hdr "sh_size") t.shdr with
    | some i => let s := (t.shdr.getD i default).hdr; (.sec i, addr - fget s "sh_addr", fget s "sh_addr")
    | none => (.none, 0, 0)
  else if !t.phdr.isEmpty then
    match findLastIdx (fun (p : Rec) => fget p "p_type" == PT_LOAD &&
        fget p "p_vaddr" ≤ addr && addr < fget p "p_vaddr" + fget p "p_filesz") t.phdr with
    | some i => let p := t.phdr.getD i []; (.seg i, addr - fget p "p_vaddr", fget p "p_vaddr")
    | none => (.none, 0, 0)
  else (.none, 0, 0)

/-- `getfileoffset(addr)` (repaired: section → `sh_offset`, segment → `p_offset`). -/
def getfileoffset (t : ElfTables) (addr : Nat) : Option Nat :=
  match getinfo t addr with
  | (.none, _, _) => none
  | (.sec i, off, _) => some (fget (t.shdr.getD i default).hdr "sh_offset" + off)
  | (.seg i, off, _) => some (fget (t.phdr.getD i []) "p_offset" + off)

/-- `readsegment(S)` : `read(p_filesz).ljust(p_memsz, b"\0")` -/
def readsegment (data : Bytes) (p : Rec) : Py Bytes := do
  let b ← fileRead data (fget p "p_offset") (fget p "p_filesz")
  if fget p "p_memsz" ≥ pow63 then throw .overflow
  pure (b ++ List.replicate (fget p "p_memsz" - b.length) 0)

/-! ## reference reader (ELF specification) -/

structure RefElf where
  x64 : Bool
  be : Bool
  ident : Rec
  ehdr : Rec
  phdr : List Rec
  shdr : List Rec
  names : List Bytes
  entry : Nat
  deriving Repr, DecidableEq, Inhabited

def refTable (be : Bool) (tbl : List (String × Nat × Nat)) (data : Bytes) (n off stride : Nat) : List Rec :=
  (List.range n).map (fun i => refStruct be [] tbl data (off + i * stride))

/-- Read an ELF image by the book: class and byte order from `e_ident[4..5]`, header fields,
    the `e_phnum` program headers at `e_phoff + i·e_phentsize`, the `e_shnum` section headers at
    `e_shoff + i·e_shentsize`, each section's name = the NUL-terminated string at `sh_name` inside
    section `e_shstrndx`. -/
def refElf (data : Bytes) : RefElf :=
  let x64 := refNat false data 4 1 == 2
  let be := refNat false data 5 1 == 2
  let ident := refStruct false ["ELFMAG", "unused"] specIdent data 0
  let eh := refStruct be [] (specEhdr x64) data 0
  let ph := if fget eh "e_phoff" != 0 then
      refTable be (specPhdr x64) data (fget eh "e_phnum") (fget eh "e_phoff") (fget eh "e_phentsize") else []
  let sh := if fget eh "e_shoff" != 0 then
      refTable be (specShdr x64) data (fget eh "e_shnum") (fget eh "e_shoff") (fget eh "e_shentsize") else []
  let strsec := sh.getD (fget eh "e_shstrndx") []
  let tab := slice data (fget strsec "sh_offset") (fget strsec "sh_size")
  let names := sh.map (fun s => cstrAt tab (fget s "sh_name"))
  { x64 := x64, be := be, ident := ident, ehdr := eh, phdr := ph, shdr := sh, names := names,
    entry := fget eh "e_entry" }

/-! ## `read_program` -/

/-- header-level acceptance of `pe.PE`: DOS header (64 bytes, `MZ`), then `COFFHdr` at
    `e_lfanew` with the `PE\0\0` signature. Everything after that is outside the model. -/
def peHeaderOK (data : Bytes) : Bool :=
  data.length ≥ 64 && slice data 0 2 == [77, 90] &&
  (let o := leVal (slice data 60 4)
   o + 24 ≤ data.length && leVal (slice data o 4) == 0x4550)

/-- header-level acceptance of `macho.MachO`: 28 bytes, magic `MH_MAGIC`, `MH_MAGIC_64` (then 32
    bytes) or `FAT_CIGAM`. -/
def machoHeaderOK (data : Bytes) : Bool :=
  data.length ≥ 28 &&
  (let m := leVal (slice data 0 4)
   m == 0xFEEDFACE || (m == 0xFEEDFACF && data.length ≥ 32) || m == 0xBEBAFECA)

/-- `coff.COFF` has no magic test: the 20-byte `FILEHDR` must be readable. -/
def coffHeaderOK (data : Bytes) : Bool := data.length ≥ 20

/-- what lies beyond the header level for PE / Mach-O / COFF: `true` = the constructor returns,
    `false` = it raises its own error type (that it raises nothing else is the content of the
    wrapper repairs `C20-{pe,macho,coff}-wrap.diff`, observed by the harness). -/
structure Bodies where
  pe : Bytes → Bool
  macho : Bytes → Bool
  coff : Bytes → Bool

inductive Outcome
  | elf (o : ElfObj)
  | pe
  | macho
  | coff
  | hex (h : HexFile)
  | srec (s : SrecFile)
  | raw
  deriving Repr, DecidableEq, Inhabited

def peInit (B : Bodies) (data : Bytes) : Py Unit :=
  if peHeaderOK data then (if B.pe data then .ok () else .error .peError)
  else if data.length ≥ 64 && slice data 0 2 == [77, 90] then .error .structureError else .error .peError

def machoInit (B : Bodies) (data : Bytes) : Py Unit :=
  if machoHeaderOK data then (if B.macho data then .ok () else .error .machoError) else .error .machoError

def coffInit (B : Bodies) (data : Bytes) : Py Unit :=
  if coffHeaderOK data then (if B.coff data then .ok () else .error .coffError) else .error .structureError

/-- one `try: p = F(f); return p / except (A, B): f.seek(0)` link: `caught` lists the classes caught. -/
def tryFormat {α} (r : Py α) (caught : List PyExn) (ok : α → Outcome) (next : Py Outcome) : Py Outcome :=
  match r with
  | .ok a => .ok (ok a)
  | .error e => if caught.contains e then next else .error e

/-- `read_program(bytes)` -/
def readProgram (env : ElfEnv) (B : Bodies) (data : Bytes) : Py Outcome :=
  tryFormat (elfInit env data) [.structureError, .elfError] .elf <|
  tryFormat (peInit B data) [.structureError, .peError] (fun _ => .pe) <|
  tryFormat (machoInit B data) [.structureError, .machoError] (fun _ => .macho) <|
  tryFormat (coffInit B data) [.structureError, .coffError] (fun _ => .coff) <|
  tryFormat (hexInit data) [.hexError] .hex <|
  tryFormat (srecInit data) [.srecError] .srec <|
  .ok .raw

/-- acceptance predicates -/
def accElf (env : ElfEnv) (data : Bytes) : Bool := (elfInit env data).isOk
def accHex (data : Bytes) : Bool := (hexInit data).isOk
def accSrec (data : Bytes) : Bool := (srecInit data).isOk

end Amoco.Fmt
