/-
  Amoco.Model.Expr — the expression type of amoco's computer algebra (`cas/expressions.py`).

  One inductive type for the node classes `cst reg ext slc comp tst op uop ptr mem vec vecw top`,
  carrying exactly the attributes the code branches on.  Core Lean only (linked into the drivers).

  Conventions
  * every node carries `size` (bit width) and `sf` (the in-place "signed" annotation) as fields, because
    the Python code stores them per object and rewrites them freely (`res.sf = self.sf`, …);
  * `cst` holds the masked value `v` (`cst.v`); the signed reading `cst.value` is `Expr.cstValue`;
  * `comp` parts are `(lo, hi, part)` in *dict insertion order* (that order is behaviour: `symbols_of`
    walks `parts.values()`); `smask` is not stored: on well-formed comps it is determined by the parts
    (the K-tie checks this on every comp dumped from the real code);
  * `slc` stores `ety`: what `slc.setref` or-ed into its etype *at construction* (0 nothing, 1 the sliced
    object was a register, 2 an external) — `_is_reg`/`_is_ext` of a slice never change afterwards, even
    when `simplify` replaces `x`;
  * `op`/`uop` store `prop` as computed by the constructor (`type | l.prop | r.prop`);
  * `mem` / `ptr` are carried for the mapper models (C02, C09); the algebra treats them as opaque.
-/
namespace Amoco

/-- operator symbols (`OP_ADD` … `OP_ROL`). -/
inductive Op where
  | add | sub | mul | mul2 | div | mod
  | and | or | xor | not
  | eq | neq | le | ge | geu | lt | ltu | gt
  | lsl | lsr | asr | ror | rol
  deriving DecidableEq, Repr, Inhabited

namespace Op

def symbol : Op → String
  | add => "+" | sub => "-" | mul => "*" | mul2 => "**" | div => "/" | mod => "%"
  | and => "&" | or => "|" | xor => "^" | not => "~"
  | eq => "==" | neq => "!=" | le => "<=" | ge => ">=" | geu => ">=." | lt => "<" | ltu => "<." | gt => ">"
  | lsl => "<<" | lsr => ">>" | asr => ".>>" | ror => ">>>" | rol => "<<<"

def ofSymbol? : String → Option Op
  | "+" => some add | "-" => some sub | "*" => some mul | "**" => some mul2 | "/" => some div | "%" => some mod
  | "&" => some and | "|" => some or | "^" => some xor | "~" => some not
  | "==" => some eq | "!=" => some neq | "<=" => some le | ">=" => some ge | ">=." => some geu | "<" => some lt
  | "<." => some ltu | ">" => some gt
  | "<<" => some lsl | ">>" => some lsr | ".>>" => some asr | ">>>" => some ror | "<<<" => some rol
  | _ => none

/-- `_operator.type`: 1 arithmetic, 2 logic, 4 condition, 8 shift. -/
def type : Op → Nat
  | add | sub | mul | mul2 | div | mod => 1
  | and | or | xor | not => 2
  | eq | neq | le | ge | geu | lt | ltu | gt => 4
  | lsl | lsr | asr | ror | rol => 8

/-- `_operator.unsigned`: calling the operator clears `sf` on both operand objects. -/
def unsignedCall : Op → Bool
  | and | or | xor | not | geu | ltu => true
  | _ => false

/-- `_operator.__mul__`: sign algebra of `+`/`-` (`"++" "--" ↦ +`, `"+-" "-+" ↦ -`). -/
def pm : Op → Op → Option Op
  | add, add => some add
  | sub, sub => some add
  | add, sub => some sub
  | sub, add => some sub
  | _, _ => none

end Op

/-- expressions.  See the file header for conventions. -/
inductive Expr where
  | cst (v size : Nat) (sf : Bool)
  | reg (ref : String) (size : Nat) (sf : Bool)
  | ext (ref : String) (size : Nat) (sf : Bool)
  | slc (x : Expr) (pos size : Nat) (sf : Bool) (ref : Option String) (ety : Nat)
  | comp (size : Nat) (sf : Bool) (parts : List (Nat × Nat × Expr))
  | tst (t l r : Expr) (size : Nat) (sf : Bool)
  | op (o : Op) (l r : Expr) (size : Nat) (sf : Bool) (prop : Nat)
  | uop (o : Op) (r : Expr) (size : Nat) (sf : Bool) (prop : Nat)
  | ptr (base : Expr) (seg : Option Expr) (disp : Int) (size : Nat) (sf : Bool)
  | mem (a : Expr) (size : Nat) (sf : Bool) (bigEndian : Bool) (mods : List (Expr × Expr))
  | vec (l : List Expr) (size : Nat) (sf : Bool)
  | vecw (l : List Expr) (size : Nat) (sf : Bool)
  | top (size : Nat) (sf : Bool)
  deriving Repr, Inhabited

abbrev Part := Nat × Nat × Expr

namespace Expr

/-- `e.size` -/
def size : Expr → Nat
  | cst _ s _ | reg _ s _ | ext _ s _ | slc _ _ s _ _ _ | comp s _ _ | tst _ _ _ s _ | op _ _ _ s _ _
  | uop _ _ s _ _ | ptr _ _ _ s _ | mem _ s _ _ _ | vec _ s _ | vecw _ s _ | top s _ => s

/-- `e.sf` -/
def sf : Expr → Bool
  | cst _ _ f | reg _ _ f | ext _ _ f | slc _ _ _ f _ _ | comp _ f _ | tst _ _ _ _ f | op _ _ _ _ f _
  | uop _ _ _ f _ | ptr _ _ _ _ f | mem _ _ f _ _ | vec _ _ f | vecw _ _ f | top _ f => f

/-- `e.sf = f` (in-place write in the code; functional here). -/
def setSf (f : Bool) : Expr → Expr
  | cst v s _ => cst v s f
  | reg n s _ => reg n s f
  | ext n s _ => ext n s f
  | slc x p s _ r k => slc x p s f r k
  | comp s _ ps => comp s f ps
  | tst t l r s _ => tst t l r s f
  | op o l r s _ p => op o l r s f p
  | uop o r s _ p => uop o r s f p
  | ptr b sg d s _ => ptr b sg d s f
  | mem a s _ en m => mem a s f en m
  | vec l s _ => vec l s f
  | vecw l s _ => vecw l s f
  | top s _ => top s f

@[simp] theorem size_setSf (f : Bool) (e : Expr) : (e.setSf f).size = e.size := by
  cases e <;> rfl

@[simp] theorem sf_setSf (f : Bool) (e : Expr) : (e.setSf f).sf = f := by
  cases e <;> rfl

/-! ### kind predicates (`_is_xxx`, from `etype`) -/

def isCst : Expr → Bool | cst .. => true | _ => false
def isCmp : Expr → Bool | comp .. => true | _ => false
def isSlc : Expr → Bool | slc .. => true | _ => false
def isTst : Expr → Bool | tst .. => true | _ => false
def isEqn : Expr → Bool | op .. => true | uop .. => true | _ => false
def isMem : Expr → Bool | mem .. => true | _ => false
def isPtr : Expr → Bool | ptr .. => true | _ => false
/-- `_is_vec` holds for `vec` and for `vecw` (whose etype keeps the vec bit). -/
def isVec : Expr → Bool | vec .. => true | vecw .. => true | _ => false
/-- `_is_top`: `etype < 0` — `top` and `vecw`. -/
def isTop : Expr → Bool | top .. => true | vecw .. => true | _ => false
/-- `_is_def`: `etype > 0`. -/
def isDef (e : Expr) : Bool := !e.isTop
/-- `_is_reg`: registers, externals, and slices *of* registers/externals (`slc.setref` ors the etype). -/
def isReg : Expr → Bool
  | reg .. => true
  | ext .. => true
  | slc _ _ _ _ _ k => k != 0
  | _ => false
/-- `_is_ext` -/
def isExt : Expr → Bool
  | ext .. => true
  | slc _ _ _ _ _ k => k == 2
  | _ => false

/-- the etype bits a new `slc` of `x` inherits (`slc.setref`). -/
def slcEty : Expr → Nat
  | reg .. => 1
  | ext .. => 2
  | _ => 0

/-- `2^n - 1` -/
def mask (n : Nat) : Nat := 2 ^ n - 1

/-- `cst.value`: the Python integer the constant stands for, taking `sf` into account. -/
def cstValue (v size : Nat) (sf : Bool) : Int :=
  if sf && v.testBit (size - 1) then (v : Int) - (2 ^ size : Nat) else (v : Int)

/-- `cst(x, size)` for a Python integer `x`: `sf = x < 0`, `v = x & mask`. -/
def mkCst (x : Int) (size : Nat) : Expr :=
  cst (x % ((2 ^ size : Nat) : Int)).toNat size (decide (x < 0))

def bit0 : Expr := cst 0 1 false
def bit1 : Expr := cst 1 1 false

/-- `prop` of an operand as seen by the `op`/`uop` constructors. -/
def propOf : Expr → Nat
  | op _ _ _ _ _ p => p
  | uop _ _ _ _ p => p
  | _ => 0

/-! ### well-formedness: what the constructors and `_checkarg_sizes` enforce -/

/-- parts are sorted by position, start at `pos`, are consecutive, and each key's width is its part's size. -/
def partsTile : Nat → List Part → Option Nat
  | pos, [] => some pos
  | pos, (lo, hi, e) :: tl => if lo = pos ∧ lo < hi ∧ e.size = hi - lo then partsTile hi tl else none

/-- insertion of a part into a list sorted by `lo` (stable: after equal keys). -/
def insertPart (p : Part) : List Part → List Part
  | [] => [p]
  | q :: tl => if p.1 < q.1 then p :: q :: tl else q :: insertPart p tl

/-- `sorted(parts.keys(), key=itemgetter(0))` with the values attached (stable insertion sort). -/
def sortParts : List Part → List Part
  | [] => []
  | p :: tl => insertPart p (sortParts tl)

/-- executable `CompWF` checker: sorted by position the parts tile `[0, size)` exactly, each with the width
    of its key (sound for `Tiles`, see `Amoco.C12.compWF_sound`). -/
def compWF (size : Nat) (parts : List Part) : Bool :=
  decide (0 < size) && (partsTile 0 (sortParts parts) == some size)

/-- does the key of part `p` cover bit `b`? -/
def covers (b : Nat) (p : Part) : Bool := decide (p.1 ≤ b) && decide (b < p.2.1)

/-- every part lies inside `[0, n)`, is non-empty, and has the width of its key -/
def Sized (n : Nat) (ps : List Part) : Prop :=
  ∀ p ∈ ps, p.1 < p.2.1 ∧ p.2.1 ≤ n ∧ p.2.2.size = p.2.1 - p.1

/-- the parts are pairwise disjoint (a comp under construction) -/
def Disj (n : Nat) (ps : List Part) : Prop := Sized n ps ∧ ∀ b, ps.countP (covers b) ≤ 1

/-- `CompWF`: the parts tile `[0, size)` exactly — no gap, no overlap, each part as wide as its key.
    (`compWF` above is the executable checker of the same fact, used on dumps of real comps.) -/
def Tiles (n : Nat) (ps : List Part) : Prop := Sized n ps ∧ ∀ b, b < n → ps.countP (covers b) = 1

mutual
/-- `WF e`: sizes agree where the constructors and `_checkarg_sizes` demand it; every `comp` is `CompWF`. -/
def WF : Expr → Prop
  | cst v s _ => 0 < s ∧ v < 2 ^ s
  | reg _ s _ => 0 < s
  | ext _ s _ => 0 < s
  | slc x p s _ _ _ => WF x ∧ 0 < s ∧ p + s ≤ x.size
  | comp s _ ps => 0 < s ∧ Tiles s ps ∧ WFParts ps
  | tst t l r s _ => 0 < s ∧ WF t ∧ WF l ∧ WF r ∧ t.size = 1 ∧ l.size = s ∧ r.size = s
  | op o l r s _ p =>
      0 < s ∧ o.type ≤ p ∧ WF l ∧ WF r ∧
      (if o.type = 4 then s = 1 ∧ l.size = r.size
       else if o.type = 8 then s = l.size
       else l.size = r.size ∧ s = if o = Op.mul2 then 2 * l.size else l.size)
  | uop _ r s _ _ => 0 < s ∧ WF r ∧ s = r.size
  | ptr b sg _ s _ => 0 < s ∧ WF b ∧ WFOpt sg ∧ s = b.size
  | mem a s _ _ ms => WF a ∧ 0 < s ∧ WFMods ms
  | vec l s _ => 0 < s ∧ l ≠ [] ∧ WFList l s
  | vecw l s _ => 0 < s ∧ l ≠ [] ∧ WFList l s
  | top s _ => 0 < s
def WFParts : List Part → Prop
  | [] => True
  | (_, _, e) :: tl => WF e ∧ WFParts tl
def WFOpt : Option Expr → Prop
  | none => True
  | some e => WF e
def WFMods : List (Expr × Expr) → Prop
  | [] => True
  | (a, b) :: tl => WF a ∧ WF b ∧ WFMods tl
def WFList : List Expr → Nat → Prop
  | [], _ => True
  | e :: tl, s => WF e ∧ e.size = s ∧ WFList tl s
end

end Expr
end Amoco
