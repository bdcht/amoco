/-
  Amoco.Model.HexSrec — Intel-HEX and Motorola S-record readers of
  `amoco/system/structs/HEX.py` and `SREC.py`, as coded, in an exception monad.

  * `PyExn`, `Py`       : the Python exception classes the format code can raise, `Except PyExn`;
  * `pyInt`             : CPython's `int(bytes, base)` (whitespace, sign, `0x` prefix, underscores);
  * `unhexlify`         : `codecs.decode(·, "hex")`;
  * `pySlice`           : `l[a:b]` with negative indices;
  * `hexLineSet`        : `HEXline.set` (count / address / type / data / checksum, type specific
                          payloads `base`, `cs:ip`, `ela`, `eip`);
  * `hexInit`, `hexDecode` : `HEX.__init__` and `HEX.decode` (segment / linear address composition);
  * `srecLineSet`, `srecInit` : `SRECline.set`, `SREC.__init__`;
  * `hexPrint`, `srecPrint` : `HEXline.pack`, `SRECline.pack` for in-range records;
  * `hexRefAddrs`       : address composition written from the Intel-HEX specification
                          (the most recent extension record decides).
  Every partial Python operation (`assert`, `int(…)`, `unhexlify`) is explicit.  The model follows
  the code as repaired by `fix: an S-record with a wrong checksum raises SRECError instead of being
  accepted with a warning` and `fix: malformed Intel-HEX records are reported as HEXError` (the type
  specific asserts of `HEXline.set` are inside the `try`).  Core Lean only.
-/
namespace Amoco.Fmt

/-- Python exception classes that the modelled code can raise. -/
inductive PyExn
  | assertion | value | struct | index | zeroDiv | unicode | attribute | type | key | notImpl | overflow
  | hexError | srecError | elfError | structureError | peError | machoError | coffError
  deriving Repr, DecidableEq, Inhabited

abbrev Py := Except PyExn

def PyExn.name : PyExn → String
  | .assertion => "AssertionError" | .value => "ValueError" | .struct => "struct.error"
  | .index => "IndexError" | .zeroDiv => "ZeroDivisionError" | .unicode => "UnicodeDecodeError"
  | .attribute => "AttributeError" | .type => "TypeError" | .key => "KeyError"
  | .notImpl => "NotImplementedError" | .overflow => "OverflowError"
  | .hexError => "HEXError" | .srecError => "SRECError" | .elfError => "ElfError"
  | .structureError => "StructureError" | .peError => "PEError" | .machoError => "MachOError"
  | .coffError => "COFFError"

def pyAssert (b : Bool) : Py Unit := if b then .ok () else .error .assertion

/-! ## Python helpers on byte strings (`List Nat`, every element `< 256`) -/

/-- ASCII whitespace of `bytes.strip()` and of `int()` : space, `\t \n \v \f \r`. -/
def isSpace (c : Nat) : Bool := c == 32 || (9 ≤ c && c ≤ 13)

def lstrip (l : List Nat) : List Nat := l.dropWhile isSpace
def rstrip (l : List Nat) : List Nat := (l.reverse.dropWhile isSpace).reverse
def strip (l : List Nat) : List Nat := rstrip (lstrip l)

/-- normalisation of a slice index against length `n` (`slice.indices`, step 1). -/
def normIdx (n : Nat) (i : Int) : Nat := if i < 0 then (i + n).toNat else min i.toNat n

/-- `l[a:b]` -/
def pySlice {α} (l : List α) (a b : Int) : List α :=
  (l.drop (normIdx l.length a)).take (normIdx l.length b - normIdx l.length a)

/-- `l[a:]` -/
def pySliceFrom {α} (l : List α) (a : Int) : List α := l.drop (normIdx l.length a)

/-- value of a hexadecimal digit character (either case). -/
def hexVal? (c : Nat) : Option Nat :=
  if 48 ≤ c && c ≤ 57 then some (c - 48)
  else if 97 ≤ c && c ≤ 102 then some (c - 87)
  else if 65 ≤ c && c ≤ 70 then some (c - 55)
  else none

/-- `codecs.decode(s, "hex")` = `binascii.unhexlify` : odd length or a non-hex digit is a
    `binascii.Error`, a subclass of `ValueError`. -/
def unhexlify : List Nat → Py (List Nat)
  | [] => .ok []
  | [_] => .error .value
  | a :: b :: t =>
    match hexVal? a, hexVal? b with
    | some x, some y =>
      match unhexlify t with
      | .ok r => .ok ((x * 16 + y) :: r)
      | .error e => .error e
    | _, _ => .error .value

def lowerHex (n : Nat) : Nat := if n < 10 then 48 + n else 87 + n
def upperHex (n : Nat) : Nat := if n < 10 then 48 + n else 55 + n

/-- `codecs.encode(d, "hex")` (lower case). -/
def hexlify : List Nat → List Nat
  | [] => []
  | b :: t => lowerHex (b / 16) :: lowerHex (b % 16) :: hexlify t

/-- `codecs.encode(d, "hex").upper()` -/
def hexlifyUpper : List Nat → List Nat
  | [] => []
  | b :: t => upperHex (b / 16) :: upperHex (b % 16) :: hexlifyUpper t

/-- digit value as used by `int()` : `0-9a-zA-Z` → 0..35. -/
def digitVal? (c : Nat) : Option Nat :=
  if 48 ≤ c && c ≤ 57 then some (c - 48)
  else if 97 ≤ c && c ≤ 122 then some (c - 87)
  else if 65 ≤ c && c ≤ 90 then some (c - 55)
  else none

/-- `long_from_string_base`: digits and single underscores between digits; stops at the first
    other character.  `none` = syntax error (double or trailing underscore). -/
def scanDigits (base : Nat) : List Nat → Nat → Bool → Option (Nat × List Nat)
  | [], acc, prevUs => if prevUs then none else some (acc, [])
  | c :: t, acc, prevUs =>
    if c == 95 then (if prevUs then none else scanDigits base t acc true)
    else
      match digitVal? c with
      | some d =>
        if d < base then scanDigits base t (acc * base + d) false
        else if prevUs then none else some (acc, c :: t)
      | none => if prevUs then none else some (acc, c :: t)

/-- CPython `int(b, base)` for `bytes` input and base 10 or 16 (`PyLong_FromString` +
    `_PyLong_FromBytes`): leading whitespace, optional sign, optional `0x`/`0X` prefix (base 16)
    followed by at most one underscore, digits with single underscores, trailing whitespace,
    nothing else; anything else is a `ValueError`. -/
def pyInt (base : Nat) (s : List Nat) : Py Int :=
  let s1 := lstrip s
  let neg : Bool := s1.head? == some 45
  let s2 : List Nat := if s1.head? == some 45 || s1.head? == some 43 then s1.tail else s1
  let hasPfx : Bool :=
    base == 16 && s2.head? == some 48 && (s2.tail.head? == some 120 || s2.tail.head? == some 88)
  let s3 : List Nat :=
    if hasPfx then (if s2.tail.tail.head? == some 95 then s2.tail.tail.tail else s2.tail.tail) else s2
  if s3.head? == some 95 then .error .value
  else
    match scanDigits base s3 0 false with
    | none => .error .value
    | some (v, rest) =>
      if rest.length == s3.length then .error .value
      else if lstrip rest != [] then .error .value
      else .ok (if neg then - (v : Int) else (v : Int))

/-- `f.readlines()` of a `BytesIO`: split after every `\n`, terminators kept. -/
def readlinesAux : List Nat → List Nat → List (List Nat)
  | [], cur => if cur.isEmpty then [] else [cur.reverse]
  | c :: t, cur => if c == 10 then (c :: cur).reverse :: readlinesAux t [] else readlinesAux t (c :: cur)

def readlines (data : List Nat) : List (List Nat) := readlinesAux data []

def sumBytes : List Nat → Nat
  | [] => 0
  | b :: t => b + sumBytes t

/-- big-endian value of a byte list -/
def beNat : List Nat → Nat → Nat
  | [], acc => acc
  | b :: t, acc => beNat t (acc * 256 + b)

/-! ## Intel HEX -/

inductive HexExt
  | none
  | base (v : Int)
  | csip (cs ip : Int)
  | ela (v : Int)
  | eip (v : Int)
  deriving Repr, DecidableEq, Inhabited

structure HexLine where
  count : Int
  address : Int
  code : Int
  data : List Nat
  cksum : Nat
  ext : HexExt
  deriving Repr, DecidableEq, Inhabited

/-- `-(sum(s) & 0xFF) & 0xFF` -/
def hexCksum (s : List Nat) : Nat := (256 - sumBytes s % 256) % 256

/-- the type specific part of `HEXline.set` -/
def hexExtOf (code count : Int) (data : List Nat) : Py HexExt :=
  let v := hexlify data
  if code == 2 then do
    pyAssert (count == 2)
    let b ← pyInt 16 v
    pure (.base b)
  else if code == 3 then do
    pyAssert (count == 4)
    let cs ← pyInt 16 (pySlice v 0 4)
    let ip ← pyInt 16 (pySliceFrom v 4)
    pure (.csip cs ip)
  else if code == 4 then do
    pyAssert (count == 2)
    let b ← pyInt 16 v
    pure (.ela b)
  else if code == 5 then do
    pyAssert (count == 4)
    let b ← pyInt 16 v
    pure (.eip b)
  else pure .none

/-- body of the `try` block of `HEXline.set` on the stripped line. -/
def hexLineBody (line : List Nat) : Py HexLine := do
  pyAssert (pySlice line 0 1 == [58])
  let count ← pyInt 16 (pySlice line 1 3)
  let address ← pyInt 16 (pySlice line 3 7)
  let code ← pyInt 16 (pySlice line 7 9)
  let c : Int := 9 + 2 * count
  let data ← unhexlify (pySlice line 9 c)
  let s ← unhexlify (pySlice line 1 (-2))
  let ck := hexCksum s
  let last ← pyInt 16 (pySliceFrom line (-2))
  pyAssert ((ck : Int) == last)
  let ext ← hexExtOf code count data
  pure { count := count, address := address, code := code, data := data, cksum := ck, ext := ext }

/-- `except (AssertionError, ValueError): raise HEXError(line)` -/
def toHexError {α} : Py α → Py α
  | .error .assertion => .error .hexError
  | .error .value => .error .hexError
  | r => r

/-- `HEXline(data)` : `self.set(data.strip())`. -/
def hexLineSet (raw : List Nat) : Py HexLine := toHexError (hexLineBody (strip raw))

/-- value of `HEX._entrypoint` : `0`, or the pair `(cs, ip)` of the last start-segment record. -/
inductive HexEntry
  | zero
  | csip (cs ip : Int)
  deriving Repr, DecidableEq, Inhabited

structure HexFile where
  lines : List HexLine
  entry : HexEntry
  eip : Option Int          -- attribute `entrypoint` set by a start-linear record (not in `entrypoints`)
  deriving Repr, DecidableEq, Inhabited

def hexInitLoop : List (List Nat) → HexFile → Py HexFile
  | [], acc => .ok { acc with lines := acc.lines.reverse }
  | raw :: rest, acc =>
    match hexLineSet raw with
    | .error e => .error e
    | .ok l =>
      let acc1 : HexFile :=
        match l.ext with
        | .csip cs ip => if l.code == 3 then { acc with entry := .csip cs ip } else acc
        | .eip v => if l.code == 5 then { acc with eip := some v } else acc
        | _ => acc
      hexInitLoop rest { acc1 with lines := l :: acc1.lines }

/-- `HEX.__init__` on the file content. -/
def hexInit (data : List Nat) : Py HexFile :=
  hexInitLoop (readlines data) { lines := [], entry := .zero, eip := none }

/-- `HEX.decode` : the `(address, data)` list in file order.  One running base, set by type 02 to
    `base·16` and by type 04 to `ela·65536` (before `fix: HEX.decode lets the most recent extended
    address record give the base` the code kept both and preferred a non-zero linear base). -/
def hexDecodeLoop : List HexLine → Int → List (Int × List Nat)
  | [], _ => []
  | l :: rest, base =>
    if l.code == 2 then
      hexDecodeLoop rest (match l.ext with | .base b => b * 16 | _ => base)
    else if l.code == 4 then
      hexDecodeLoop rest (match l.ext with | .ela b => b * 65536 | _ => base)
    else if l.code == 0 then
      (base + l.address, l.data) :: hexDecodeLoop rest base
    else hexDecodeLoop rest base

def hexDecode (ls : List HexLine) : List (Int × List Nat) := hexDecodeLoop ls 0

/-- Reference (Intel HEX specification, rev. A): a type 04 record sets the upper linear base
    address and switches to linear addressing, a type 02 record sets the segment base and switches
    to segmented addressing; data bytes go to `base + offset`. -/
inductive HexMode
  | plain
  | seg (b : Int)
  | lin (b : Int)
  deriving Repr, DecidableEq, Inhabited

def hexRefLoop : List HexLine → HexMode → List (Int × List Nat)
  | [], _ => []
  | l :: rest, m =>
    if l.code == 2 then hexRefLoop rest (match l.ext with | .base b => .seg b | _ => m)
    else if l.code == 4 then hexRefLoop rest (match l.ext with | .ela b => .lin b | _ => m)
    else if l.code == 0 then
      let a : Int := match m with
        | .plain => l.address
        | .seg b => b * 16 + l.address
        | .lin b => b * 65536 + l.address
      (a, l.data) :: hexRefLoop rest m
    else hexRefLoop rest m

def hexRefAddrs (ls : List HexLine) : List (Int × List Nat) := hexRefLoop ls .plain

/-- the running base of `HEX.decode` that corresponds to a mode of the reference -/
def HexMode.base : HexMode → Int
  | .plain => 0
  | .seg b => b * 16
  | .lin b => b * 65536

/-! ### printing (`HEXline.pack`) of in-range records -/

/-- `w` upper-case hexadecimal digits of `n` (most significant first) — `b"%0wX" % n` for `n < 16^w`. -/
def hexDigits : Nat → Nat → List Nat
  | 0, _ => []
  | w + 1, n => hexDigits w (n / 16) ++ [upperHex (n % 16)]

structure HexRec where
  count : Nat
  address : Nat
  code : Nat
  data : List Nat
  deriving Repr, DecidableEq, Inhabited

/-- bytes covered by the checksum: count, address (big endian), type, data. -/
def HexRec.bytes (r : HexRec) : List Nat :=
  r.count :: (r.address / 256) :: (r.address % 256) :: r.code :: r.data

def HexRec.cksum (r : HexRec) : Nat := hexCksum r.bytes

/-- `HEXline.pack` with checksum byte `ck`. -/
def hexPrint (r : HexRec) (ck : Nat) : List Nat :=
  58 :: (hexDigits 2 r.count ++ (hexDigits 4 r.address ++ (hexDigits 2 r.code ++
    (hexlifyUpper r.data ++ hexDigits 2 ck))))

/-- what a record means once parsed. -/
def HexRec.ext (r : HexRec) : HexExt :=
  if r.code = 2 then .base (beNat r.data 0)
  else if r.code = 3 then .csip (beNat (r.data.take 2) 0) (beNat (r.data.drop 2) 0)
  else if r.code = 4 then .ela (beNat r.data 0)
  else if r.code = 5 then .eip (beNat r.data 0)
  else .none

def HexRec.toLine (r : HexRec) : HexLine :=
  { count := r.count, address := r.address, code := r.code, data := r.data, cksum := r.cksum, ext := r.ext }

/-- a record as the Intel HEX format defines it. -/
def HexRec.WF (r : HexRec) : Prop :=
  r.count = r.data.length ∧ r.count < 256 ∧ r.address < 65536 ∧ r.code < 256 ∧
  (∀ b ∈ r.data, b < 256) ∧
  (r.code = 2 → r.count = 2) ∧ (r.code = 3 → r.count = 4) ∧
  (r.code = 4 → r.count = 2) ∧ (r.code = 5 → r.count = 4)

/-! ## Motorola S-records -/

structure SrecLine where
  type : Int
  count : Int
  address : Int
  data : List Nat
  cksum : Nat
  deriving Repr, DecidableEq, Inhabited

/-- the `size` property: number of hex digits of the address field. -/
def srecSize (ty count : Int) : Int :=
  let l : Int := match ty with
    | 0 => 4 | 1 => 4 | 2 => 6 | 3 => 8 | 4 => 0 | 5 => 4 | 6 => 6 | 7 => 8 | 8 => 6 | 9 => 4
    | _ => 0
  if ty == 5 || ty == 6 then
    let r := 2 * count
    if r - 2 != l then r - 2 else l
  else l

/-- `(sum(s) & 0xFF) ^ 0xFF` -/
def srecCksum (s : List Nat) : Nat := 255 - sumBytes s % 256

def srecLineBody (line : List Nat) : Py SrecLine := do
  pyAssert (pySlice line 0 1 == [83])
  let ty ← pyInt 10 (pySlice line 1 2)
  let count ← pyInt 16 (pySlice line 2 4)
  let l := srecSize ty count
  let address ← pyInt 16 (pySlice line 4 (4 + l))
  let data ← unhexlify (pySlice line (4 + l) (-2))
  -- `assert self.count == (l / 2) + len(self.data) + 1`  (l is always even)
  pyAssert (2 * count == l + 2 * (data.length : Int) + 2)
  let s ← unhexlify (pySlice line 2 (-2))
  let ck := srecCksum s
  let last ← pyInt 16 (pySliceFrom line (-2))
  if (ck : Int) != last then throw .srecError
  pure { type := ty, count := count, address := address, data := data, cksum := ck }

def toSrecError {α} : Py α → Py α
  | .error .assertion => .error .srecError
  | .error .value => .error .srecError
  | r => r

def srecLineSet (raw : List Nat) : Py SrecLine := toSrecError (srecLineBody (strip raw))

structure SrecFile where
  lines : List SrecLine
  name : Option (List Nat)      -- data of the last header record
  entry : Option Int            -- attribute `entrypoint` set by a non-zero start record
  deriving Repr, DecidableEq, Inhabited

def srecInitLoop : List (List Nat) → SrecFile → Py SrecFile
  | [], acc => .ok { acc with lines := acc.lines.reverse }
  | raw :: rest, acc =>
    if strip raw == [] then srecInitLoop rest acc
    else
      match srecLineSet raw with
      | .error e => .error e
      | .ok l =>
        let acc1 : SrecFile :=
          if l.type == 0 then { acc with name := some l.data }
          else if l.type == 7 || l.type == 8 || l.type == 9 then
            (if l.address != 0 then { acc with entry := some l.address } else acc)
          else acc
        srecInitLoop rest { acc1 with lines := l :: acc1.lines }

/-- `SREC.__init__` -/
def srecInit (data : List Nat) : Py SrecFile :=
  srecInitLoop (readlines data) { lines := [], name := none, entry := none }

/-- `(address, data)` of the data records (`SREC.decode` / `load_binary`). -/
def srecDecode (ls : List SrecLine) : List (Int × List Nat) :=
  (ls.filter (fun l => l.type == 1 || l.type == 2 || l.type == 3)).map (fun l => (l.address, l.data))

structure SrecRec where
  type : Nat
  address : Nat
  data : List Nat
  deriving Repr, DecidableEq, Inhabited

/-- number of address bytes of a record type (S-record definition). For the count records S5/S6
    the reader takes whatever the byte count leaves (`2·count − 2` digits); 2 resp. 3 bytes is the
    standard form. -/
def srecAddrBytes : Nat → Nat
  | 0 => 2 | 1 => 2 | 2 => 3 | 3 => 4 | 5 => 2 | 6 => 3 | 7 => 4 | 8 => 3 | 9 => 2
  | _ => 0

def SrecRec.count (r : SrecRec) : Nat := srecAddrBytes r.type + r.data.length + 1

/-- big-endian bytes of `n`, `k` of them -/
def beBytes : Nat → Nat → List Nat
  | 0, _ => []
  | k + 1, n => beBytes k (n / 256) ++ [n % 256]

def SrecRec.bytes (r : SrecRec) : List Nat :=
  r.count :: (beBytes (srecAddrBytes r.type) r.address ++ r.data)

def SrecRec.cksum (r : SrecRec) : Nat := srecCksum r.bytes

/-- `SRECline.pack` with checksum byte `ck` -/
def srecPrint (r : SrecRec) (ck : Nat) : List Nat :=
  83 :: (48 + r.type) :: (hexDigits 2 r.count ++ (hexDigits (2 * srecAddrBytes r.type) r.address ++
    (hexlifyUpper r.data ++ hexDigits 2 ck)))

def SrecRec.toLine (r : SrecRec) : SrecLine :=
  { type := r.type, count := r.count, address := r.address, data := r.data, cksum := r.cksum }

def SrecRec.WF (r : SrecRec) : Prop :=
  r.type < 10 ∧ r.type ≠ 4 ∧ r.count < 256 ∧ r.address < 256 ^ srecAddrBytes r.type ∧
  (∀ b ∈ r.data, b < 256) ∧ ((r.type = 5 ∨ r.type = 6) → r.data = [])

end Amoco.Fmt
