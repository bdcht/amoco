/-
  Amoco.Model.Loader — how a program file becomes a memory image
  (`amoco/system/elf.py` `Elf.loadsegment`, the `OS.load_elf_binary` / `load_elf_interp` loops of
  `amoco/system/linux32/*.py`, `linux64/x64.py`, `baremetal/{leon2,riscv,tricore}.py`,
  `pe.py` `PE.loadsegment` + `win32/x86.py` / `win64/x64.py`, `osx/x64.py` `load_macho_binary`,
  `raw.py` `RawExec.auto_load`, `structs/HEX.py` / `SREC.py` `load_binary`, and
  `core.py` `CoreExec.read_instruction`'s fetch window).

  A loader is a *list of writes* into the concrete zone of the task's `MemoryMap`
  (`p.state.mmap.write(int, bytes | ext)` → zone `None`, endian `1`); the zone is the C08 model
  (`Amoco.Memory.Zone`), so the image is `(writesZone ws).abs`.

  Everything is on Python integers (unbounded): `v & (ps-1)`, `v & ~(ps-1)` are modelled for *every*
  page size `ps ≥ 1`, not only powers of two (`v & ~m = v - (v & m)` for non-negative `v`, `m`).

  The ELF part follows `Elf.loadsegment` as repaired by `fix: Elf.loadsegment zero-fills the part of a
  segment beyond its file-backed bytes` (bytes beyond `p_filesz` are zero up to the page end of
  `p_memsz`), the PE part follows `PE.loadsegment` as repaired by `fix: PE sections with VirtualSize >
  SizeOfRawData are padded with zero bytes, not spaces` (`ljust(VirtualSize, b"\0")` instead of the
  default fill character, a space).  `Fix.none` gives the code without these repairs (used by the
  driver to show what it computed before them).

  Core Lean only.
-/
import Amoco.Model.Memory

namespace Amoco.Loader

open Amoco.Memory

abbrev Bytes := List Nat

/-- one write `(address, value, endian)` (the same type as `Amoco.Memory.WriteOp` of the C08 proofs). -/
abbrev WriteOp := Int × Val × Endian

/-! ## Python helpers -/

/-- `f.seek(off); f.read(n)` on a file object (`off ≥ 0`): short at end of file. -/
def fileRead (file : Bytes) (off n : Nat) : Bytes := (file.drop off).take n

/-- `bytes.ljust(n, fill)`. -/
def ljust (bs : Bytes) (n : Nat) (fill : Nat) : Bytes := bs ++ List.replicate (n - bs.length) fill

def zeros (n : Nat) : Bytes := List.replicate n 0

/-- `ELF_PAGEOFFSET = lambda v: v & (pagesize-1)` -/
def pageOffset (ps v : Nat) : Nat := v &&& (ps - 1)

/-- `ELF_PAGESTART = lambda v: v & ~(pagesize-1)`  (`= v - (v & (pagesize-1))` on non-negative ints). -/
def pageStart (ps v : Nat) : Nat := v - (v &&& (ps - 1))

/-- `ELF_PAGEALIGN = lambda v: (v+pagesize-1) & ~(pagesize-1)` -/
def pageAlign (ps v : Nat) : Nat := pageStart ps (v + ps - 1)

/-- whether the modelled code contains the repairs named in the header. -/
inductive Fix | none | repaired
  deriving Repr, DecidableEq, Inhabited

/-! ## ELF -/

def PT_LOAD : Nat := 1
def PT_INTERP : Nat := 3

/-- a program header as kept in `Elf.Phdr` (table order). -/
structure Phdr where
  ptype : Nat
  offset : Nat
  vaddr : Nat
  filesz : Nat
  memsz : Nat
  deriving Repr, DecidableEq, Inhabited

/-- `seek(off)` with `off = p_offset - PAGEOFFSET(p_vaddr) < 0` raises `ValueError` (the loader then
    fails and `load_program` returns `None`). -/
def Phdr.seekOk (ps : Nat) (s : Phdr) : Bool := decide (pageOffset ps s.vaddr ≤ s.offset)

/-- the bytes `Elf.loadsegment(S, pagesize)` returns for a `PT_LOAD` (the value of `{base: bytes_}`). -/
def segBytes (fx : Fix) (file : Bytes) (ps : Nat) (s : Phdr) : Bytes :=
  let po := pageOffset ps s.vaddr
  let size := pageAlign ps (s.filesz + po)
  let off := s.offset - po
  let b := fileRead file off size
  match fx with
  | .none => b
  | .repaired =>
    if s.memsz > s.filesz then ljust (b.take (po + s.filesz)) (pageAlign ps (po + s.memsz)) 0 else b

/-- the key of `{base: bytes_}`. -/
def segBase (ps : Nat) (s : Phdr) : Nat := pageStart ps s.vaddr

def rawWrite (a : Nat) (bs : Bytes) : WriteOp := ((a : Int), .raw bs, .little)

def segWrite (fx : Fix) (file : Bytes) (ps : Nat) (s : Phdr) : WriteOp :=
  rawWrite (segBase ps s) (segBytes fx file ps s)

def Phdr.isLoad (s : Phdr) : Bool := s.ptype == PT_LOAD

def loads (phdrs : List Phdr) : List Phdr := phdrs.filter Phdr.isLoad

/-- `for s in bprm.Phdr: … elif s.p_type == PT_LOAD: … p.state.mmap.write(vaddr, data)` -/
def segWrites (fx : Fix) (file : Bytes) (ps : Nat) (phdrs : List Phdr) : List WriteOp :=
  (loads phdrs).map (segWrite fx file ps)

/-- `interp = bprm.readsegment(s).strip(b"\0")` of the last `PT_INTERP` is non-empty
    (`readsegment` = `read(p_filesz).ljust(p_memsz, b"\0")`). -/
def interpNonEmpty (file : Bytes) (phdrs : List Phdr) : Bool :=
  match (phdrs.filter (fun s => s.ptype == PT_INTERP)).getLast? with
  | none => false
  | some s => (fileRead file s.offset s.filesz).any (· != 0)

/-- `Elf.dynamic` -/
def isDynamic (phdrs : List Phdr) : Bool := phdrs.any (fun s => s.ptype == PT_INTERP)

/-- a dynamic relocation `(r_offset, symbol)`; the symbol name is represented by an atom number. -/
abbrev Reloc := Nat × Nat

/-- `D[r.r_offset] = name` for every relocation in turn: a Python dict keeps the position of the
    first insertion of a key and the value of the last. -/
def dictSet (d : List Reloc) (r : Reloc) : List Reloc :=
  if d.any (fun e => e.1 == r.1) then d.map (fun e => if e.1 == r.1 then (e.1, r.2) else e) else d ++ [r]

def relocDict (rs : List Reloc) : List Reloc := rs.foldl dictSet []

/-- the bytes of `cpu.ext(name, size=8*n)` in value order: byte `k` of atom `sym`. -/
def extVal (sym n : Nat) : Val := .ex ((List.range n).map (fun k => ByteDesc.sym sym k))

/-- `p.state.mmap.write(k, xf)` -/
def slotWrite (n : Nat) (r : Reloc) : WriteOp := ((r.1 : Int), extVal r.2 n, .little)

def slotWrites (n : Nat) (d : List Reloc) : List WriteOp := d.map (slotWrite n)

/-- configuration of an OS loader: page size (`conf.System.pagesize`), pointer size in bytes,
    top of the address space used for the stack (`0x7FFFFFFF` / `0x00007FFFFFFFFFFF`), `aslr`. -/
structure Cfg where
  ps : Nat
  ptr : Nat
  top : Nat
  aslr : Bool
  /-- bare-metal loaders map no stack and bind no symbol. -/
  bare : Bool
  /-- `linux32/arm.py` `Task.setx(pc_, entry)`: an odd entry point selects Thumb state and the program
      counter is the entry point with bit 0 cleared (`v = (v >> 1) << 1`). -/
  thumb : Bool
  deriving Repr, DecidableEq, Inhabited

/-- `stack_base = top & ~(PAGESIZE-1)` -/
def stackBase (c : Cfg) : Nat := pageStart c.ps c.top
def stackSize (c : Cfg) : Nat := 2 * c.ps
def stackLo (c : Cfg) : Nat := stackBase c - stackSize c

/-- `p.state.mmap.write(stack_base - stack_size, b"\0" * stack_size)`; a negative address does not
    occur for the page sizes the stack fits under `top`. -/
def stackWrites (c : Cfg) : List WriteOp :=
  if c.aslr || c.bare then [] else [(((stackBase c : Int) - (stackSize c : Int)), .raw (zeros (stackSize c)), .little)]

structure ElfImage where
  file : Bytes
  phdrs : List Phdr
  entry : Nat
  /-- relocation entries with `r_offset ≠ 0` of all `SHT_REL`/`SHT_RELA` sections, in section and
      entry order (read when `.dynstr` exists). -/
  relocs : List Reloc
  deriving Repr, Inhabited

/-- are the relocation slots bound (`if bprm.dynamic and interp: self.load_elf_interp(p)`)? -/
def bindsSymbols (c : Cfg) (img : ElfImage) : Bool :=
  !c.bare && isDynamic img.phdrs && interpNonEmpty img.file img.phdrs

def elfSlots (c : Cfg) (img : ElfImage) : List Reloc :=
  if bindsSymbols c img then relocDict img.relocs else []

/-- every write of `load_elf_binary`, oldest first. -/
def elfWrites (fx : Fix) (c : Cfg) (img : ElfImage) : List WriteOp :=
  segWrites fx img.file c.ps img.phdrs ++ stackWrites c ++ slotWrites c.ptr (elfSlots c img)

/-- the loaded task: memory zone and program counter. -/
structure Task where
  zone : Zone
  pc : Nat
  deriving Repr, Inhabited

/-- `p.state[pc] = cst(e_entry, 8*ptr)` (ARM: bit 0 cleared). -/
def entryPc (c : Cfg) (entry : Nat) : Nat :=
  let v := entry % 2 ^ (8 * c.ptr)
  if c.thumb then v / 2 * 2 else v

/-- `OS.load_elf_binary(bprm)`; `none`: an exception escapes (negative `seek`) and `load_program`
    yields no task. -/
def loadElf (fx : Fix) (c : Cfg) (img : ElfImage) : Option Task :=
  if (loads img.phdrs).all (Phdr.seekOk c.ps) then
    some ⟨writesZone (elfWrites fx c img), entryPc c img.entry⟩
  else none

/-! ## what a kernel accepts -/

/-- one `PT_LOAD` as the loader accepts it: the in-page offset of the address does not exceed the file
    offset (`p_vaddr & (ps-1) ≤ p_offset`, otherwise `seek` gets a negative position) — in particular every
    segment whose offset and address agree modulo the page (`SegCongruent`, what a linker produces), but also
    unaligned segments (`p_align` 0/1) —, `filesz ≤ memsz`, not empty, file part inside the file. -/
def SegOK (file : Bytes) (ps : Nat) (s : Phdr) : Prop :=
  pageOffset ps s.vaddr ≤ s.offset ∧ s.filesz ≤ s.memsz ∧ 0 < s.memsz ∧
  s.offset + s.filesz ≤ file.length

/-- `p_offset & (ps-1) = p_vaddr & (ps-1)`; for a power of two `p_offset ≡ p_vaddr (mod ps)`. -/
def SegCongruent (ps : Nat) (s : Phdr) : Prop := pageOffset ps s.offset = pageOffset ps s.vaddr

/-- an earlier segment `s` and a later one `t`: ordered and disjoint in memory, and the page-rounded
    mapping of `t` either starts behind `s`, or shows the same file bytes as `s` does (same
    address-to-offset delta) and `s` has no zero-filled part on that page. -/
def NoClobber (ps : Nat) (s t : Phdr) : Prop :=
  s.vaddr + s.memsz ≤ t.vaddr ∧
  (s.vaddr + s.memsz ≤ pageStart ps t.vaddr ∨
   (t.offset + s.vaddr = s.offset + t.vaddr ∧ s.memsz = s.filesz))

/-- the stack pages lie apart from every segment (or no stack is mapped). -/
def StackApart (c : Cfg) (ls : List Phdr) : Prop :=
  c.aslr = true ∨ c.bare = true ∨
  (stackSize c ≤ stackBase c ∧ ∀ s ∈ ls, s.vaddr + s.memsz ≤ stackLo c ∨ stackBase c ≤ s.vaddr)

/-- an image a kernel would map as the file says. -/
def LoadableOK (c : Cfg) (img : ElfImage) : Prop :=
  0 < c.ps ∧ 0 < c.ptr ∧ img.entry < 2 ^ (8 * c.ptr) ∧
  (∀ s ∈ loads img.phdrs, SegOK img.file c.ps s) ∧
  (loads img.phdrs).Pairwise (NoClobber c.ps) ∧
  StackApart c (loads img.phdrs)

instance (file : Bytes) (ps : Nat) (s : Phdr) : Decidable (SegOK file ps s) := by
  unfold SegOK; infer_instance
instance (ps : Nat) (s : Phdr) : Decidable (SegCongruent ps s) := by
  unfold SegCongruent; infer_instance
instance (ps : Nat) (s t : Phdr) : Decidable (NoClobber ps s t) := by
  unfold NoClobber; infer_instance
instance (c : Cfg) (ls : List Phdr) : Decidable (StackApart c ls) := by
  unfold StackApart; infer_instance
instance (c : Cfg) (img : ElfImage) : Decidable (LoadableOK c img) := by
  unfold LoadableOK; infer_instance

/-- an address lies in no relocation slot. -/
def notInSlots (n : Nat) (slots : List Reloc) (a : Nat) : Prop :=
  ∀ r ∈ slots, a < r.1 ∨ r.1 + n ≤ a

instance (n : Nat) (slots : List Reloc) (a : Nat) : Decidable (notInSlots n slots a) := by
  unfold notInSlots; infer_instance

/-! ## instruction fetch -/

/-- the bytes of the leading `bytes` items of a read result, joined. -/
def joinRaw : List Item → Bytes
  | .data (.raw bs) _ :: rest => bs ++ joinRaw rest
  | _ => []

/-- `CoreExec.read_instruction`: `istr = mmap.read(vaddr, maxlen)`; when `istr[0]` is a `bytes` object
    the disassembler is handed `istr[0]` joined with the `bytes` items that directly follow it (since
    `fix: read_instruction hands the disassembler the bytes of all adjacent raw memory objects in the
    fetch window`; before, `istr[0]` alone: `Fix.none`); otherwise `istr[0]` decides (an `ext` is returned as a stub, anything
    else gives `None`). -/
def fetch (fx : Fix) (z : Zone) (a : Int) (maxlen : Nat) : Option Item :=
  match z.read a maxlen with
  | [] => none
  | .data (.raw bs) en :: rest =>
    (match fx with
     | .none => some (.data (.raw bs) en)
     | .repaired => some (.data (.raw (bs ++ joinRaw rest)) en))
  | it :: _ => some it

/-! ## PE -/

structure PeSection where
  rva : Nat
  vsize : Nat
  rawptr : Nat
  rawsize : Nat
  /-- `Characteristics == IMAGE_SCN_LNK_REMOVE` (the loader raises on such a section) -/
  removed : Bool
  deriving Repr, DecidableEq, Inhabited

/-- `PE.loadsegment(S, pagesize)` bytes: `data[sta:sto].ljust(VirtualSize).ljust(pagesize, b"\0")`. -/
def peBytes (fx : Fix) (file : Bytes) (salign : Nat) (s : PeSection) : Bytes :=
  let b := fileRead file s.rawptr s.rawsize
  let b := ljust b s.vsize (match fx with | .none => 0x20 | .repaired => 0)
  if salign ≠ 0 then ljust b salign 0 else b

structure PeImage where
  file : Bytes
  base : Nat
  salign : Nat
  sections : List PeSection
  entryRva : Nat
  stackReserve : Nat
  /-- `pe.functions` : import-address-table slots in dict order. -/
  iat : List Reloc
  deriving Repr, Inhabited

def peSectionWrites (fx : Fix) (img : PeImage) : List WriteOp :=
  img.sections.map (fun s => rawWrite (img.base + s.rva) (peBytes fx img.file img.salign s))

def peStackWrites (c : Cfg) (img : PeImage) : List WriteOp :=
  if c.aslr then [] else
    [(((stackBase c : Int) - (img.stackReserve : Int)), .raw (zeros img.stackReserve), .little)]

def peWrites (fx : Fix) (c : Cfg) (img : PeImage) : List WriteOp :=
  peSectionWrites fx img ++ peStackWrites c img ++ slotWrites c.ptr (relocDict img.iat)

/-- `OS.load_pe_binary(pe)`.  A section whose `Characteristics` equal `IMAGE_SCN_LNK_REMOVE` makes
    `PE.loadsegment` compare the section header with `0` (`elif S == 0`), which raises: no task. -/
def loadPe (fx : Fix) (c : Cfg) (img : PeImage) : Option Task :=
  if img.sections.any (·.removed) then none
  else some ⟨writesZone (peWrites fx c img), (img.entryRva + img.base) % 2 ^ (8 * c.ptr)⟩

/-! ## Mach-O (`osx/x64.py`) -/

structure MachSeg where
  vmaddr : Nat
  vmsize : Nat
  fileoff : Nat
  filesize : Nat
  /-- `segname.startswith(b"__PAGEZERO\0")` -/
  pagezero : Bool
  deriving Repr, DecidableEq, Inhabited

/-- `bprm.readsegment(s).ljust(s.vmsize, b"\0")` -/
def machBytes (file : Bytes) (s : MachSeg) : Bytes := ljust (fileRead file s.fileoff s.filesize) s.vmsize 0

def machSegWrites (file : Bytes) (segs : List MachSeg) : List WriteOp :=
  (segs.filter (fun s => !s.pagezero)).map (fun s => rawWrite s.vmaddr (machBytes file s))

structure MachImage where
  file : Bytes
  segs : List MachSeg
  /-- `(stack_size)` when a stack is created (`LC_UNIXTHREAD`: 2 pages; `LC_MAIN` with `stacksize`). -/
  stack : Option Nat
  /-- `la_symbol_ptr` slots when `dynamic and interp`. -/
  slots : List Reloc
  entry : Nat
  deriving Repr, Inhabited

def machWrites (c : Cfg) (img : MachImage) : List WriteOp :=
  machSegWrites img.file img.segs ++
  (match img.stack with
   | some sz => if c.aslr then [] else [(((stackBase c : Int) - (sz : Int)), .raw (zeros sz), .little)]
   | none => []) ++
  slotWrites c.ptr (relocDict img.slots)

def loadMach (c : Cfg) (img : MachImage) : Task :=
  ⟨writesZone (machWrites c img), img.entry % 2 ^ (8 * c.ptr)⟩

/-! ## raw / HEX / SREC (`RawExec.auto_load`) -/

/-- a data record `(address, bytes)` of a HEX / SREC file, or the whole file at 0 for raw input. -/
abbrev Record := Nat × Bytes

def recordWrites (rs : List Record) : List WriteOp := rs.map (fun r => rawWrite r.1 r.2)

/-- `self.state[pc] = cst(entry, pc.size)` -/
def loadRecords (rs : List Record) (entry pcbits : Nat) : Task :=
  ⟨writesZone (recordWrites rs), entry % 2 ^ pcbits⟩

/-- `RawExec.relocate(vaddr)`: every object of the concrete zone is moved by `vaddr - zone.range()[0]`,
    `restruct()` rebuilds the cache (and merges adjacent raw objects), `pc := vaddr`. -/
def relocate (t : Task) (vaddr pcbits : Nat) : Task :=
  ⟨(t.zone.shift ((vaddr : Int) - t.zone.range.1)).restruct, vaddr % 2 ^ pcbits⟩

/-- Intel-HEX address composition of `HEX.decode` as it was before `fix: HEX.decode lets the most recent
    extended address record give the base` (`if ela: (ela<<16)+a elif seg: seg*16+a else a`); the present
    code is `Amoco.Fmt.hexDecode` (Model/HexSrec.lean). -/
def hexAddress (ela seg a : Nat) : Nat :=
  if ela ≠ 0 then ela * 65536 + a else if seg ≠ 0 then seg * 16 + a else a

end Amoco.Loader
