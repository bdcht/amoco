/-
  Amoco.Model.Memory — the abstract memory of `amoco/system/memory.py`
  (`datadiv`, `mergeparts`, `mo`, `MemoryZone`, `MemoryMap`), together with the part of
  `amoco/cas/expressions.py` it relies on (`exp.bytes`, `cst.to_bytes`, `exp.length`).

  Values stored in memory are either raw byte strings or expressions.  The only things the memory
  code ever does with an expression are: ask its byte length, ask whether it is a constant
  (`_is_cst`, then `to_bytes(endian)`), and take the endian-aware byte slice `bytes(sta,sto,endian)`.
  An expression is therefore modelled by what these observe: the list of its bytes **in value
  order** (least significant byte first), each byte being a concrete byte (a byte of a `cst` part)
  or `sym w k` = bits `[8k, 8k+8)` of the symbolic atom (register) `w`.  `reg`, `slc` of a register,
  byte-aligned `comp` of such parts and `cst` all have exactly one such description, and
  `exp.bytes` is list slicing on it.

  The model is total: where the Python code would raise (`ValueError('invalid slice')` for an empty
  `exp.bytes`, `IndexError`, failed `assert`) the model returns the degenerate value named in the
  comment of that definition.  None of these paths is meant to be reachable from a well-formed zone
  and a non-empty write (`Props/C08.lean` proves that `Zone.WF` is preserved; that the degenerate
  values are then never produced is not stated as a theorem).

  Core Lean only.
-/
namespace Amoco.Memory

/-! ## Values -/

/-- `endian = 1` (little) / `endian = -1` (big). -/
inductive Endian | little | big
  deriving Repr, DecidableEq, Inhabited

/-- one byte of content. -/
inductive ByteDesc
  | raw (b : Nat)               -- a concrete byte
  | sym (w : Nat) (k : Nat)     -- bits [8k, 8k+8) of symbolic atom (register) `w`
  deriving Repr, DecidableEq, Inhabited

def ByteDesc.isRaw : ByteDesc → Bool
  | .raw _ => true
  | .sym _ _ => false

def ByteDesc.rawVal : ByteDesc → Nat
  | .raw b => b
  | .sym _ _ => 0

/-- an expression of `8 * length` bits, as its bytes in value order (LSB first). -/
abbrev Ex := List ByteDesc

namespace Ex

/-- `_is_cst`: every part is a constant (a byte-aligned `comp` of constants is folded into one
    `cst` by `comp.restruct`, a slice of a `cst` is a `cst`). -/
def isCst (e : Ex) : Bool := e.all ByteDesc.isRaw

/-- `cst.to_bytes(endian)` : `bytes(s[::endian])` with `s` the little-endian byte list. -/
def toBytes (e : Ex) (en : Endian) : List Nat :=
  let s := e.map ByteDesc.rawVal
  match en with
  | .little => s
  | .big => s.reverse

/-- `exp.bytes(sta, sto, endian)` for non-negative bounds (`sto = none` is Python's `None`):
    `slice(sta,sto).indices(l)`, mirrored for big endian, then the bit slice `self[sta*8:sto*8]`.
    An empty result stands for the `ValueError` of `_checkarg_slice` (`stop <= start`). -/
def bytes (e : Ex) (sta : Nat) (sto : Option Nat) (en : Endian) : Ex :=
  let l := e.length
  let a := min sta l
  let b := match sto with
    | none => l
    | some s => min s l
  match en with
  | .little => (e.drop a).take (b - a)
  | .big => (e.drop (l - b)).take ((l - a) - (l - b))

end Ex

/-- what a `datadiv` holds in `.val`: a `bytes` object or an expression. -/
inductive Val
  | raw (bs : List Nat)
  | ex (e : Ex)
  deriving Repr, DecidableEq, Inhabited

def Val.len : Val → Nat
  | .raw bs => bs.length
  | .ex e => e.length

def Val.isRaw : Val → Bool
  | .raw _ => true
  | .ex _ => false

/-! ## datadiv -/

structure DD where
  val : Val
  endian : Endian
  deriving Repr, DecidableEq, Inhabited

namespace DD

/-- `datadiv.__init__`: a constant expression is stored as its bytes. -/
def new (data : Val) (en : Endian) : DD :=
  match data with
  | .ex e => if e.isCst then ⟨.raw (e.toBytes en), en⟩ else ⟨.ex e, en⟩
  | .raw bs => ⟨.raw bs, en⟩

def len (d : DD) : Nat := d.val.len
def isRaw (d : DD) : Bool := d.val.isRaw

/-- `datadiv.cut(l)`: drop the first `l` bytes (memory order). No re-normalisation. -/
def cut (d : DD) (l : Nat) : DD :=
  match d.val with
  | .raw bs => { d with val := .raw (bs.drop l) }
  | .ex e => { d with val := .ex (e.bytes l none d.endian) }

/-- `datadiv.setlen(l)`: keep the first `l` bytes (memory order). -/
def setlen (d : DD) (l : Nat) : DD :=
  match d.val with
  | .raw bs => { d with val := .raw (bs.take l) }
  | .ex e => { d with val := .ex (e.bytes 0 (some l) d.endian) }

/-- `datadiv.getpart(o,l)` → `(result | None, missing)`. -/
def getpart (d : DD) (o l : Nat) : Option Val × Nat :=
  let lv := d.len
  if o = 0 ∧ l = lv then (some d.val, 0)
  else match d.val with
    | .raw bs =>
      let res := (bs.drop o).take l
      (some (.raw res), l - res.length)
    | .ex e =>
      if o ≥ lv then (none, l)
      else
        let res := e.bytes o (some (o + l)) d.endian
        (some (.ex res), l - res.length)

/-- the inner loop of `mergeparts`: `cur` is `parts[-1]`. The merged raw part keeps the
    endianness of its first constituent. -/
def mergeGo (cur : DD) : List DD → List DD
  | [] => [cur]
  | p :: rest =>
    match cur.val, p.val with
    | .raw a, .raw b => mergeGo { cur with val := .raw (a ++ b) } rest
    | _, _ => cur :: mergeGo p rest

/-- `mergeparts(P)` (`[]` would be an `IndexError`). -/
def mergeparts : List DD → List DD
  | [] => []
  | p :: rest => mergeGo p rest

/-- `getpart(..)[0]` fed to `datadiv(..)`; `None` cannot occur on the paths of `setpart`
    (it would give a `datadiv(None)`), the model then uses empty bytes. -/
def partVal (d : DD) (o l : Nat) : Val :=
  match (d.getpart o l).1 with
  | some v => v
  | none => .raw []

/-- `datadiv.setpart(o, data, endian)` (the `assert 0 <= o <= len(self)` is not modelled). -/
def setpart (d : DD) (o : Nat) (data : Val) (en : Endian) : List DD :=
  let olv := o + data.len
  let P := [DD.new data en]
  let P := if olv < d.len then P ++ [DD.new (d.partVal olv (d.len - olv)) d.endian] else P
  let P := if o > 0 then DD.new (d.partVal 0 o) d.endian :: P else P
  mergeparts P

end DD

/-! ## mo -/

structure Mo where
  vaddr : Int
  data : DD
  deriving Repr, DecidableEq, Inhabited

namespace Mo

def new (vaddr : Int) (data : Val) (en : Endian) : Mo := ⟨vaddr, DD.new data en⟩

def len (o : Mo) : Nat := o.data.len
/-- `mo.end` -/
def fin (o : Mo) : Int := o.vaddr + o.data.len

/-- `vaddr in mo` -/
def contains (o : Mo) (a : Int) : Bool := decide (o.vaddr ≤ a) && decide (a < o.fin)

def trim (o : Mo) (a : Int) : Mo :=
  if o.contains a then
    let l := (a - o.vaddr).toNat
    ⟨a, if l > 0 then o.data.cut l else o.data⟩
  else o

def setlen (o : Mo) (l : Nat) : Mo := { o with data := o.data.setlen l }

def read (o : Mo) (a : Int) (l : Nat) : Option Val × Nat :=
  if o.contains a then o.data.getpart (a - o.vaddr).toNat l else (none, l)

/-- consecutive `mo(vaddr, p.val, p.endian)` objects for `parts[1:]`. -/
def chain (v : Int) : List DD → List Mo
  | [] => []
  | p :: ps => Mo.new v p.val p.endian :: chain (v + p.len) ps

/-- `mo.write(vaddr,data,endian)` → (the updated object, the list `O` of new objects). -/
def write (o : Mo) (a : Int) (data : Val) (en : Endian) : Mo × List Mo :=
  if o.contains a || a == o.fin then
    match o.data.setpart (a - o.vaddr).toNat data en with
    | [] => (o, [])          -- unreachable (`parts[0]` IndexError)
    | p0 :: ps =>
      let o' : Mo := { o with data := p0 }
      (o', chain o'.fin ps)
  else (o, [Mo.new a data en])

def copy (o : Mo) : Mo := Mo.new o.vaddr o.data.val o.data.endian

end Mo

/-! ## MemoryZone -/

/-- `bisect.bisect_left(p, a)` on a sorted list (CPython's bisect is modelled by its
    specification; the cache is sorted whenever the zone is well formed). -/
def bisectLeft (p : List Int) (a : Int) : Nat := (p.takeWhile (fun x => decide (x < a))).length

/-- `MemoryZone.locate` over the cache `p` of start addresses. -/
def locate (p : List Int) (a : Int) : Option Nat :=
  if p.contains a then some (p.idxOf a)
  else
    let i := bisectLeft p a
    if i = 0 then none else some (i - 1)

/-- an element of a `read` result: a value (with the endianness of the object it was taken from —
    ghost information, the Python list holds only the value) or a bottom `exp(n*8)`. -/
inductive Item
  | data (v : Val) (en : Endian)
  | bot (n : Nat)
  deriving Repr, DecidableEq, Inhabited

/-- the `while ll > 0` loop of `MemoryZone.read`, over `zip(_map[i:], __cache[i:])`. -/
def readLoop : List (Mo × Int) → Int → Nat → List Item
  | [], _, ll => if ll > 0 then [.bot ll] else []          -- IndexError branch
  | (x, vi) :: rest, a, ll =>
    if _hll : ll = 0 then []
    else
      match x.read a ll with
      | (some d, ll') => .data d x.data.endian :: readLoop rest (a + d.len) ll'
      | (none, _) =>
        if _h : a < vi then
          let l := (min (a + ll) vi - a).toNat
          .bot l :: readLoop ((x, vi) :: rest) (a + l) (ll - l)
        else readLoop rest a ll
termination_by m _ ll => (m.length, ll)
decreasing_by
  · simp only [List.length_cons]; apply Prod.Lex.left; omega
  · apply Prod.Lex.right; omega
  · simp only [List.length_cons]; apply Prod.Lex.left; omega

def readL (p : List Int) (m : List Mo) (a : Int) (l : Nat) : List Item :=
  match locate p a with
  | none =>
    match m with
    | [] => [.bot l]
    | x0 :: _ =>
      let v0 := x0.vaddr
      if v0 < a + l then
        .bot (v0 - a).toNat :: readLoop (m.zip p) v0 ((a + l) - v0).toNat
      else [.bot l]
  | some i => readLoop ((m.zip p).drop i) a l

/-- `MemoryZone.addtomap` on the list `_map` with cache `p`; returns the new `_map`.
    Unreachable `IndexError`s return the map unchanged. -/
def addtomapL (p : List Int) (m : List Mo) (z : Mo) : List Mo :=
  let i := locate p z.vaddr
  match locate p z.fin with
  | none => z :: m
  | some j =>
    if i = some j then
      match m[j]? with
      | none => m
      | some x =>
        let (x', Z) := x.write z.vaddr z.data.val z.data.endian
        m.take j ++ (x' :: Z) ++ m.drop (j + 1)
    else
      match m[j]? with
      | none => m
      | some y =>
        -- `if z.end in self._map[j]: self._map[j].trim(z.end) else: j += 1`
        let (m1, j1) := if y.contains z.fin then (m.set j (y.trim z.fin), j) else (m, j + 1)
        match i with
        | none => z :: m1.drop j1                    -- i = -1; i += 1; del [0:j]; insert z
        | some i =>
          match m1[i]? with
          | none => m
          | some x =>
            if z.vaddr ≤ x.fin then
              let (x', Z) := x.write z.vaddr z.data.val z.data.endian
              m1.take i ++ (x' :: Z) ++ m1.drop j1
            else
              m1.take (i + 1) ++ [z] ++ m1.drop j1

/-- the loop of `MemoryZone.restruct`; `cur` is `m[-1]`. -/
def restructGo (cur : Mo) : List Mo → List Mo
  | [] => [cur]
  | z :: rest =>
    match cur.data.val, z.data.val with
    | .raw a, .raw b =>
      if z.vaddr = cur.fin then restructGo { cur with data := { cur.data with val := .raw (a ++ b) } } rest
      else cur :: restructGo z rest
    | _, _ => cur :: restructGo z rest

def restructL : List Mo → List Mo
  | [] => []
  | x :: rest => restructGo x rest

structure Zone where
  map : List Mo
  cache : List Int
  deriving Repr, DecidableEq, Inhabited

namespace Zone

def empty : Zone := ⟨[], []⟩
def updateCache (m : List Mo) : Zone := ⟨m, m.map Mo.vaddr⟩

def range (z : Zone) : Int × Int :=
  match z.map, z.map.getLast? with
  | x :: _, some y => (x.vaddr, y.fin)
  | _, _ => (0, 0)

def locate (z : Zone) (a : Int) : Option Nat := Memory.locate z.cache a
def read (z : Zone) (a : Int) (l : Nat) : List Item := readL z.cache z.map a l
def addtomap (z : Zone) (o : Mo) : Zone := updateCache (addtomapL z.cache z.map o)
def write (z : Zone) (a : Int) (data : Val) (en : Endian) : Zone := z.addtomap (Mo.new a data en)
/-- `restruct` returns early (cache untouched) on an empty map. -/
def restruct (z : Zone) : Zone :=
  match z.map with
  | [] => z
  | _ => updateCache (restructL z.map)
def shift (z : Zone) (off : Int) : Zone := updateCache (z.map.map (fun o => { o with vaddr := o.vaddr + off }))
/-- `copy`: fresh zone (empty cache), `_map` of copies, then `restruct()`. -/
def copy (z : Zone) : Zone := restruct ⟨z.map.map Mo.copy, []⟩
/-- what `MemoryMap.merge` does to an existing zone: `for o in other._map: self.addtomap(o)`. -/
def mergeWith (z other : Zone) : Zone := other.map.foldl addtomap z

end Zone

/-! ## MemoryMap -/

/-- the address argument of `MemoryMap.read/write`. -/
inductive Addr
  | int (a : Int)                                   -- python int
  | cst (v : Nat)                                   -- `cst`, `.v` (already masked)
  | ext (name : String)                             -- `ext` symbol: zone key is the symbol itself
  | ptrCst (v : Int) (size : Nat) (disp : Int)      -- `ptr` with constant base (value, size)
  | ptrSym (name : String) (isDef : Bool) (disp : Int) -- `ptr` with symbolic base
  | other                                           -- anything else: `MemoryError`
  deriving Repr, DecidableEq, Inhabited

/-- zone key: `None` or the rendering of the base expression (dict lookup is by `hash(str)+size`). -/
abbrev ZKey := Option String

inductive MemErr | memoryError
  deriving Repr, DecidableEq, Inhabited

/-- `MemoryMap.reference`; the `Bool` is `r._is_def`. -/
def reference : Addr → Except MemErr (ZKey × Bool × Int)
  | .int a => .ok (none, true, a)
  | .ext n => .ok (some n, true, 0)
  | .cst v => .ok (none, true, v)
  | .ptrCst v size disp => .ok (none, true, (v + disp) % (2 ^ size : Int))   -- `(r + a).v`
  | .ptrSym n d disp => .ok (some n, d, disp)
  | .other => .error .memoryError

structure MMap where
  zones : List (ZKey × Zone)      -- the `_zones` dict in insertion order
  deriving Repr, DecidableEq, Inhabited

namespace MMap

def empty : MMap := ⟨[(none, Zone.empty)]⟩

def getZone (mm : MMap) (k : ZKey) : Option Zone := (mm.zones.find? (fun kz => kz.1 == k)).map (·.2)

/-- `_zones[k] = z` (update in place if the key exists, else append). -/
def setZone (mm : MMap) (k : ZKey) (z : Zone) : MMap :=
  if mm.zones.any (fun kz => kz.1 == k) then
    ⟨mm.zones.map (fun kz => if kz.1 == k then (k, z) else kz)⟩
  else ⟨mm.zones ++ [(k, z)]⟩

def read (mm : MMap) (addr : Addr) (l : Nat) : Except MemErr (List Item) :=
  match reference addr with
  | .error e => .error e
  | .ok (r, _, o) =>
    match mm.getZone r with
    | some z => .ok (z.read o l)
    | none => .error .memoryError

def write (mm : MMap) (addr : Addr) (data : Val) (en : Endian) : Except MemErr MMap :=
  match reference addr with
  | .error e => .error e
  | .ok (r, isDef, o) =>
    if r.isSome && !isDef then .error .memoryError
    else
      let z := (mm.getZone r).getD Zone.empty
      .ok (mm.setZone r (z.write o data en))

def restruct (mm : MMap) : MMap := ⟨mm.zones.map (fun kz => (kz.1, kz.2.restruct))⟩

/-- `copy`: a fresh map (with its empty `None` zone) whose zones are overwritten by copies. -/
def copy (mm : MMap) : MMap := mm.zones.foldl (fun acc kz => acc.setZone kz.1 kz.2.copy) empty

def merge (mm other : MMap) : MMap :=
  other.zones.foldl (fun acc kz =>
    match acc.getZone kz.1 with
    | some z => acc.setZone kz.1 (z.mergeWith kz.2)
    | none => acc.setZone kz.1 kz.2) mm

end MMap

/-! ## Abstraction to a byte store (specification side; also run by the driver) -/

/-- the bytes of a stored value in memory order. -/
def Val.memBytes (v : Val) (en : Endian) : List ByteDesc :=
  match v with
  | .raw bs => bs.map ByteDesc.raw
  | .ex e => match en with
    | .little => e
    | .big => e.reverse

def DD.memBytes (d : DD) : List ByteDesc := d.val.memBytes d.endian

abbrev ByteMap := Int → Option ByteDesc

/-- content of one object as a partial byte map. -/
def absMo (o : Mo) : ByteMap := fun a =>
  if o.vaddr ≤ a then o.data.memBytes[(a - o.vaddr).toNat]? else none

/-- content of a list of objects (first object holding the address). -/
def absL (m : List Mo) : ByteMap := fun a => m.findSome? (fun o => absMo o a)

def Zone.abs (z : Zone) : ByteMap := absL z.map

/-- `g` written over `f`. -/
def override (f g : ByteMap) : ByteMap := fun a => (g a).or (f a)

def Item.flatten : Item → List (Option ByteDesc)
  | .data v en => (v.memBytes en).map some
  | .bot n => List.replicate n none

def flattenItems (r : List Item) : List (Option ByteDesc) := r.flatMap Item.flatten

/-- linear well-formedness checker of a zone (run on dumps of the real `MemoryZone`): no empty
    object, each object ends at or before the next one starts, cache = start addresses. -/
def wfAdj : List Mo → Bool
  | [] => true
  | [x] => decide (0 < x.len)
  | x :: y :: rest => decide (0 < x.len) && decide (x.fin ≤ y.vaddr) && wfAdj (y :: rest)

def Zone.check (z : Zone) : Bool := wfAdj z.map && (z.cache == z.map.map Mo.vaddr)

/-! ## Histories -/

/-- one operation of a zone history. -/
inductive ZOp
  | write (a : Int) (v : Val) (en : Endian)
  | restruct
  | copy
  | shift (off : Int)
  | merge (other : List (Int × Val × Endian))    -- merge with the zone built by these writes
  deriving Repr, Inhabited

def writesZone (ws : List (Int × Val × Endian)) : Zone :=
  ws.foldl (fun z w => z.write w.1 w.2.1 w.2.2) Zone.empty

def ZOp.apply (z : Zone) : ZOp → Zone
  | .write a v en => z.write a v en
  | .restruct => z.restruct
  | .copy => z.copy
  | .shift off => z.shift off
  | .merge ws => z.mergeWith (writesZone ws)

def runZone (ops : List ZOp) : Zone := ops.foldl ZOp.apply Zone.empty

/-- one operation of a `MemoryMap` history (a write that raises `MemoryError` leaves the map
    unchanged; `shift` is `MemoryZone.shift` applied to one zone of the map). -/
inductive MOp
  | write (a : Addr) (v : Val) (en : Endian)
  | restruct
  | copy
  | shift (k : ZKey) (off : Int)
  | merge (other : List (Addr × Val × Endian))   -- merge with the map built by these writes
  deriving Repr, Inhabited

def MMap.writeD (mm : MMap) (a : Addr) (v : Val) (en : Endian) : MMap :=
  match mm.write a v en with
  | .ok mm' => mm'
  | .error _ => mm

def writesMMap (ws : List (Addr × Val × Endian)) : MMap :=
  ws.foldl (fun mm w => mm.writeD w.1 w.2.1 w.2.2) MMap.empty

def MOp.apply (mm : MMap) : MOp → MMap
  | .write a v en => mm.writeD a v en
  | .restruct => mm.restruct
  | .copy => mm.copy
  | .shift k off =>
    match mm.getZone k with
    | some z => mm.setZone k (z.shift off)
    | none => mm
  | .merge ws => mm.merge (writesMMap ws)

def runMMap (ops : List MOp) : MMap := ops.foldl MOp.apply MMap.empty

/-- a workspace of live maps (index = creation order): `fork src` appends `ws[src].copy()` and keeps
    the original alive, `on i op` applies an operation to map `i`, `mergeCopy i src` is
    `ws[i].merge(ws[src].copy())`.  Python objects are mutable and `copy` must not share state; in this
    functional model the other maps are untouched by construction, which is exactly what the
    correspondence on all live maps checks of the real code. -/
inductive WOp
  | fork (src : Nat)
  | on (i : Nat) (op : MOp)
  | mergeCopy (i src : Nat)
  deriving Repr, Inhabited

def WOp.apply (ws : List MMap) : WOp → List MMap
  | .fork src =>
    match ws[src]? with
    | some mm => ws ++ [mm.copy]
    | none => ws
  | .on i op =>
    match ws[i]? with
    | some mm => ws.set i (op.apply mm)
    | none => ws
  | .mergeCopy i src =>
    match ws[i]?, ws[src]? with
    | some mm, some other => ws.set i (mm.merge other.copy)
    | _, _ => ws

def runWorkspace (ops : List WOp) : List MMap := ops.foldl WOp.apply [MMap.empty]

end Amoco.Memory
