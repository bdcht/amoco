/-
  Amoco.Model.Simplify — the rewrite system of `cas/expressions.py` as total functions.

  What is mirrored (function by function, rule by rule, in the order the code tests them):
    constant operators of `cst` (incl. the `sf` side effects of `>>`, `//`, `_operator.__call__`, `ltu`/`geu`),
    the Python operator dispatch (`cst.__add__` vs `exp.__add__`, hash-equality shortcut of comparisons),
    `oper`, `op.simplify`, `uop.simplify`, `eqn1_helpers`, `eqn2_helpers` (all rules incl. `bitslice`),
    `slicer`, `slc.__init__/__getitem__/simplify`, `comp.__setitem__/cut/restruct/__getitem__/simplify`,
    `composer`, `extend`/`zeroextend`/`signextend`, `tst.__init__/simplify`, `vec.__init__/simplify`,
    `ror`/`rol`/`ltu`/`geu`.

  In-place mutation is modelled functionally (every function returns the new value).  Every function
  that can re-enter `oper` takes a `fuel : Nat` that bounds the *depth* of re-entrant calls; running out
  of fuel is the error `Err.fuel` (never observed by the correspondence check with the default fuel).
  Python exceptions are the other `Err` values.  The complexity threshold is a parameter (`Cfg`).
  Core Lean only.
-/
import Amoco.Model.Render

namespace Amoco

/-- classes of Python exceptions the algebra raises, plus `fuel` / `unmodelled`. -/
inductive Err where
  | fuel | value | div0 | assert | type | attr | overflow | unmodelled
  deriving DecidableEq, Repr, Inhabited

abbrev R := Except Err

/-- the complexity oracle: `cplx e` ⇔ `conf.Cas.complexity > 0 ∧ complexity(e) > conf.Cas.complexity`;
    `vecCplx l` ⇔ `sum(complexity(x) for x in l) > conf.Cas.complexity > 0` (used by `vec.simplify`). -/
structure Cfg where
  cplx : Expr → Bool
  vecCplx : List Expr → Bool
  /-- `true` = the code as it is: the hash-equality shortcut of the comparison operators also fires when both
      operands are `top` (two opaque values that render alike).  `false` is a diagnostic variant used by the
      harness to attribute a wrong constant to that shortcut. -/
  topHashEq : Bool := true

/-- keyword arguments of `simplify`. -/
structure Opts where
  bitslice : Bool := false
  widening : Bool := false
  deriving Repr, Inhabited

namespace Expr

/-! ## constructors -/

/-- `op(o, l, r)` -/
def mkOp (o : Op) (l r : Expr) : R Expr :=
  let t := o.type
  if t < 4 && l.size != r.size then .error .value
  else
    let size := if t == 4 then 1 else if o == Op.mul2 then 2 * l.size else l.size
    let sf := l.sf || (t == 1 && r.sf)
    .ok (op o l r size sf (t ||| propOf l ||| propOf r))

/-- `uop(o, r)` -/
def mkUop (o : Op) (r : Expr) : Expr := uop o r r.size r.sf (o.type ||| propOf r)

/-- `tst(t, l, r)` -/
def mkTst (t l r : Expr) : R Expr :=
  if l.size != r.size then .error .value else .ok (tst t l r l.size false)

/-- `vec(l)` -/
def mkVec (l : List Expr) : R Expr :=
  let size := l.foldl (fun m e => max m e.size) 0
  if l.any (fun e => e.size != size) then .error .value
  else .ok (vec l size (l.any (·.sf)))

/-- `top(n)` -/
def mkTop (n : Nat) : Expr := top n false

def ofBool (b : Bool) : Expr := cst (if b then 1 else 0) 1 false

/-- Python truthiness of an expression: only `cst(1,1)` is true. -/
def truthy : Expr → Bool
  | cst v s _ => s == 1 && v == 1
  | _ => false

/-! ## constants -/

/-- `_checkarg_sizes` -/
def sizesOK (a b : Nat) : Bool := a == b || a == 0 || b == 0

/-- does the `cst` method of this operator carry `_checkarg_sizes`? -/
def hasSizeCheck : Op → Bool
  | .div | .mod | .lsl | .lsr | .asr | .ror | .rol | .geu | .ltu | .not => false
  | _ => true

/-- the `cst` operator table on two constants `(lv, ls, lf)`, `(rv, rs, rf)`; `lf` is the sign flag under which
    the operator reads `self` (`>>` reads the unsigned `self.v`, `//` the value of a copy flagged signed — the
    caller `api` passes `false` resp. `true`). -/
def cstApi (o : Op) (lv ls : Nat) (lf : Bool) (rv rs : Nat) (rf : Bool) : R Expr :=
  let L := cstValue lv ls lf
  let Rv := cstValue rv rs rf
  match o with
  | .add => .ok (mkCst (L + Rv) ls)
  | .sub => .ok (mkCst (L - Rv) ls)
  | .mul => .ok (mkCst (L * Rv) ls)
  | .mul2 => .ok (mkCst (L * Rv) (2 * ls))
  | .div => if Rv = 0 then .error .div0 else .ok (mkCst (Int.fdiv L Rv) ls)
  | .mod => if Rv = 0 then .error .div0 else .ok (mkCst (Int.fmod L Rv) ls)
  | .and => .ok (mkCst ((lv &&& rv : Nat) : Int) ls)
  | .or => .ok (mkCst ((lv ||| rv : Nat) : Int) ls)
  | .xor => .ok (mkCst ((lv ^^^ rv : Nat) : Int) ls)
  | .lsl => if rv < ls then .ok (mkCst (L * ((2 ^ rv : Nat) : Int)) ls) else .ok (mkCst 0 ls)
  | .lsr => .ok (mkCst (L >>> rv) ls)
  | .asr => .ok (mkCst (L >>> rv) ls)
  | .eq => .ok (ofBool (lv == rv))
  | .neq => .ok (ofBool (lv != rv))
  | .lt => .ok (ofBool (decide (L < Rv)))
  | .le => .ok (ofBool (decide (L ≤ Rv)))
  | .ge => .ok (ofBool (decide (L ≥ Rv)))
  | .gt => .ok (ofBool (decide (L > Rv)))
  | _ => .error .unmodelled

/-- index of the lowest set bit of `v > 0` (`(v & -v).bit_length() - 1`), searched below `n`. -/
def lowBit (v : Nat) : Nat → Nat → Nat
  | 0, i => i
  | n + 1, i => if v.testBit i then i else lowBit v n (i + 1)

/-- `ismask(v)` and its `(lsb, msb)` for a Python int `v` (false for `v ≤ 0`). -/
def maskBounds (v : Int) : Option (Nat × Nat) :=
  if v ≤ 0 then none
  else
    let n := v.toNat
    let i2 := n.log2
    let i1 := lowBit n (i2 + 1) 0
    if (2 ^ (i2 + 1) - 1) ^^^ (2 ^ i1 - 1) == n then some (i1, i2) else none

/-! ## `comp` bookkeeping that needs no re-entry -/

def findKey (lo hi : Nat) : List Part → Option Expr
  | [] => none
  | (a, b, e) :: tl => if a == lo && b == hi then some e else findKey lo hi tl

/-- `parts[(lo,hi)] = v` on a dict: replace in place if the key exists, else append. -/
def assignKey (lo hi : Nat) (v : Expr) : List Part → List Part
  | [] => [(lo, hi, v)]
  | (a, b, e) :: tl => if a == lo && b == hi then (a, b, v) :: tl else (a, b, e) :: assignKey lo hi v tl

/-- `parts.pop((lo,hi))` -/
def popKey (lo hi : Nat) : List Part → List Part
  | [] => []
  | (a, b, e) :: tl => if a == lo && b == hi then tl else (a, b, e) :: popKey lo hi tl

/-- the part whose key covers bit `b` (`smask[b]`; `smask` is determined by the parts on tiled comps). -/
def cover (b : Nat) : List Part → Option Part
  | [] => none
  | (lo, hi, e) :: tl => if lo ≤ b && b < hi then some (lo, hi, e) else cover b tl

/-- one step of `restruct`: the first adjacent pair (in position order) of two constants or two
    undefined parts is merged. -/
def restructFind : List Part → Option (Part × Part × Expr)
  | [] => none
  | (alo, ahi, a) :: rest =>
      match rest with
      | [] => none
      | (blo, bhi, b) :: _ =>
        if ahi == blo then
          match a, b with
          | cst av as_ _, cst bv bs _ =>
              some ((alo, ahi, a), (blo, bhi, b), mkCst (((bv <<< as_) ||| av : Nat) : Int) (as_ + bs))
          | _, _ =>
              if !a.isDef && !b.isDef then some ((alo, ahi, a), (blo, bhi, b), mkTop (bhi - alo))
              else restructFind rest
        else restructFind rest

/-- `comp.restruct()` on the parts (dict order is kept: merged part appended, the two merged popped). -/
def restructN : Nat → List Part → List Part
  | 0, ps => ps
  | n + 1, ps =>
      match restructFind (sortParts ps) with
      | none => ps
      | some ((alo, ahi, _), (blo, bhi, _), m) =>
          restructN n (popKey blo bhi (popKey alo ahi (assignKey alo bhi m ps)))

def restruct (ps : List Part) : List Part := restructN ps.length ps

/-- `_checkarg_slice` -/
def checkSlice (size : Nat) (start stop : Int) : R Unit :=
  if start < 0 || stop > size then .error .value
  else if stop ≤ start then .error .value
  else .ok ()

/-- the loop of `comp.__getitem__` over the covered range, with the re-entrant operations as parameters. -/
def compGetLoop (gi : Expr → Nat → Nat → R Expr) (si : Expr → Nat → Nat → Expr → R Expr)
    (parts : List Part) (stop l : Nat) : Nat → Nat → Nat → Expr → R Expr
  | 0, _, _, res => .ok res
  | n + 1, b, start, res =>
      if b ≥ l then .ok res
      else
        match cover start parts with
        | none => compGetLoop gi si parts stop l n (b + 1) (start + 1) res
        | some (lo, hi, s) => do
            let deb := start - lo
            let fin := min hi stop - lo
            let d := fin - deb
            let piece ← gi s deb fin
            let res ← si res b (b + d) piece
            compGetLoop gi si parts stop l n (b + d) (start + d) res

/-- `cut`, head piece: `parts[(lo, sta)] = nv[0 : sta - lo]` when the popped part starts before `sta`. -/
def cutHead (gi : Expr → Nat → Nat → R Expr) (sta lo : Nat) (nv : Expr) (ps : List Part) : R (List Part) :=
  if lo < sta then
    match gi nv 0 (sta - lo) with
    | .ok h => .ok (assignKey lo sta h ps)
    | .error e => .error e
  else .ok ps

/-- `cut`, tail piece: `parts[(sto, hi)] = nv[sto - lo : hi - lo]` when the popped part ends after `sto`. -/
def cutTail (gi : Expr → Nat → Nat → R Expr) (sto lo hi : Nat) (nv : Expr) (ps : List Part) : R (List Part) :=
  if hi > sto then
    match gi nv (sto - lo) (hi - lo) with
    | .ok t => .ok (assignKey sto hi t ps)
    | .error e => .error e
  else .ok ps

/-- `cut` after `parts[(sta,sto)] = v` was appended: every *old* part overlapping `[sta,sto)` (in position
    order) is popped and its head / tail outside the range re-inserted. -/
def cutLoop (gi : Expr → Nat → Nat → R Expr) (sta sto : Nat) : List Part → List Part → R (List Part)
  | [], ps => .ok ps
  | (lo, hi, nv) :: tl, ps =>
      match cutHead gi sta lo nv (popKey lo hi ps) with
      | .error e => .error e
      | .ok ps2 =>
        match cutTail gi sto lo hi nv ps2 with
        | .error e => .error e
        | .ok ps3 => cutLoop gi sta sto tl ps3

def overlapping (sta sto : Nat) (ps : List Part) : List Part :=
  sortParts (ps.filter (fun p => p.1 < sto && sta < p.2.1))

/-- `parts[(sta,sto)] = v` followed by `cut`: the non-`comp` branch of `comp.__setitem__`. -/
def setPart (gi : Expr → Nat → Nat → R Expr) (sta sto : Nat) (v : Expr) (parts : List Part) : R (List Part) :=
  match findKey sta sto parts with
  | some _ => .ok (assignKey sta sto v parts)
  | none => cutLoop gi sta sto (overlapping sta sto parts) (parts ++ [(sta, sto, v)])

/-- the high part appended by `extend`: `tst(sb, cst(-1,xt), cst(0,xt))` with `sf = True`, or `cst(0,xt)` -/
def extFill (sign : Bool) (sb : Expr) (xt : Nat) : Expr :=
  if sign then .tst sb (mkCst (-1) xt) (mkCst 0 xt) xt true else cst 0 xt false

/-- `(l + (-r)) ⇒ (l - r)`: the operator and right operand after the step -/
def normNeg (o : Op) (r : Expr) : Op × Expr :=
  match r with
  | .uop ro rr _ _ _ => if o == Op.add && ro == Op.sub then (Op.sub, rr) else (o, r)
  | _ => (o, r)

/-- `[bit0] * n` -/
def bit0s (n : Nat) : List Expr := List.replicate n bit0

/-- `range(a, b)` as Python ints -/
def pyRange (a b : Int) : List Int := (List.range (b - a).toNat).map (fun (k : Nat) => a + (k : Int))

/-- first loop of `vec.simplify`: simplify the elements, stop at an undefined one, flatten nested `vec`s. -/
def vecFlat (simp : Expr → R Expr) : List Expr → List Expr → R (Option Expr × List Expr)
  | [], acc => .ok (none, acc)
  | e :: tl, acc => do
      let ee ← simp e
      if !ee.isDef then return (some ee, acc)
      match ee with
      | .vec l' _ _ => vecFlat simp tl (acc ++ l')
      | _ => vecFlat simp tl (acc ++ [ee])

/-- `e in l` (Python `==` of each element with `e`, truthiness of the result). -/
def vecIn (eq : Expr → Expr → R Expr) (e : Expr) : List Expr → R Bool
  | [] => .ok false
  | x :: xs => do
      let c ← eq x e
      if truthy c then return true else vecIn eq e xs

/-- second loop of `vec.simplify`: de-duplication by `==`. -/
def vecDedup (eq : Expr → Expr → R Expr) : List Expr → List Expr → R (List Expr)
  | [], acc => .ok acc
  | e :: tl, acc => do
      if ← vecIn eq e acc then vecDedup eq tl acc else vecDedup eq tl (acc ++ [e])

/-! ## memory expressions (only `mem(reg, size, disp, endian)` leaves: address = `ptr` on a register, no segment) -/

/-- `mem.__getitem__` for a checked slice `[sta, sto)`: the covering bytes `mem(a, 8·(b2-b1), disp=b1)` (counted
    from the other end for big-endian), narrowed by a `slc` when the slice does not start and end on a byte. -/
def memGetitem (x : Expr) (sta sto : Nat) : R Expr :=
  match x with
  | .mem (.ptr (.reg n bs _) none d ps _) size sf be mods =>
      let b1 := sta / 8
      let r1 := sta % 8
      let b2 := (sto + 7) / 8
      let r2 := sto % 8
      let c1 : Int := if be then ((size / 8 : Nat) : Int) - (b2 : Int) else (b1 : Int)
      let y := Expr.mem (.ptr (.reg n bs false) none (d + c1) ps false) ((b2 - b1) * 8) sf be mods
      if r1 > 0 || r2 > 0 then .ok (.slc y r1 (sto - sta) sf none 0) else .ok y
  | _ => .error .unmodelled

/-- `mem.simplify()`: the address is normalised (`ptr.simplify`), the node stays -/
def memSimplify (x : Expr) : R Expr :=
  match x with
  | .mem (.ptr (.reg n bs _) none d ps _) size sf be mods => .ok (.mem (.ptr (.reg n bs false) none d ps false) size sf be mods)
  | _ => .error .unmodelled

/-- `slc.simplify()` on a slice of a memory expression: a byte-aligned slice of whole bytes becomes
    `mem(ptr(base, seg, disp + pos/8), size)` (as the code does it: little-endian default, no mods), any other
    slice stays -/
def slcMem (x : Expr) (pos size : Nat) (sf : Bool) (ref : Option String) (ety : Nat) : R Expr :=
  match x with
  | .mem (.ptr (.reg n bs _) none d ps _) _ _ _ _ =>
      if size % 8 == 0 && pos % 8 == 0 then
        .ok (.mem (.ptr (.reg n bs false) none (d + ((pos / 8 : Nat) : Int)) ps false) size sf false [])
      else .ok (.slc x pos size sf ref ety)
  | _ => .error .unmodelled

end Expr

open Expr

/-! ## the re-entrant core -/

variable (cfg : Cfg)

mutual

/-- `e.simplify(**opts)` -/
def simplify : Nat → Opts → Expr → R Expr
  | 0, _, _ => .error .fuel
  | fuel + 1, o, e =>
    match e with
    | .cst .. | .reg .. | .ext .. | .top .. | .vecw .. => .ok e
    | .mem .. => memSimplify e
    | .ptr .. => .error .unmodelled
    | .slc x pos size sf ref ety => do
        let x ← simplify fuel o x
        if !x.isDef then return mkTop size
        if x.isCmp || x.isCst then
          let res ← getitem fuel x pos (pos + size)
          return res.setSf sf
        if x.isMem then return ← slcMem x pos size sf ref ety
        match x with
        | .op xo xl xr _ _ _ =>
            if xo.type == 2 || ((xo == Op.add || xo == Op.sub) && pos == 0) then
              let r ← getitem fuel xr pos (pos + size)
              let l ← getitem fuel xl pos (pos + size)
              callOp fuel xo l r
            else return .slc x pos size sf ref ety
        | .uop xo xr _ _ _ =>
            if xo.type == 2 || ((xo == Op.add || xo == Op.sub) && pos == 0) then
              let r ← getitem fuel xr pos (pos + size)
              callUop fuel xo r
            else return .slc x pos size sf ref ety
        | .vec l _ _ => do
            let l' ← l.mapM (fun y => getitem fuel y pos (pos + size))
            mkVec l'
        | _ => return .slc x pos size sf ref ety
    | .comp size sf parts => do
        let parts ← parts.mapM (fun (p : Part) => do
          let v ← simplify fuel o p.2.2
          pure ((p.1, p.2.1, v) : Part))
        let parts := restruct parts
        match findKey 0 size parts with
        -- (repaired, as `comp.eval`: the constant the parts merged into stands for the comp and keeps its sign flag)
        | some (.cst v s _) => return .cst v s sf
        | some p => return p
        | none => return .comp size sf parts
    | .tst t l r size sf => do
        let t ← simplify fuel o t
        if o.widening || !t.isDef then
          let v ← mkVec [l, r]
          return ← simplify fuel {} v
        let l ← simplify fuel o l
        let c1 ← api fuel Op.eq t bit1
        if truthy c1 then return l
        let r ← simplify fuel o r
        let c0 ← api fuel Op.eq t bit0
        if truthy c0 then return r
        let c ← api fuel Op.eq l r
        if truthy c then return l
        return .tst t l r size sf
    | .op oo l r size sf prop => do
        let l ← simplify fuel o l
        let r ← simplify fuel o r
        if prop < 4 && oo != Op.div && oo != Op.mod then
          if l.isTop then return (if l.size == size then l else mkTop size)
          if r.isTop then return (if r.size == size then r else mkTop size)
          let minus := oo == Op.sub
          if l.isCst then
            -- two constants: folded; the constant stands for this node and keeps its sign flag (as `op.eval` does)
            if r.isCst then return (← callOp fuel oo l r).setSf sf
            if minus then
              let nr ← apiNeg fuel r
              eqn2 fuel o Op.add nr l size sf prop
            else eqn2 fuel o oo r l size sf prop
          else if !r.isCst && symStr r < symStr l then
            if minus then
              let nr ← apiNeg fuel r
              eqn2 fuel o Op.add nr l size sf prop
            else eqn2 fuel o oo r l size sf prop
          else eqn2 fuel o oo l r size sf prop
        else eqn2 fuel o oo l r size sf prop
    | .uop oo r size sf prop => do
        let r ← simplify fuel o r
        if r.isTop then return r
        eqn1 fuel oo r size sf prop
    | .vec l size sf => do
        let (early, l1) ← vecFlat (simplify fuel {}) l []
        match early with
        | some ee => return ee
        | none =>
          let l2 ← vecDedup (api fuel Op.eq) l1 []
          match l2 with
          | [x] => return x
          | _ =>
            if o.widening then return .vecw l2 size false
            if cfg.vecCplx l2 then return mkTop size
            return .vec l2 size sf

/-- `eqn1_helpers(e)` for `e = uop(o, r)` with attributes `size sf prop` -/
def eqn1 : Nat → Op → Expr → Nat → Bool → Nat → R Expr
  | 0, _, _, _, _, _ => .error .fuel
  | fuel + 1, o, r, size, sf, prop =>
    match r with
    | .cst .. => do
        -- folded constant: it stands for the node `e` and keeps its sign flag (as `uop.eval` does)
        let res ← callUop fuel o r
        return res.setSf sf
    | .vec l _ _ => do
        let l' ← l.mapM (fun x => callUop fuel o x)
        mkVec l'
    | .uop ro rr _ _ _ =>
        match Op.pm o ro with
        | some Op.add => .ok rr
        | some Op.sub => apiNeg fuel rr
        | _ => .ok (.uop o r size sf prop)
    | .op ro rl rr _ _ _ =>
        if o == Op.sub then
          match Op.pm o ro with
          | some x => do
              let l ← apiNeg fuel rl
              api fuel x l rr
          | none => .ok (.uop o r size sf prop)
        else if o == Op.not && ro.type == 4 then
          match ro with
          | .eq => api fuel Op.neq rl rr
          | .neq => api fuel Op.eq rl rr
          | .lt => api fuel Op.ge rl rr
          | .gt => api fuel Op.le rl rr
          | .le => api fuel Op.gt rl rr
          | .ge => api fuel Op.lt rl rr
          | .ltu => helperCmp fuel Op.geu rl rr
          | .geu => helperCmp fuel Op.ltu rl rr
          | _ => .ok (.uop o r size sf prop)
        else .ok (.uop o r size sf prop)
    | _ => .ok (.uop o r size sf prop)

/-- `eqn2_helpers(e, bitslice, widening)` for `e = op(o, l, r)` with attributes `size sf prop`:
    complexity threshold, top absorption, `+`/`-` normalisation (`eqn2norm`), then the rules for a constant
    right operand (`eqn2cst`, `eqn2snd`) and the final rules (`eqn2tail`). -/
def eqn2 : Nat → Opts → Op → Expr → Expr → Nat → Bool → Nat → R Expr
  | 0, _, _, _, _, _, _, _ => .error .fuel
  | fuel + 1, opts, o, l, r, size, sf, prop => do
    let r := if cfg.cplx r then mkTop r.size else r
    let l := if cfg.cplx l then mkTop l.size else l
    if r.isTop || l.isTop then return mkTop size
    let (o, l, r) ← eqn2norm fuel o l r
    match r with
    | .cst rv rs rf =>
      match ← eqn2cst fuel opts o l rv rs rf size sf with
      | some res => return res
      | none => eqn2snd fuel opts o l rv rs rf size sf prop
    | _ => eqn2tail fuel opts o l r size sf prop

/-- the `+`/`-` normalisation steps of `eqn2_helpers`:
    `((a ± c) ∘ r) ⇒ ((a ∘ r) ± c)` (`normL`), `(l + (-r)) ⇒ (l - r)` (`normNeg`),
    `(l ± (a ± c)) ⇒ ((l ± a) ± c)` (`normR`). -/
def eqn2norm : Nat → Op → Expr → Expr → R (Op × Expr × Expr)
  | 0, _, _, _ => .error .fuel
  | fuel + 1, o, l, r => do
    let t ← normL fuel o l r
    let d := normNeg t.1 t.2.2
    normR fuel d.1 t.2.1 d.2

/-- `((a lo c) o r) ⇒ ((a o r) lo c)` when `c` is a constant and `o, lo ∈ {+,-}` -/
def normL : Nat → Op → Expr → Expr → R (Op × Expr × Expr)
  | 0, _, _, _ => .error .fuel
  | fuel + 1, o, l, r =>
    match l with
    | .op lo ll lr _ _ _ =>
        if lr.isCst then
          match Op.pm o lo with
          | some _ => do
              let nl ← callOp fuel o ll r
              pure (lo, nl, lr)
          | none => pure (o, l, r)
        else pure (o, l, r)
    | _ => pure (o, l, r)

/-- `(l o (a ro c)) ⇒ ((l o a) (o·ro) c)` when `c` is a constant and `o, ro ∈ {+,-}` -/
def normR : Nat → Op → Expr → Expr → R (Op × Expr × Expr)
  | 0, _, _, _ => .error .fuel
  | fuel + 1, o, l, r =>
    match r with
    | .op ro rl rr _ _ _ =>
        if rr.isCst then
          match Op.pm o ro with
          | some x => do
              let nl ← callOp fuel o l rl
              pure (x, nl, rr)
          | none => pure (o, l, r)
        else pure (o, l, r)
    | .uop ro rr _ _ _ =>
        if rr.isCst then
          match Op.pm o ro with
          | some _ => throw .assert
          | none => pure (o, l, r)
        else pure (o, l, r)
    | _ => pure (o, l, r)

/-- first chain of rules for `e = (l o cst(rv, rs, rf))`; `none` = no rule returned. -/
def eqn2cst : Nat → Opts → Op → Expr → Nat → Nat → Bool → Nat → Bool → R (Option Expr)
  | 0, _, _, _, _, _, _, _, _ => .error .fuel
  | fuel + 1, opts, o, l, rv, rs, rf, size, sf => do
    let r := Expr.cst rv rs rf
    let value := cstValue rv rs rf
    if value = 0 then
      if o == Op.or || o == Op.xor || o == Op.add || o == Op.sub || o == Op.lsr || o == Op.lsl
          || o == Op.ror || o == Op.rol then return some l
      if o == Op.and || o == Op.mul || o == Op.mul2 then return some (cst 0 size false)
      if o == Op.eq && l.isExt then return some bit0
      if o == Op.neq && l.isExt then return some bit1
      return none
    else if value = 1 && (o == Op.mul || o == Op.div) then return some l
    else if value = 1 && o == Op.mul2 then return some (← extendExp fuel l.sf l size)
    else
      match (if o == Op.and then maskBounds value else none) with
      | some (i1, i2) => do
          let c := Expr.comp size sf []
          let c ← setitem fuel c 0 size (cst 0 size false)
          let piece ← getitem fuel l i1 (i2 + 1)
          let c ← setitem fuel c i1 (i2 + 1) piece
          return some (← simplify fuel {} c)
      | none =>
        if opts.bitslice && (o == Op.and || o == Op.or || o == Op.xor) then do
          let bits ← (pyRange 0 size).mapM (fun i => do
            let a ← getitem fuel l i (i + 1)
            let b ← getitem fuel r i (i + 1)
            callOp fuel o a b)
          let c ← composer fuel bits
          return some (if c.isCmp then c.setSf sf else c)
        else if (o == Op.lsl || o == Op.lsr) && rv ≥ l.size then return some (cst 0 size false)
        else if opts.bitslice && o == Op.lsl then do
          let bits ← (pyRange 0 ((size : Int) - (rv : Int))).mapM (fun i => getitem fuel l i (i + 1))
          let c ← composer fuel (bit0s rv ++ bits)
          return some (if c.isCmp then c.setSf sf else c)
        else if opts.bitslice && o == Op.lsr then do
          let bits ← (pyRange rv size).mapM (fun i => getitem fuel l i (i + 1))
          let c ← composer fuel (bits ++ bit0s rv)
          return some (if c.isCmp then c.setSf sf else c)
        else if o == Op.lsl then do
          let n := l.size
          let c := Expr.comp n sf []
          let c ← setitem fuel c 0 n (cst 0 n false)
          let piece ← getitem fuel l 0 ((n : Int) - (rv : Int))
          let c ← setitem fuel c rv n piece
          return some (← simplify fuel {} c)
        else if o == Op.lsr then do
          let n := l.size
          let c := Expr.comp n sf []
          let c ← setitem fuel c 0 n (cst 0 n false)
          let piece ← getitem fuel l rv n
          let c ← setitem fuel c 0 ((n : Int) - (rv : Int)) piece
          return some (← simplify fuel {} c)
        else return none

/-- second chain of rules for `e = (l o cst(rv, rs, rf))`: by the kind of `l`. -/
def eqn2snd : Nat → Opts → Op → Expr → Nat → Nat → Bool → Nat → Bool → Nat → R Expr
  | 0, _, _, _, _, _, _, _, _, _ => .error .fuel
  | fuel + 1, opts, o, l, rv, rs, rf, size, sf, prop =>
    let r := Expr.cst rv rs rf
    match l with
    | .op lo ll lr _ _ _ =>
        match Op.pm o lo with
        | some x =>
            if lr.isCst then do
              let cc ← api fuel x lr r
              return .op lo ll cc size sf prop
            else return .op o l r size sf prop
        | none =>
            if rs == 1 && o == Op.eq then
              if rv == 1 then return l else apiNot fuel l
            else if rs == 1 && o == Op.neq then
              if rv == 1 then apiNot fuel l else return l
            else eqn2tail fuel opts o l r size sf prop
    | .uop lo lr _ _ _ =>
        match Op.pm o lo with
        | some x =>
            if lr.isCst then do
              let cc ← api fuel x lr r
              return .op lo l cc size sf prop
            else return .op o l r size sf prop
        | none =>
            if rs == 1 && o == Op.eq then
              if rv == 1 then return l else apiNot fuel l
            else if rs == 1 && o == Op.neq then
              if rv == 1 then apiNot fuel l else return l
            else eqn2tail fuel opts o l r size sf prop
    | .ptr .. =>
        if o == Op.sub || o == Op.add then throw .unmodelled
        else eqn2tail fuel opts o l r size sf prop
    | .comp lsize _ lparts =>
        if o == Op.and || o == Op.or || o == Op.xor then do
          let cc ← lparts.foldlM (fun (cc : Expr) (p : Part) => do
            let rp ← getitem fuel r p.1 p.2.1
            let v ← callOp fuel o p.2.2 rp
            setitem fuel cc p.1 p.2.1 v) (Expr.comp lsize sf [])
          simplify fuel { bitslice := opts.bitslice } cc
        else eqn2tail fuel opts o l r size sf prop
    | .cst .. => do
        let res ← callOp fuel o l r
        return res.setSf sf
    | _ => eqn2tail fuel opts o l r size sf prop

/-- the end of `eqn2_helpers`: `vec` distribution and the `x op x` rules (decided by rendering). -/
def eqn2tail : Nat → Opts → Op → Expr → Expr → Nat → Bool → Nat → R Expr
  | 0, _, _, _, _, _, _, _ => .error .fuel
  | fuel + 1, opts, o, l, r, size, sf, prop =>
    match l, r with
    | .vec ll _ _, _ => do
        let xs ← ll.mapM (fun x => callOp fuel o x r)
        let v ← mkVec xs
        simplify fuel { widening := opts.widening } v
    | _, .vec rl _ _ => do
        let xs ← rl.mapM (fun x => callOp fuel o l x)
        let v ← mkVec xs
        simplify fuel { widening := opts.widening } v
    | _, _ =>
      if render l == render r then
        if o == Op.neq || o == Op.lt || o == Op.gt then .ok bit0
        -- (repaired: a signed 1-bit `true` is not the shared unsigned `bit1`; the result keeps the node's sign flag)
        else if o == Op.eq || o == Op.le || o == Op.ge then .ok (if sf then cst 1 1 true else bit1)
        else if o == Op.sub || o == Op.xor then .ok (cst 0 size false)
        else if o == Op.and || o == Op.or then .ok l
        else .ok (.op o l r size sf prop)
      else .ok (.op o l r size sf prop)

/-- `oper(o, l, r)` = `op(o, l, r).simplify()` -/
def oper : Nat → Op → Expr → Expr → R Expr
  | 0, _, _, _ => .error .fuel
  | fuel + 1, o, l, r => do
      let e ← mkOp o l r
      simplify fuel {} e

/-- `oper(o, r)` = `uop(o, r).simplify()` -/
def operU : Nat → Op → Expr → R Expr
  | 0, _, _ => .error .fuel
  | fuel + 1, o, r => simplify fuel {} (mkUop o r)

/-- `-x` -/
def apiNeg : Nat → Expr → R Expr
  | 0, _ => .error .fuel
  | fuel + 1, x =>
    match x with
    | .cst v s f => .ok (mkCst (-(cstValue v s f)) s)
    | _ => operU fuel Op.sub x

/-- `~x` -/
def apiNot : Nat → Expr → R Expr
  | 0, _ => .error .fuel
  | fuel + 1, x =>
    match x with
    | .cst v s _ => .ok (mkCst ((mask s - v % 2 ^ s : Nat) : Int) s)
    | _ => operU fuel Op.not x

/-- Python's binary operator / rich comparison `l <o> r` on two expressions. -/
def api : Nat → Op → Expr → Expr → R Expr
  | 0, _, _, _ => .error .fuel
  | fuel + 1, o, l, r =>
    match l with
    | .cst lv ls lf =>
        if hasSizeCheck o && !sizesOK ls r.size then .error .value
        else
          let lf := if o == Op.lsr then false else if o == Op.asr then true else lf
          match r with
          | .cst rv rs rf => cstApi o lv ls lf rv rs rf
          | _ => apiExp fuel o (.cst lv ls lf) r
    | _ => apiExp fuel o l r

/-- the `exp` methods: comparisons shortcut on hash equality, everything else goes to `oper`. -/
def apiExp : Nat → Op → Expr → Expr → R Expr
  | 0, _, _, _ => .error .fuel
  | fuel + 1, o, l, r =>
    match o with
    | .eq | .le | .ge => if hashEq l r && (cfg.topHashEq || l.isDef) then .ok bit1 else oper fuel o l r
    | .neq | .lt | .gt => if hashEq l r && (cfg.topHashEq || l.isDef) then .ok bit0 else oper fuel o l r
    | _ => oper fuel o l r

/-- `_operator.__call__(l, r)` of a binary operator -/
def callOp : Nat → Op → Expr → Expr → R Expr
  | 0, _, _, _ => .error .fuel
  | fuel + 1, o, l, r =>
    -- (the unchanged tree clears `l.sf`/`r.sf` in place here for the logic operators and `<.` `>=.`;
    --  the repaired code leaves the operand objects alone)
    match o with
    | .ltu | .geu => helperCmp fuel o l r
    | .ror | .rol => helperRot fuel o l r
    | .not => .error .assert
    | _ => api fuel o l r

/-- `_operator.__call__(r)` of a unary operator -/
def callUop : Nat → Op → Expr → R Expr
  | 0, _, _ => .error .fuel
  | fuel + 1, o, r =>
    match o with
    | .sub => apiNeg fuel r
    | .not => apiNot fuel r
    | .add => .ok r
    | _ => .error .assert

/-- `ltu(x, y)` / `geu(x, y)` -/
def helperCmp : Nat → Op → Expr → Expr → R Expr
  | 0, _, _, _ => .error .fuel
  | fuel + 1, o, x, y =>
    if x.isCst && y.isCst then
      api fuel (if o == Op.ltu then Op.lt else Op.ge) (x.setSf false) (y.setSf false)
    else mkOp o x y

/-- `ror(x, n)` / `rol(x, n)` (repaired: constants are rotated with the amount reduced modulo the width;
    anything else stays an `op` node — the unchanged tree expands `x >> n | x << (x.size - n)` for a constant
    `x`, computing `x.size - n` in the width of `n`) -/
def helperRot : Nat → Op → Expr → Expr → R Expr
  | 0, _, _, _ => .error .fuel
  | fuel + 1, o, x, n =>
    if x.isCst && n.isCst then
      -- both constants: `m = n.v % x.size`, then `x >> m | x << (size - m)` resp. `x << m | x >> (size - m)`
      let m : Nat := (match n with | .cst nv _ _ => nv % x.size | _ => 0)
      if o == Op.ror then do
        let t1 ← api fuel Op.lsr x (mkCst (m : Int) x.size)
        let t2 ← api fuel Op.lsl (x.setSf false) (mkCst ((x.size - m : Nat) : Int) x.size)
        api fuel Op.or t1 t2
      else do
        let t1 ← api fuel Op.lsl x (mkCst (m : Int) x.size)
        let t2 ← api fuel Op.lsr x (mkCst ((x.size - m : Nat) : Int) x.size)
        api fuel Op.or t1 t2
    else mkOp o x n

/-- `x[start:stop]` -/
def getitem : Nat → Expr → Int → Int → R Expr
  | 0, _, _, _ => .error .fuel
  | fuel + 1, x, start, stop => do
    checkSlice x.size start stop
    let sta := start.toNat
    let sto := stop.toNat
    match x with
    | .cst v _ _ => return mkCst ((v >>> sta : Nat) : Int) (sto - sta)
    | .comp size sf parts =>
        match findKey sta sto parts with
        | some p => return p
        | none =>
          if sta == 0 && sto == size then return x
          let l := sto - sta
          let res ← compGetLoop (fun y a b => getitem fuel y (a : Int) (b : Int))
                      (fun c a b v => setitem fuel c (a : Int) (b : Int) v) parts sto l l 0 sta (Expr.comp l sf [])
          match res with
          | .comp rs rf rparts =>
              let rparts := restruct rparts
              match rparts with
              | [] => throw .unmodelled
              | [(_, _, p)] => return p
              | _ => return .comp rs rf rparts
          | _ => throw .unmodelled
    | .slc x' p s _ _ _ =>
        if sta == 0 && sto == s then return x
        else slicer fuel x' (p + sta) (sto - sta)
    | .mem .. => memGetitem x sta sto
    | .vec l _ _ => do
        let l' ← l.mapM (fun y => getitem fuel y start stop)
        mkVec l'
    | .vecw l _ _ => do
        let l' ← l.mapM (fun y => getitem fuel y start stop)
        match ← mkVec l' with
        | .vec l'' s _ => return .vecw l'' s false
        | _ => throw .unmodelled
    | _ => slicer fuel x sta (sto - sta)

/-- `slicer(x, pos, size)` -/
def slicer : Nat → Expr → Nat → Nat → R Expr
  | 0, _, _, _ => .error .fuel
  | fuel + 1, x, pos, size =>
    if !x.isDef then .ok (mkTop size)
    else if pos == 0 && size == x.size then .ok x
    else if x.isMem || x.isCmp then do
      let res ← getitem fuel x pos (pos + size)
      return res.setSf x.sf
    else mkSlc fuel x pos size

/-- `slc(x, pos, size)` -/
def mkSlc : Nat → Expr → Nat → Nat → R Expr
  | 0, _, _, _ => .error .fuel
  | fuel + 1, x, pos, size =>
    match x with
    | .slc .. => do
        let res ← getitem fuel x pos (pos + size)
        match res with
        | .slc x2 p2 _ _ _ _ => return .slc x2 p2 size x.sf none (slcEty x2)
        -- (repaired: the unchanged constructor reads `res.x` of whatever `x[pos:pos+size]` returns and raises
        --  AttributeError when that is not a slice; the slice of the slice is kept nested, `simplify` resolves it)
        | _ => return .slc x pos size x.sf none (slcEty x)
    | _ => .ok (.slc x pos size x.sf none (slcEty x))

/-- `c[sta:sto] = v` on a `comp` `c`; returns the updated comp. -/
def setitem : Nat → Expr → Int → Int → Expr → R Expr
  | 0, _, _, _, _ => .error .fuel
  | fuel + 1, c, start, stop, v => do
    match c with
    | .comp size sf parts =>
      checkSlice size start stop
      let sta := start.toNat
      let sto := stop.toNat
      if v.size != sto - sta then throw .value
      match v with
      | .comp _ _ vparts =>
          vparts.foldlM (fun (c : Expr) (p : Part) => setitem fuel c (sta + p.1) (sta + p.2.1) p.2.2) c
      | _ =>
        match setPart (fun y a b => getitem fuel y (a : Int) (b : Int)) sta sto v parts with
        | .ok ps => return .comp size sf ps
        | .error e => throw e
    | _ => throw .unmodelled

/-- `composer(parts)` -/
def composer : Nat → List Expr → R Expr
  | 0, _ => .error .fuel
  | fuel + 1, parts =>
    match parts with
    | [] => .error .assert
    | [x] => .ok x
    | _ => do
      let s := parts.foldl (fun a x => a + x.size) 0
      let sf := match parts.getLast? with | some x => x.sf | none => false
      let (c, _) ← parts.foldlM (fun (st : Expr × Nat) (x : Expr) => do
        let c ← setitem fuel st.1 st.2 (st.2 + x.size) x
        pure (c, st.2 + x.size)) (Expr.comp s sf [], 0)
      simplify fuel {} c

/-- `exp.extend(x, sign, size)` -/
def extendExp : Nat → Bool → Expr → Nat → R Expr
  | 0, _, _, _ => .error .fuel
  | fuel + 1, sign, x, size =>
    if size ≤ x.size then .ok x
    else do
      let xt := size - x.size
      let sb ← getitem fuel x ((x.size - 1 : Nat) : Int) (x.size : Int)
      composer fuel [x, extFill sign sb xt]

end

/-- `x.zeroextend(size)` / `x.signextend(size)` (with the `cst` overrides) -/
def extend (fuel : Nat) (sign : Bool) (x : Expr) (size : Nat) : R Expr :=
  match x with
  | .cst v s _ =>
      if sign then .ok (mkCst (cstValue v s true) (max size s))
      else .ok (mkCst (v : Int) (max size s))
  | _ => extendExp cfg fuel sign x size

/-- `x.bit(i)` -/
def bitOf (fuel : Nat) (x : Expr) (i : Nat) : R Expr :=
  if x.size = 0 then .error .div0
  else getitem cfg fuel x ((i % x.size : Nat) : Int) ((i % x.size + 1 : Nat) : Int)

end Amoco
