/-
  Amoco.Model.X86Sem — the bodies of the x86/x64 integer ALU semantics functions `i_XXX(i, fmap)` of
  `amoco/arch/x64/asm.py` and `amoco/arch/x86/asm.py` (ADD SUB CMP AND OR XOR TEST INC DEC NEG NOT ADC SBB)
  as terms of a small DSL, the meaning of that DSL, the hand-written table `expected` of what each body
  should be, and a reference semantics `ref` written from the Intel SDM instruction pages.

  A body is a list of statements executed in order:
      fmap[rip] = fmap[rip] + i.length            ↦ Stmt.advance
      fmap[<flag>] = e                            ↦ Stmt.setf flag e
      op1, x = _r32_zx64(op1, x); fmap[op1] = x   ↦ Stmt.setdst true e      (x64)
      fmap[op1] = x                               ↦ Stmt.setdst false e     (x86)
  The expressions `e` are over the values read *before* the first store (the translator refuses bodies
  that read the map after a flag or the destination has been stored):
      a = fmap(i.operands[0]), b = fmap(i.operands[1]), cin = fmap(cf)
  and the helpers of asm.py / cas/utils.py, taken as primitives whose meaning is their model in
  Amoco/Model/Flags.lean (the translator checks that the helpers' source still has the modelled shape).

  Operands are bit-vectors of one common width `w` (the reg,reg / reg,mem forms); immediates of a smaller
  size (sign-extended by the decoder or by `i_AND`) are outside this model.  Core Lean only.
-/
import Amoco.Model.Flags

namespace Amoco.X86Sem
open Amoco.Flags

inductive Arch
  | x64 | x86
  deriving DecidableEq, Repr, Inhabited

inductive Mn
  | ADD | SUB | CMP | AND | OR | XOR | TEST | INC | DEC | NEG | NOT | ADC | SBB
  deriving DecidableEq, Repr, Inhabited

def allMn : List Mn := [.ADD, .SUB, .CMP, .AND, .OR, .XOR, .TEST, .INC, .DEC, .NEG, .NOT, .ADC, .SBB]

def Mn.name : Mn → String
  | .ADD => "ADD" | .SUB => "SUB" | .CMP => "CMP" | .AND => "AND" | .OR => "OR" | .XOR => "XOR"
  | .TEST => "TEST" | .INC => "INC" | .DEC => "DEC" | .NEG => "NEG" | .NOT => "NOT" | .ADC => "ADC" | .SBB => "SBB"

/-! ## syntax -/

inductive E
  | a                              -- `fmap(i.operands[0])`
  | b                              -- `fmap(i.operands[1])`
  | cin                            -- `fmap(cf)`
  | cst (v : Nat)                  -- `cst(v, <operand>.size)`
  | bit0 | bit1
  | awc  (x y c : E)               -- `AddWithCarry(x, y, c)[0]`   (declared signed by the helper)
  | awcC (x y c : E)               -- `AddWithCarry(x, y, c)[1]`
  | awcO (x y c : E)               -- `AddWithCarry(x, y, c)[2]`
  | swb  (x y c : E)               -- `SubWithBorrow(x, y, c)[0]`
  | swbC (x y c : E)
  | swbO (x y c : E)
  | hc (x y c : E)                 -- `halfcarry(x, y, c)`   (`c` omitted = `bit0`, as in AddWithCarry)
  | hb (x y c : E)                 -- `halfborrow(x, y, c)`
  | par8 (x : E)                   -- `parity8(x[0:8])`
  | and (x y : E) | or (x y : E) | xor (x y : E)
  | not (x : E)
  | sx (x : E)                     -- `if x.size < op1.size: x = x.signextend(op1.size)`  (identity at equal widths)
  | eqz (x : E)                    -- `x == 0`
  | nez (x : E)                    -- `x != 0`
  | ltz (x : E)                    -- `x < 0`     (reads the declared signedness of x)
  | msb (x : E)                    -- `x.bit(-1)` / `x[x.size-1:x.size]`
  deriving DecidableEq, Repr, Inhabited

inductive Flag
  | cf | pf | af | zf | sf | of
  deriving DecidableEq, Repr, Inhabited

inductive Stmt
  | advance
  | setf (f : Flag) (e : E)
  | setdst (zx : Bool) (e : E)
  | unsupported (why : String)
  deriving DecidableEq, Repr, Inhabited

abbrev Sem := List Stmt

/-! ## meaning -/

/-- a value: a word of the operand width with its declared signedness, or one bit -/
inductive Val (w : Nat)
  | word (x : BitVec w) (sg : Bool)
  | bit (v : Bool)
  deriving DecidableEq, Repr

def wwb {w} (x y k : Option (Val w)) (f : BitVec w → BitVec w → Bool → Val w) : Option (Val w) :=
  match x, y, k with
  | some (.word x _), some (.word y _), some (.bit k) => some (f x y k)
  | _, _, _ => none

def ww {w} (x y : Option (Val w)) (f : BitVec w → BitVec w → Val w) : Option (Val w) :=
  match x, y with
  | some (.word x _), some (.word y _) => some (f x y)
  | _, _ => none

def w1 {w} (x : Option (Val w)) (f : BitVec w → Bool → Option (Val w)) : Option (Val w) :=
  match x with
  | some (.word x sg) => f x sg
  | _ => none

/-- value of an expression on the operand values `a`, `b` and the incoming carry `c`; `none` for
    ill-typed terms and for `x < 0` on a word that nothing declared signed (amoco then compares the
    unsigned value: not modelled) -/
def eval {w} (a b : BitVec w) (c : Bool) : E → Option (Val w)
  | .a => some (.word a false)
  | .b => some (.word b false)
  | .cin => some (.bit c)
  | .cst v => some (.word (BitVec.ofNat w v) false)
  | .bit0 => some (.bit false)
  | .bit1 => some (.bit true)
  | .awc x y k  => wwb (eval a b c x) (eval a b c y) (eval a b c k) fun x y k => .word (addWithCarry x y k).res true
  | .awcC x y k => wwb (eval a b c x) (eval a b c y) (eval a b c k) fun x y k => .bit (addWithCarry x y k).carry
  | .awcO x y k => wwb (eval a b c x) (eval a b c y) (eval a b c k) fun x y k => .bit (addWithCarry x y k).overflow
  | .swb x y k  => wwb (eval a b c x) (eval a b c y) (eval a b c k) fun x y k => .word (subWithBorrow x y k).res true
  | .swbC x y k => wwb (eval a b c x) (eval a b c y) (eval a b c k) fun x y k => .bit (subWithBorrow x y k).carry
  | .swbO x y k => wwb (eval a b c x) (eval a b c y) (eval a b c k) fun x y k => .bit (subWithBorrow x y k).overflow
  | .hc x y k => wwb (eval a b c x) (eval a b c y) (eval a b c k) fun x y k => .bit (halfcarry x y k)
  | .hb x y k => wwb (eval a b c x) (eval a b c y) (eval a b c k) fun x y k => .bit (halfborrow x y k)
  | .par8 x => w1 (eval a b c x) fun x _ => some (.bit (parity8 (x.setWidth 8)))
  | .and x y => ww (eval a b c x) (eval a b c y) fun x y => .word (x &&& y) false
  | .or x y  => ww (eval a b c x) (eval a b c y) fun x y => .word (x ||| y) false
  | .xor x y => ww (eval a b c x) (eval a b c y) fun x y => .word (x ^^^ y) false
  | .not x => w1 (eval a b c x) fun x _ => some (.word (~~~x) false)
  | .sx x => w1 (eval a b c x) fun x sg => some (.word x sg)
  | .eqz x => w1 (eval a b c x) fun x _ => some (.bit (x == 0))
  | .nez x => w1 (eval a b c x) fun x _ => some (.bit (x != 0))
  | .ltz x => w1 (eval a b c x) fun x sg => if sg then some (.bit x.msb) else none
  | .msb x => w1 (eval a b c x) fun x _ => some (.bit x.msb)

/-- what a body did: number of `rip` advances, the value stored in the destination (if any; `zx` =
    through `_r32_zx64`), the value stored in each flag (if any; the last store wins) -/
structure Out (w : Nat) where
  rip : Nat := 0
  dst : Option (BitVec w) := none
  zx : Bool := false
  cf : Option Bool := none
  pf : Option Bool := none
  af : Option Bool := none
  zf : Option Bool := none
  sf : Option Bool := none
  of : Option Bool := none
  deriving DecidableEq, Repr

def Out.setFlag {w} (o : Out w) (f : Flag) (v : Bool) : Out w :=
  match f with
  | .cf => { o with cf := some v } | .pf => { o with pf := some v } | .af => { o with af := some v }
  | .zf => { o with zf := some v } | .sf => { o with sf := some v } | .of => { o with of := some v }

def step {w} (a b : BitVec w) (c : Bool) (s : Stmt) (o : Out w) : Option (Out w) :=
  match s with
  | .advance => some { o with rip := o.rip + 1 }
  | .setf f e => match eval a b c e with
      | some (.bit v) => some (o.setFlag f v)
      | _ => none
  | .setdst zx e => match eval a b c e with
      | some (.word x _) => some { o with dst := some x, zx := zx }
      | _ => none
  | .unsupported _ => none

def runFrom {w} (a b : BitVec w) (c : Bool) : Sem → Out w → Option (Out w)
  | [], o => some o
  | s :: r, o => match step a b c s o with
      | some o' => runFrom a b c r o'
      | none => none

/-- run a body on operand values `a`, `b` and incoming carry `c` -/
def run {w} (s : Sem) (a b : BitVec w) (c : Bool) : Option (Out w) := runFrom a b c s {}

/-! ## the expected bodies -/

def flagsArith (x : E) (half carry ovf : E) : Sem :=
  [.setf .pf (.par8 x), .setf .af half, .setf .zf (.eqz x), .setf .sf (.ltz x), .setf .cf carry, .setf .of ovf]

def flagsIncDec (x : E) (half ovf : E) : Sem :=
  [.setf .af half, .setf .pf (.par8 x), .setf .zf (.eqz x), .setf .sf (.ltz x), .setf .of ovf]

def flagsLogic (x : E) (sign : E) : Sem :=
  [.setf .zf (.eqz x), .setf .sf sign, .setf .cf .bit0, .setf .of .bit0, .setf .pf (.par8 x)]

/-- what each `i_XXX` should be (x64: the destination goes through `_r32_zx64`) -/
def expected (ar : Arch) (m : Mn) : Sem :=
  let zx := ar == .x64
  match m with
  | .ADD => let x := E.awc .a .b .bit0
            .advance :: flagsArith x (.hc .a .b .bit0) (.awcC .a .b .bit0) (.awcO .a .b .bit0) ++ [.setdst zx x]
  | .ADC => let x := E.awc .a .b .cin
            .advance :: flagsArith x (.hc .a .b .cin) (.awcC .a .b .cin) (.awcO .a .b .cin) ++ [.setdst zx x]
  | .SUB => let x := E.swb .a .b .bit0
            .advance :: flagsArith x (.hb .a .b .bit0) (.swbC .a .b .bit0) (.swbO .a .b .bit0) ++ [.setdst zx x]
  | .SBB => let x := E.swb .a .b .cin
            .advance :: flagsArith x (.hb .a .b .cin) (.swbC .a .b .cin) (.swbO .a .b .cin) ++ [.setdst zx x]
  | .CMP => let x := E.swb .a .b .bit0
            [.advance, .setf .af (.hb .a .b .bit0), .setf .zf (.eqz x), .setf .sf (.ltz x),
             .setf .cf (.swbC .a .b .bit0), .setf .of (.swbO .a .b .bit0), .setf .pf (.par8 x)]
  | .INC => let x := E.awc .a (.cst 1) .bit0
            .advance :: flagsIncDec x (.hc .a (.cst 1) .bit0) (.awcO .a (.cst 1) .bit0) ++ [.setdst zx x]
  | .DEC => let x := E.swb .a (.cst 1) .bit0
            .advance :: flagsIncDec x (.hb .a (.cst 1) .bit0) (.swbO .a (.cst 1) .bit0) ++ [.setdst zx x]
  | .NEG => let x := E.swb (.cst 0) .a .bit0
            [.advance, .setf .af (.hb (.cst 0) .a .bit0), .setf .pf (.par8 x), .setf .cf (.nez .a), .setf .zf (.eqz x),
             .setf .sf (.ltz x), .setf .of (.swbO (.cst 0) .a .bit0), .setdst zx x]
  | .NOT => [.advance, .setdst zx (.not .a)]
  | .AND => let x := E.and .a (.sx .b)
            .advance :: flagsLogic x (.msb x) ++ [.setdst zx x]
  | .OR  => let x := E.or .a .b
            .advance :: flagsLogic x (.msb x) ++ [.setdst zx x]
  | .XOR => let x := E.xor .a .b
            .advance :: flagsLogic x (.msb x) ++ [.setdst zx x]
  | .TEST => let x := E.and .a .b
            .advance :: flagsLogic x (.msb x)

/-! ## reference semantics (Intel SDM vol. 2, instruction pages; vol. 1 §3.4.3.1 status flags) -/

/-- effect of an instruction on one status flag -/
inductive Eff
  | set (v : Bool)      -- the flag is set according to the result
  | unchanged           -- "not affected"
  | undefined           -- "undefined": any value conforms
  deriving DecidableEq, Repr

structure Ref (w : Nat) where
  res : Option (BitVec w)      -- value written to the destination operand; `none`: nothing is written
  cf : Eff
  pf : Eff
  af : Eff
  zf : Eff
  sf : Eff
  of : Eff
  deriving DecidableEq, Repr

/-- does the signed value `v` fall outside the `w`-bit two's-complement range? -/
def sovf (w : Nat) (v : Int) : Bool := decide (v < -((2 ^ (w - 1) : Nat) : Int) ∨ ((2 ^ (w - 1) : Nat) : Int) ≤ v)

/-! SF, ZF, PF "set according to the result": sign bit, result = 0, even parity of the low byte -/

def refAdd {w} (a b : BitVec w) (c : Bool) : Ref w :=
  let r := a + b + BitVec.ofNat w c.toNat
  { res := some r
    cf := .set (decide (2 ^ w ≤ a.toNat + b.toNat + c.toNat))                 -- unsigned overflow
    of := .set (sovf w (a.toInt + b.toInt + (c.toNat : Int)))                   -- signed overflow
    af := .set (decide (16 ≤ a.toNat % 16 + b.toNat % 16 + c.toNat))          -- carry out of bit 3
    zf := .set (r == 0), sf := .set r.msb, pf := .set (evenParity (r.setWidth 8)) }

def refSub {w} (a b : BitVec w) (c : Bool) : Ref w :=
  let r := a - b - BitVec.ofNat w c.toNat
  { res := some r
    cf := .set (decide (a.toNat < b.toNat + c.toNat))                          -- borrow
    of := .set (sovf w (a.toInt - b.toInt - (c.toNat : Int)))
    af := .set (decide (a.toNat % 16 < b.toNat % 16 + c.toNat))               -- borrow into bit 3
    zf := .set (r == 0), sf := .set r.msb, pf := .set (evenParity (r.setWidth 8)) }

/-- AND/OR/XOR/TEST: OF and CF cleared, SF ZF PF by the result, AF undefined -/
def refLogic {w} (r : BitVec w) : Ref w :=
  { res := some r, cf := .set false, of := .set false, af := .undefined
    zf := .set (r == 0), sf := .set r.msb, pf := .set (evenParity (r.setWidth 8)) }

def ref {w} (m : Mn) (a b : BitVec w) (c : Bool) : Ref w :=
  match m with
  | .ADD => refAdd a b false
  | .ADC => refAdd a b c
  | .SUB => refSub a b false
  | .SBB => refSub a b c
  | .CMP => { refSub a b false with res := none }                -- "SUB without storing the result"
  | .INC => { refAdd a 1 false with cf := .unchanged }           -- "CF is not affected"
  | .DEC => { refSub a 1 false with cf := .unchanged }
  | .NEG => { refSub 0 a false with res := some (-a), cf := .set (a != 0) }   -- CF = 0 iff the source is 0
  | .NOT => { res := some (~~~a), cf := .unchanged, pf := .unchanged, af := .unchanged, zf := .unchanged,
              sf := .unchanged, of := .unchanged }
  | .AND => refLogic (a &&& b)
  | .OR  => refLogic (a ||| b)
  | .XOR => refLogic (a ^^^ b)
  | .TEST => { refLogic (a &&& b) with res := none }

/-- incoming values of the six status flags -/
structure Fl6 where
  cf : Bool
  pf : Bool
  af : Bool
  zf : Bool
  sf : Bool
  of : Bool
  deriving DecidableEq, Repr

/-- the final value of a flag (incoming `i`, stored `o`) is one the effect allows -/
def Eff.ok (e : Eff) (i : Bool) (o : Option Bool) : Bool :=
  match e with
  | .set v => o.getD i == v
  | .unchanged => o.getD i == i
  | .undefined => true

/-- outcome `o` of a body started with flags `f` is what the reference `r` defines -/
def conforms {w} (o : Out w) (f : Fl6) (r : Ref w) : Bool :=
  o.dst == r.res && r.cf.ok f.cf o.cf && r.pf.ok f.pf o.pf && r.af.ok f.af o.af && r.zf.ok f.zf o.zf &&
  r.sf.ok f.sf o.sf && r.of.ok f.of o.of

/-- mnemonics that write their first operand -/
def Mn.writes : Mn → Bool
  | .CMP | .TEST => false
  | _ => true

end Amoco.X86Sem
