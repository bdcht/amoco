/-
  For C18: `addVertex` (model of `cfg.graph.add_vertex` on the zone of blocks) refined to index intervals.  On a
  zone that holds runs of one consecutive stream (`rep S ivs`), inserting a run yields the zone of some `ivs'`
  with `Spec … ivs … ivs'` (`addVertex_spec`); `HInv` is `Spec` accumulated over an insertion history.
-/
import Amoco.Proofs.CfgBlocks
import Amoco.Proofs.CfgStream
import Amoco.Proofs.CfgAbs
import Amoco.Proofs.CfgZone

namespace Amoco.Cfg

open Amoco.Blocks

variable {S : List Instr}

/-- `rec` inserts the run `s..e-1` into the zone of `ivs`: it returns the node at the run's start and the
    zone of some `ivs'` that `Spec` relates to `ivs` -/
def Inserts (S : List Instr) (rec : Graph → Block → Res) (ivs : List Iv) (E : Edges) (s e : Nat) : Prop :=
  ∃ ivs' E', rec ⟨rep S ivs, E⟩ (run S s e) = .ok ⟨rep S ivs', E'⟩ (addrOf S s) ∧
    Spec (addrOf S) S.length ivs E s e ivs' E'

/-- `__gap_add_vertex` of the run `s..e-1` between `pre` and `post`; a block of `post` it runs into
    is handled by `rec` on what remains from there. -/
theorem gapAdd_spec (hS : StreamOK S) (rec : Graph → Block → Res) (E : Edges) {pre post : List Iv} {s e : Nat}
    (hok : IvsOK S.length (pre ++ post)) (hse : s < e) (he : e ≤ S.length)
    (hpre : ∀ iv ∈ pre, iv.2 ≤ s) (hpost : ∀ iv ∈ post, s < iv.1)
    (hrec : ∀ ns ne post', post = (ns, ne) :: post' → ns < e → ∀ ivs1 E1, IvsOK S.length ivs1 →
      Inserts S rec ivs1 E1 ns e)
    (i : Option Nat) (hi : nextIdx i = pre.length) :
    ∃ ivs' E', gapAdd rec ⟨rep S (pre ++ post), E⟩ (run S s e) (addrOf S s) i = .ok ⟨rep S ivs', E'⟩ (addrOf S s) ∧
      Spec (addrOf S) S.length (pre ++ post) E s e ivs' E' := by
  unfold gapAdd
  have hget : (rep S (pre ++ post))[nextIdx i]? = (rep S post)[0]? := by
    rw [hi, rep_append, ← rep_length (S := S) pre, List.getElem?_append_right (Nat.le_refl _)]
    simp
  simp only [hget, zoneWrite]
  cases post with
  | nil =>
    refine ⟨_, E, ?_, spec_plain _ E hok hse he hpre nofun⟩
    rw [addtomap_gap hS pre [] s e hok hse he hpre nofun]
    rfl
  | cons hd post' =>
    obtain ⟨ns, ne⟩ := hd
    have hm : ns < ne ∧ ne ≤ S.length := hok.mid
    have hns : s < ns := hpost (ns, ne) (by simp)
    have hafter : ∀ iv ∈ (ns, ne) :: post', ns ≤ iv.1 := by
      intro iv hiv
      rcases List.mem_cons.mp hiv with rfl | hiv
      · exact Nat.le_refl _
      · have : ne ≤ iv.1 := hok.after hiv; omega
    have haddr : address? (repMo S (ns, ne)).blk = some (addrOf S ns) :=
      address_run hS ns ne hm.1 hm.2
    simp only [rep_cons, List.getElem?_cons_zero, haddr]
    have hcond : (addrOf S s + blen (run S s e) > addrOf S ns) ↔ ns < e := by
      rw [addrOf_add s e (by omega) he]
      exact addrOf_lt_iff hS ns e (by omega) he
    by_cases hlt : ns < e
    · have first := spec_plain (addrOf S) E hok hns (by omega) hpre hafter
      obtain ⟨ivs2, E2, hr, second⟩ := hrec ns ne post' rfl hlt _ E first.ok
      refine ⟨ivs2, _, ?_, spec_seq _ first second hns hlt (by simp) (Or.inl ⟨ne, by simp⟩)⟩
      rw [if_pos (hcond.mpr hlt), cut_run hS s ns e (by omega) hlt he]
      simp only
      rw [if_neg (by omega), run_drop_tail s ns e (by omega) (by omega) he, addtomap_gap hS pre ((ns, ne) :: post') s ns hok hns (by omega) hpre hafter]
      simp only [hr]
    · refine ⟨_, E, ?_, spec_plain _ E hok hse he hpre (fun iv hiv => by have := hafter iv hiv; omega)⟩
      rw [if_neg (fun h => hlt (hcond.mp h)), addtomap_gap hS pre ((ns, ne) :: post') s e hok hse he hpre
        (fun iv hiv => by have := hafter iv hiv; omega)]

theorem transfer_eq (from_ to_ : Nat) (succ : List Nat) (E : Edges) :
    succ.foldl (fun es t => removeEdge (addEdge es (to_, t)) (from_, t)) E = transfer from_ to_ succ E := rfl

/-- `__cut_add_vertex`: the run `s..e-1` starts in the stored run `(os, oe)` -/
theorem cutAdd_spec (hS : StreamOK S) (f : Nat)
    (ih : ∀ ivs E s e, IvsOK S.length ivs → s < e → e ≤ S.length → e - s < f → Inserts S (addVertex f) ivs E s e)
    (pre0 post : List Iv) (E : Edges) (os oe s e : Nat) (hok : IvsOK S.length (pre0 ++ (os, oe) :: post))
    (hos : os ≤ s) (hin : s < oe) (hse : s < e) (he : e ≤ S.length) (hf : e - s ≤ f)
    (hpost : ∀ iv ∈ post, s < iv.1) :
    ∃ ivs' E', cutAdd (addVertex f) ⟨rep S (pre0 ++ (os, oe) :: post), E⟩ (run S s e) (addrOf S s) pre0.length
        (repMo S (os, oe)) = .ok ⟨rep S ivs', E'⟩ (addrOf S s) ∧
      Spec (addrOf S) S.length (pre0 ++ (os, oe) :: post) E s e ivs' E' := by
  have hmm : os < oe ∧ oe ≤ S.length := hok.mid
  have hmemO : (os, oe) ∈ pre0 ++ (os, oe) :: post := by simp
  have haddr : address? (run S os oe) = some (addrOf S os) := address_run hS os oe hmm.1 hmm.2
  have hblk : (repMo S (os, oe)).blk = run S os oe := rfl
  have hva : (repMo S (os, oe)).vaddr = addrOf S os := rfl
  unfold cutAdd
  simp only [hblk, hva, haddr]
  by_cases hsame : os = s
  · subst hsame
    have hlenc : (blen (run S os e) > blen (run S os oe)) ↔ oe < e :=
      blen_run_lt_iff hS os oe e (by omega) (by omega) hmm.2 he
    rw [if_pos rfl]
    by_cases hlong : oe < e
    · obtain ⟨ivs2, E2, hr, second⟩ := ih _ E oe e hok hlong he (by omega)
      refine ⟨ivs2, _, ?_, spec_seq _ (spec_inside _ E hok hmemO (Nat.le_refl _)) second hin hlong hmemO ?_⟩
      · rw [if_pos (hlenc.mpr hlong), getitem_run hS os oe e (by omega) hlong he]
        simp only [hr]
      · by_cases hc : cov (pre0 ++ (os, oe) :: post) oe
        · left
          obtain ⟨⟨a, b⟩, hiv, g1, g2⟩ := hc
          rcases hok.sep hiv hmemO with heq | hlt | hlt
          · cases heq; omega
          · omega
          · exact ⟨b, (show a = oe by omega) ▸ hiv⟩
        · exact Or.inr ⟨⟨(os, oe), hmemO, by omega, by omega⟩, hc⟩
    · exact ⟨_, E, by rw [if_neg (fun h => hlong (hlenc.mp h))], spec_inside _ E hok hmemO (by omega)⟩
  · have hos' : os < s := by omega
    have hne : ¬ (some (addrOf S os) = some (addrOf S s)) := fun h =>
      hsame (addrOf_inj hS os s (by omega) (by omega) (Option.some.inj h))
    have hv1 : (if blen (run S s oe) > blen (run S s e) then run S s oe else run S s e) =
        run S s (if e < oe then oe else e) := by
      have := blen_run_lt_iff hS s e oe (by omega) (by omega) he hmm.2
      by_cases h : e < oe
      · rw [if_pos h, if_pos (this.mpr h)]
      · rw [if_neg h, if_neg (fun hh => h (this.mp hh))]
    have hset : (rep S (pre0 ++ (os, oe) :: post)).set pre0.length ⟨addrOf S os, run S os s⟩ =
        rep S ((pre0 ++ [(os, s)]) ++ post) := by
      rw [rep_append, ← rep_length (S := S) pre0]
      simp [repMo]
    have hok1 : IvsOK S.length ((pre0 ++ [(os, s)]) ++ post) := by
      simpa using ivsOK_shrink hok hos' (by omega)
    have hloc1 : locate (rep S ((pre0 ++ [(os, s)]) ++ post)) (addrOf S s) = some pre0.length := by
      simpa using locate_rep_some hS pre0 post (os, s) s (by simpa using hok1) (by omega) (by omega) hpost
    have hrec : ∀ ns ne post', post = (ns, ne) :: post' → ns < (if e < oe then oe else e) → ∀ ivs1 E1,
        IvsOK S.length ivs1 → Inserts S (addVertex f) ivs1 E1 ns (if e < oe then oe else e) := by
      intro ns ne post' hp hlt ivs1 E1 hok1
      have hge : oe ≤ ns := hok.after (b := (ns, ne)) (by rw [hp]; exact List.mem_cons_self ..)
      have hns : s < ns := hpost (ns, ne) (by rw [hp]; exact List.mem_cons_self ..)
      have hnot : ¬ e < oe := fun h => by rw [if_pos h] at hlt; omega
      rw [if_neg hnot] at hlt ⊢
      exact ih ivs1 E1 ns e hok1 hlt he (by omega)
    obtain ⟨ivs2, E2, hr, second⟩ := gapAdd_spec hS (addVertex f) E hok1 (s := s) (e := if e < oe then oe else e)
      (by split <;> omega) (by split <;> omega)
      (fun iv hiv => by
        rcases List.mem_append.mp hiv with hx | hx
        · have := hok.before hx; omega
        · rw [List.mem_singleton.mp hx]; omega)
      hpost hrec (some pre0.length) (by simp [nextIdx])
    refine ⟨ivs2, _, ?_, spec_cut _ (fun a b ha hb => addrOf_inj hS a b ha hb) hok hos' hin
      (by simpa using second)⟩
    rw [if_neg hne, cut_run hS os s oe (by omega) hin hmm.2]
    simp only
    rw [if_neg (by omega), run_drop_tail os s oe hos (by omega) hmm.2, hv1, hset, hloc1, hr]
    rfl

/- Every recursive call of `add_vertex` is on what remains of the run `s..e-1` from a later start (`ns`,
   or `oe`) to the same end `e`: `e - s` decreases, and `fuel = (run S s e).length + 1` (`addAll`) is
   enough. -/
theorem addVertex_spec (hS : StreamOK S) : ∀ (fuel : Nat) (ivs : List Iv) (E : Edges) (s e : Nat),
    IvsOK S.length ivs → s < e → e ≤ S.length → e - s < fuel → Inserts S (addVertex fuel) ivs E s e := by
  intro fuel
  induction fuel with
  | zero => intro ivs E s e _ _ _ h; omega
  | succ f ih =>
    intro ivs E s e hok hse he hf
    have hrec : ∀ (post : List Iv) ns ne post', post = (ns, ne) :: post' → (∀ iv ∈ post, s < iv.1) → ns < e → ∀ ivs1 E1,
        IvsOK S.length ivs1 → Inserts S (addVertex f) ivs1 E1 ns e := by
      intro post ns ne post' hp hpost hlt ivs1 E1 hok1
      have : s < ns := hpost (ns, ne) (by rw [hp]; exact List.mem_cons_self ..)
      exact ih ivs1 E1 ns e hok1 hlt he (by omega)
    unfold Inserts addVertex
    simp only [address_run hS s e hse he]
    rcases ivs_split s ivs with hall | ⟨pre0, os, oe, post, rfl, hos, hpost⟩
    · rw [locate_rep_none hS ivs s hok hall]
      exact gapAdd_spec hS (addVertex f) E (pre := []) hok hse he nofun hall
        (fun ns ne post' hp => hrec ivs ns ne post' hp hall) none rfl
    · have hmm : os < oe ∧ oe ≤ S.length := hok.mid
      have hcont : (repMo S (os, oe)).contains (addrOf S s) = decide (s < oe) := by
        rw [repMo_contains hS (os, oe) s (by omega) (by omega) (by omega)]
        simp [hos]
      rw [locate_rep_some hS pre0 post (os, oe) s hok (by omega) hos hpost]
      simp only [rep_getElem?_mid, hcont]
      by_cases hin : s < oe
      · rw [if_pos (decide_eq_true hin)]
        exact cutAdd_spec hS f ih pre0 post E os oe s e hok hos hin hse he (by omega) hpost
      · rw [if_neg (by simpa using hin), List.append_cons]
        refine gapAdd_spec hS (addVertex f) E (List.append_cons .. ▸ hok) hse he ?_ hpost
          (fun ns ne post' hp => hrec post ns ne post' hp hpost) (some pre0.length) (by simp [nextIdx])
        intro iv hiv
        rcases List.mem_append.mp hiv with hx | hx
        · have := hok.before hx; omega
        · rw [List.mem_singleton.mp hx]; omega

theorem addr_of_getElem? (hS : StreamOK S) {k : Nat} {x : Instr} (h : S[k]? = some x) :
    k < S.length ∧ x.addr = addrOf S k := by
  obtain ⟨hk, rfl⟩ := List.getElem?_eq_some_iff.mp h
  exact ⟨hk, addrOf_getElem hS k hk⟩

theorem stream_index_unique (hS : StreamOK S) {i j : Nat} {x : Instr}
    (hi : S[i]? = some x) (hj : S[j]? = some x) : i = j := by
  obtain ⟨h1, a1⟩ := addr_of_getElem? hS hi
  obtain ⟨h2, a2⟩ := addr_of_getElem? hS hj
  exact addrOf_inj hS i j (by omega) (by omega) (a1.symm.trans a2)

theorem mem_flatten_rep {ivs : List Iv} (hok : IvsOK S.length ivs) (x : Instr) :
    x ∈ ((rep S ivs).map (·.blk)).flatten ↔ ∃ k, cov ivs k ∧ S[k]? = some x := by
  rw [List.mem_flatten]
  constructor
  · rintro ⟨l, hl, hx⟩
    simp only [rep, List.map_map, List.mem_map] at hl
    obtain ⟨iv, hiv, rfl⟩ := hl
    have hm := hok.mem hiv
    simp only [Function.comp, repMo] at hx
    obtain ⟨k, h1, h2, h3⟩ := (mem_run hm.2).mp hx
    exact ⟨k, ⟨iv, hiv, h1, h2⟩, h3⟩
  · rintro ⟨k, ⟨iv, hiv, h1, h2⟩, h3⟩
    have hm := hok.mem hiv
    refine ⟨run S iv.1 iv.2, ?_, (mem_run hm.2).mpr ⟨k, h1, h2, h3⟩⟩
    simp only [rep, List.map_map, List.mem_map]
    exact ⟨iv, hiv, rfl⟩

theorem run_sorted (hS : StreamOK S) (s e : Nat) (he : e ≤ S.length) :
    (run S s e).Pairwise (fun x y => x.addr < y.addr) := by
  rw [List.pairwise_iff_getElem]
  intro i j hi hj hij
  rw [run_length s e he] at hi hj
  rw [run_getElem s e i he hi, run_getElem s e j he hj, addrOf_getElem hS, addrOf_getElem hS]
  exact addrOf_lt hS _ _ (by omega) (by omega)

theorem flatten_rep_sorted (hS : StreamOK S) {ivs : List Iv} (hok : IvsOK S.length ivs) :
    (((rep S ivs).map (·.blk)).flatten).Pairwise (fun x y => x.addr < y.addr) := by
  rw [List.pairwise_flatten]
  constructor
  · intro l hl
    simp only [rep, List.map_map, List.mem_map] at hl
    obtain ⟨iv, hiv, rfl⟩ := hl
    exact run_sorted hS _ _ (hok.mem hiv).2
  · simp only [rep, List.map_map]
    rw [List.pairwise_map]
    refine hok.2.imp_of_mem fun {a b} ha hb hab x hx y hy => ?_
    obtain ⟨k1, _, g2, g3⟩ := (mem_run (hok.mem ha).2).mp hx
    obtain ⟨k2, f1, f2, f3⟩ := (mem_run (hok.mem hb).2).mp hy
    obtain ⟨hk1, a1⟩ := addr_of_getElem? hS g3
    obtain ⟨hk2, a2⟩ := addr_of_getElem? hS f3
    rw [a1, a2]
    exact addrOf_lt hS _ _ (by omega) (by omega)

theorem rep_pairwise {ivs : List Iv} (hok : IvsOK S.length ivs) :
    (rep S ivs).Pairwise (fun m1 m2 => m1.end ≤ m2.vaddr) := by
  simp only [rep]
  rw [List.pairwise_map]
  refine hok.2.imp_of_mem fun {a b} ha hb hab => ?_
  have ma := hok.mem ha
  have mb := hok.mem hb
  rw [repMo_end a (by omega) ma.2]
  exact addrOf_le _ _ hab (by omega)

/-- `ivs`, `E` after the runs `H` have been inserted: exactly their positions are covered, and a
    boundary between two stored blocks strictly inside an inserted run has its fall-through edge -/
structure HInv (A : Nat → Nat) (n : Nat) (H : List Iv) (ivs : List Iv) (E : Edges) : Prop where
  ok : IvsOK n ivs
  covers : ∀ k, cov ivs k ↔ ∃ h ∈ H, h.1 ≤ k ∧ k < h.2
  edges : ∀ p, (∃ a, (a, p) ∈ ivs) → (∃ b, (p, b) ∈ ivs) → (∃ h ∈ H, h.1 < p ∧ p < h.2) → fall A ivs E p

theorem hinv_empty (A : Nat → Nat) (n : Nat) : HInv A n [] [] [] :=
  ⟨ivsOK_nil, by simp [cov], by simp⟩

theorem hinv_step {A : Nat → Nat} {n : Nat} {H ivs ivs' : List Iv} {E E' : Edges} {s e : Nat}
    (h : HInv A n H ivs E) (sp : Spec A n ivs E s e ivs' E') : HInv A n ((s, e) :: H) ivs' E' := by
  refine ⟨sp.ok, ?_, ?_⟩
  · intro k
    rw [sp.covers, h.covers]
    constructor
    · rintro (⟨x, hx, g⟩ | g)
      · exact ⟨x, List.mem_cons_of_mem _ hx, g⟩
      · exact ⟨(s, e), by simp, g⟩
    · rintro ⟨x, hx, g⟩
      rcases List.mem_cons.mp hx with rfl | hx
      · exact Or.inr g
      · exact Or.inl ⟨x, hx, g⟩
  · rintro p ⟨a, ha⟩ ⟨b, hb⟩ ⟨x, hx, g1, g2⟩
    rcases List.mem_cons.mp hx with rfl | hx
    · exact sp.espan p g1 g2 ⟨a, ha⟩ ⟨b, hb⟩
    · have c1 : cov ivs (p - 1) := (h.covers _).mpr ⟨x, hx, by omega, by omega⟩
      have c2 : cov ivs p := (h.covers _).mpr ⟨x, hx, by omega, g2⟩
      by_cases hst : ∃ b0, (p, b0) ∈ ivs
      · obtain ⟨b0, hb0⟩ := hst
        obtain ⟨a0, ha0⟩ := h.ok.pred_block hb0 c1 (by omega)
        exact sp.epres p (h.edges p ⟨a0, ha0⟩ ⟨b0, hb0⟩ ⟨x, hx, g1, g2⟩)
      · obtain ⟨iv, hiv, f1, f2⟩ := c2
        have : iv.1 ≠ p := by
          intro heq
          exact hst ⟨iv.2, by rw [← heq]; exact hiv⟩
        exact sp.ecut p ⟨iv, hiv, by omega, f2⟩ ⟨b, hb⟩

theorem addAll_spec (hS : StreamOK S) :
    ∀ (H Hdone ivs : List Iv) (E : Edges), (∀ h ∈ H, h.1 < h.2 ∧ h.2 ≤ S.length) →
      HInv (addrOf S) S.length Hdone ivs E →
      ∃ ivs' E', addAll ⟨rep S ivs, E⟩ (H.map (fun h => run S h.1 h.2)) = some ⟨rep S ivs', E'⟩ ∧
        HInv (addrOf S) S.length (H.reverse ++ Hdone) ivs' E' := by
  intro H
  induction H with
  | nil => intro Hdone ivs E _ hinv; exact ⟨ivs, E, rfl, by simpa using hinv⟩
  | cons h H ih =>
    intro Hdone ivs E hH hinv
    obtain ⟨s, e⟩ := h
    have hse := hH (s, e) (by simp)
    simp only at hse
    obtain ⟨ivs1, E1, hr, sp⟩ := addVertex_spec hS ((run S s e).length + 1) ivs E s e hinv.ok hse.1 hse.2
      (by rw [run_length s e hse.2]; omega)
    obtain ⟨ivs', E', hr', hinv'⟩ := ih ((s, e) :: Hdone) ivs1 E1 (fun x hx => hH x (List.mem_cons_of_mem _ hx))
      (hinv_step hinv sp)
    refine ⟨ivs', E', ?_, ?_⟩
    · simp only [List.map_cons, addAll, hr]
      exact hr'
    · simpa using hinv'


def IsRun (S : List Instr) (v : Block) : Prop := v ≠ [] ∧ v <:+: S

theorem hist_indices (hist : List Block) (hh : ∀ v ∈ hist, IsRun S v) :
    ∃ H : List Iv, (∀ h ∈ H, h.1 < h.2 ∧ h.2 ≤ S.length) ∧ hist = H.map (fun h => run S h.1 h.2) := by
  induction hist with
  | nil => exact ⟨[], by simp, rfl⟩
  | cons v r ih =>
    obtain ⟨H, h1, h2⟩ := ih (fun v hv => hh v (List.mem_cons_of_mem _ hv))
    obtain ⟨hne, hin⟩ := hh v (by simp)
    obtain ⟨s, e, hse, he, rfl⟩ := isInfix_run v hne hin
    refine ⟨(s, e) :: H, ?_, by simp [h2]⟩
    intro h hm
    rcases List.mem_cons.mp hm with rfl | hm
    · exact ⟨hse, he⟩
    · exact h1 h hm

/-- the outcome of an insertion history in index space; the covered positions are those of the
    inserted instructions -/
theorem history_result (hS : StreamOK S) (hist : List Block) (hh : ∀ v ∈ hist, IsRun S v) :
    ∃ (H ivs : List Iv) (E : Edges), (∀ h ∈ H, h.1 < h.2 ∧ h.2 ≤ S.length) ∧
      hist = H.map (fun h => run S h.1 h.2) ∧
      addAll Graph.empty hist = some ⟨rep S ivs, E⟩ ∧ HInv (addrOf S) S.length H.reverse ivs E ∧
      ∀ x, (∃ k, cov ivs k ∧ S[k]? = some x) ↔ ∃ v ∈ hist, x ∈ v := by
  obtain ⟨H, hH, rfl⟩ := hist_indices hist hh
  obtain ⟨ivs, E, hr, hinv⟩ := addAll_spec hS H [] [] [] hH (hinv_empty _ _)
  rw [List.append_nil] at hinv
  refine ⟨H, ivs, E, hH, rfl, hr, hinv, fun x => ⟨?_, ?_⟩⟩
  · rintro ⟨k, hc, hk⟩
    obtain ⟨h, hm, g1, g2⟩ := (hinv.covers k).mp hc
    have hm' := List.mem_reverse.mp hm
    exact ⟨_, List.mem_map.mpr ⟨h, hm', rfl⟩, (mem_run (hH h hm').2).mpr ⟨k, g1, g2, hk⟩⟩
  · rintro ⟨v, hv, hx⟩
    obtain ⟨h, hm, rfl⟩ := List.mem_map.mp hv
    obtain ⟨k, g1, g2, hk⟩ := (mem_run (hH h hm).2).mp hx
    exact ⟨k, (hinv.covers k).mpr ⟨h, List.mem_reverse.mpr hm, g1, g2⟩, hk⟩

theorem getWithAddress_rep_some (hS : StreamOK S) {ivs : List Iv} (E : Edges) (hok : IvsOK S.length ivs)
    {iv : Iv} (hiv : iv ∈ ivs) {k : Nat} (h1 : iv.1 ≤ k) (h2 : k < iv.2) :
    getWithAddress ⟨rep S ivs, E⟩ (addrOf S k) = some (repMo S iv) := by
  obtain ⟨pre, post, rfl⟩ := List.append_of_mem hiv
  have hm := hok.mem hiv
  have hpost : ∀ x ∈ post, k < x.1 := fun x hx => by have := hok.after hx; omega
  unfold getWithAddress
  simp only
  rw [locate_rep_some hS pre post iv k hok (by omega) h1 hpost]
  simp only
  rw [rep_getElem?_mid]
  simp only
  rw [repMo_contains hS iv k (by omega) hm.2 (by omega)]
  simp [h1, h2]

theorem getWithAddress_rep_none (hS : StreamOK S) {ivs : List Iv} (E : Edges) (hok : IvsOK S.length ivs)
    {k : Nat} (hk : k ≤ S.length) (hc : ¬ cov ivs k) :
    getWithAddress ⟨rep S ivs, E⟩ (addrOf S k) = none := by
  unfold getWithAddress
  rcases ivs_split k ivs with hall | ⟨pre0, os, oe, post, rfl, hos, hpost⟩
  · simp only [locate_rep_none hS ivs k hok hall]
  · have hmm : os < oe ∧ oe ≤ S.length := hok.mid
    have hoe : ¬ k < oe := fun hlt => hc ⟨(os, oe), by simp, hos, hlt⟩
    simp only [locate_rep_some hS pre0 post (os, oe) k hok hk hos hpost, rep_getElem?_mid,
      repMo_contains hS (os, oe) k (by omega) (by omega) hk]
    simp [hoe]

end Amoco.Cfg
