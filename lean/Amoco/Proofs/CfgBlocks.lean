/-
  Helper lemmas for C18: iterblocks grouping, block offsets / slices / cut.
-/
import Amoco.Model.Blocks

namespace Amoco.Blocks

def lastDelayed (p : List Instr) : Bool :=
  match p.getLast? with
  | some y => y.delayed
  | none => false

def NoEnd (b : List Instr) : Prop :=
  ∀ p x q, b = p ++ x :: q → endsBlock (lastDelayed p) x = false

def ClosedBlock (b : List Instr) : Prop :=
  ∃ p x, b = p ++ [x] ∧ NoEnd p ∧ endsBlock (lastDelayed p) x = true

theorem noEnd_nil : NoEnd [] := by
  intro p x q h
  simp at h

theorem lastDelayed_append_singleton (p : List Instr) (x : Instr) : lastDelayed (p ++ [x]) = x.delayed := by
  simp [lastDelayed]

theorem noEnd_snoc (b : List Instr) (i : Instr) (hb : NoEnd b) (hi : endsBlock (lastDelayed b) i = false) :
    NoEnd (b ++ [i]) := by
  intro p x q h
  rcases List.append_eq_append_iff.mp h with ⟨as, hp, hs⟩ | ⟨bs, hb', hq⟩
  · -- p = b ++ as, [i] = as ++ x :: q
    cases as with
    | nil =>
      simp at hs
      obtain ⟨rfl, rfl⟩ := hs
      simp at hp
      subst hp
      exact hi
    | cons a as' =>
      simp at hs
  · -- b = p ++ bs, x :: q = bs ++ [i]
    cases bs with
    | nil =>
      simp at hq
      obtain ⟨rfl, rfl⟩ := hq
      simp at hb'
      subst hb'
      exact hi
    | cons c bs' =>
      simp at hq
      obtain ⟨rfl, rfl⟩ := hq
      exact hb p x bs' hb'

/-- the three branches of the sweep are the documented boundary test: close the block, or go on
    with `is_delay_slot` set by the current instruction. -/
theorem iterblocksAux_cons (i : Instr) (rest l : List Instr) (ds : Bool) :
    iterblocksAux (i :: rest) l ds =
      if endsBlock ds i then (i :: l).reverse :: iterblocksAux rest [] false
      else iterblocksAux rest (i :: l) i.delayed := by
  rw [iterblocksAux, endsBlock]
  cases hd : i.delayed <;> cases hc : i.cf <;> cases ds <;> rfl

theorem iterblocksAux_spec (s : List Instr) :
    ∀ (l : List Instr) (ds : Bool), ds = lastDelayed l.reverse → NoEnd l.reverse →
      ∃ closed trailing, iterblocksAux s l ds = closed ++ trailing ∧
        (∀ b ∈ closed, ClosedBlock b) ∧
        (trailing = [] ∨ ∃ t, trailing = [t] ∧ t ≠ [] ∧ NoEnd t) ∧
        (iterblocksAux s l ds).flatten = l.reverse ++ s := by
  induction s with
  | nil =>
    intro l ds _ hne
    unfold iterblocksAux
    by_cases hl : l.isEmpty
    · refine ⟨[], [], ?_, ?_, Or.inl rfl, ?_⟩ <;> simp [hl]
      simpa using hl
    · refine ⟨[], [l.reverse], ?_, ?_, Or.inr ⟨l.reverse, rfl, ?_, hne⟩, ?_⟩ <;> simp [hl]
      simpa using hl
  | cons i rest ih =>
    intro l ds hds hne
    have hrev : (i :: l).reverse = l.reverse ++ [i] := List.reverse_cons
    rw [iterblocksAux_cons, hds]
    cases hc : endsBlock (lastDelayed l.reverse) i
    · obtain ⟨c, t, e1, e2, e3, e4⟩ := ih (i :: l) i.delayed
        (by rw [hrev, lastDelayed_append_singleton]) (hrev ▸ noEnd_snoc _ _ hne hc)
      refine ⟨c, t, e1, e2, e3, ?_⟩
      rw [if_neg Bool.false_ne_true, e4, hrev, List.append_assoc]; rfl
    · obtain ⟨c, t, e1, e2, e3, e4⟩ := ih [] false rfl noEnd_nil
      rw [if_pos rfl]
      refine ⟨(i :: l).reverse :: c, t, by rw [e1]; rfl, ?_, e3, ?_⟩
      · intro b hb
        rcases List.mem_cons.mp hb with rfl | hb
        · exact ⟨l.reverse, i, hrev, hne, hc⟩
        · exact e2 b hb
      · rw [List.flatten_cons, e4, hrev, List.append_assoc]; rfl


@[simp] theorem blen_nil : blen [] = 0 := rfl
@[simp] theorem blen_cons (i : Instr) (b : Block) : blen (i :: b) = i.length + blen b := by
  simp [blen]
theorem blen_append (a b : Block) : blen (a ++ b) = blen a + blen b := by
  induction a with
  | nil => simp
  | cons i a ih => simp [ih]; omega

@[simp] theorem raw_nil : raw [] = [] := rfl
@[simp] theorem raw_cons (i : Instr) (b : Block) : raw (i :: b) = i.bytes ++ raw b := by
  simp [raw]
theorem raw_append (a b : Block) : raw (a ++ b) = raw a ++ raw b := by
  simp [raw]

theorem raw_length (b : Block) : (raw b).length = blen b := by
  induction b with
  | nil => rfl
  | cons i b ih => simp [ih, Instr.length]

theorem blen_take_add_drop (b : Block) (k : Nat) : blen (b.take k) + blen (b.drop k) = blen b := by
  rw [← blen_append, List.take_append_drop]

theorem raw_take (b : Block) (k : Nat) : raw (b.take k) = (raw b).take (blen (b.take k)) := by
  have h : raw b = raw (b.take k) ++ raw (b.drop k) := by
    rw [← raw_append, List.take_append_drop]
  rw [h, ← raw_length, List.take_left']
  rfl

theorem raw_drop_take (b : Block) (i j : Nat) (hij : i ≤ j) :
    raw ((b.take j).drop i) = ((raw b).take (blen (b.take j))).drop (blen (b.take i)) := by
  have h1 : raw (b.take j) = (raw b).take (blen (b.take j)) := raw_take b j
  have h2 : b.take i = (b.take j).take i := by
    rw [List.take_take]; congr; omega
  have h3 : raw (b.take j) = raw ((b.take j).take i) ++ raw ((b.take j).drop i) := by
    rw [← raw_append, List.take_append_drop]
  rw [← h1, h3, h2, ← raw_length, List.drop_left']
  rfl

theorem offsets_length (b : Block) (o : Nat) : (offsets b o).length = b.length + 1 := by
  induction b generalizing o with
  | nil => rfl
  | cons i b ih => simp [offsets, ih]

theorem offsets_getElem (b : Block) (o k : Nat) (h : k < (offsets b o).length) :
    (offsets b o)[k] = o + blen (b.take k) := by
  induction b generalizing o k with
  | nil =>
    simp [offsets] at h ⊢
  | cons i b ih =>
    cases k with
    | zero => simp [offsets]
    | succ k =>
      simp only [offsets, List.getElem_cons_succ, List.take_succ_cons, blen_cons]
      rw [ih]; omega

/-- `pos.index(a) = i` means the first `i` instructions are `a` bytes long -/
theorem offsets_idxOf (b : Block) (a i : Nat) (h : (offsets b 0).idxOf? a = some i) :
    i ≤ b.length ∧ blen (b.take i) = a := by
  rw [List.idxOf?_eq_some_iff] at h
  obtain ⟨hi, he, _⟩ := h
  rw [offsets_getElem] at he
  rw [offsets_length] at hi
  constructor <;> omega

theorem consecutive_tail {x : Instr} {r : List Instr} (h : Consecutive (x :: r)) : Consecutive r := by
  cases r with
  | nil => trivial
  | cons y r => exact h.2

theorem consecutive_append_left : ∀ {a b : List Instr}, Consecutive (a ++ b) → Consecutive a
  | [], _, _ => trivial
  | [_], _, _ => trivial
  | x :: y :: r, b, h => by
    have h' : Consecutive (x :: y :: (r ++ b)) := h
    exact ⟨h'.1, consecutive_append_left (a := y :: r) (b := b) h'.2⟩

theorem consecutive_append_right : ∀ {a b : List Instr}, Consecutive (a ++ b) → Consecutive b
  | [], _, h => h
  | _ :: r, _, h => consecutive_append_right (a := r) (consecutive_tail h)

theorem consecutive_addr : ∀ (p : List Instr) (x : Instr) (q : List Instr) (a : Instr),
    Consecutive (a :: (p ++ x :: q)) → x.addr = a.addr + blen (a :: p)
  | [], x, q, a, h => by
    have := h.1
    simp; omega
  | y :: p, x, q, a, h => by
    have h1 := h.1
    have := consecutive_addr p x q y h.2
    simp at this ⊢
    omega

theorem consecutive_end (a : Instr) (p : List Instr) (x : Instr) (h : Consecutive (a :: (p ++ [x]))) :
    x.addr + x.length = a.addr + blen (a :: (p ++ [x])) := by
  have := consecutive_addr p x [] a h
  simp [blen_append] at this ⊢
  omega


theorem consecutive_addr' (p : List Instr) (x : Instr) (q : List Instr) (a : Nat)
    (h : Consecutive (p ++ x :: q)) (ha : address? (p ++ x :: q) = some a) : x.addr = a + blen p := by
  cases p with
  | nil => simp [address?] at ha; simp [ha]
  | cons a0 p' =>
    simp [address?] at ha
    have := consecutive_addr p' x q a0 h
    omega

theorem consecutive_take (b : List Instr) (k : Nat) (h : Consecutive b) : Consecutive (b.take k) := by
  rw [← List.take_append_drop k b] at h
  exact consecutive_append_left h

theorem consecutive_drop (b : List Instr) (k : Nat) (h : Consecutive b) : Consecutive (b.drop k) := by
  rw [← List.take_append_drop k b] at h
  exact consecutive_append_right h

theorem address_drop (b : List Instr) (i : Nat) (a : Nat) (hi : i < b.length)
    (h : Consecutive b) (ha : address? b = some a) : address? (b.drop i) = some (a + blen (b.take i)) := by
  have hd : b.drop i = b[i] :: b.drop (i + 1) := by
    rw [List.drop_eq_getElem_cons hi]
  have hb : b = b.take i ++ b[i] :: b.drop (i + 1) := by
    rw [← hd, List.take_append_drop]
  have := consecutive_addr' (b.take i) b[i] (b.drop (i + 1)) a (hb ▸ h) (hb ▸ ha)
  have h2 : address? (b.drop i) = some b[i].addr := by rw [hd]; rfl
  rw [h2, this]

theorem address_take (b : List Instr) (j : Nat) (hj : 0 < j) : address? (b.take j) = address? b := by
  cases b with
  | nil => simp
  | cons x r =>
    cases j with
    | zero => omega
    | succ j => simp [address?]

theorem getitem_spec (b b' : Block) (sta sto : Option Int) (h : getitem b sta sto = some b') :
    ∃ i j, i < j ∧ j ≤ b.length ∧ b' = (b.take j).drop i ∧
      blen (b.take i) = sliceBound sta 0 (blen b) ∧
      blen (b.take j) = sliceBound sto (blen b) (blen b) := by
  unfold getitem at h
  simp only at h
  split at h
  · rename_i ista isto h1 h2
    have ⟨hi1, hi2⟩ := offsets_idxOf b _ _ h1
    have ⟨hj1, hj2⟩ := offsets_idxOf b _ _ h2
    split at h
    · cases h
    · rename_i hne
      injection h with h
      refine ⟨ista, isto, ?_, hj1, h.symm, hi2, hj2⟩
      apply Nat.lt_of_not_le
      intro hle
      apply hne
      simp
      omega
  · cases h

theorem cut_spec_none (b : Block) (addr : Nat) (h : (cut b addr).2 = 0) :
    (cut b addr).1 = b ∧ ∀ x ∈ b, x.addr ≠ addr := by
  unfold cut at h ⊢
  split
  · rename_i hn
    rw [List.idxOf?_eq_none_iff] at hn
    refine ⟨rfl, ?_⟩
    intro x hx hxa
    apply hn
    simp
    exact ⟨x, hx, hxa⟩
  · rename_i pos hp
    rw [hp] at h
    rw [List.idxOf?_eq_some_iff] at hp
    obtain ⟨hlt, _, _⟩ := hp
    simp at hlt h
    omega

theorem cut_spec_some (b : Block) (addr : Nat) (h : (cut b addr).2 ≠ 0) :
    ∃ x rem, b = (cut b addr).1 ++ x :: rem ∧ x.addr = addr ∧ (cut b addr).2 = rem.length + 1 ∧
      (∀ y ∈ (cut b addr).1, y.addr ≠ addr) ∧ (cut b addr).1 = b.take (b.length - (cut b addr).2) := by
  unfold cut at h ⊢
  split
  · rename_i hn
    simp [hn] at h
  · rename_i pos hp
    rw [List.idxOf?_eq_some_iff] at hp
    obtain ⟨hlt, he, hmin⟩ := hp
    simp at hlt he
    refine ⟨b[pos], b.drop (pos + 1), ?_, he, ?_, ?_, ?_⟩
    · simp
    · simp; omega
    · intro y hy
      simp only at hy
      obtain ⟨k, hk, rfl⟩ := List.getElem_of_mem hy
      have hk' : k < pos := by simp at hk; omega
      have := hmin k hk'
      simpa using this
    · simp only
      congr
      omega

end Amoco.Blocks
