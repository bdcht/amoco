/-
  Helper lemmas for C18: runs of one consecutive instruction stream, by instruction index.
-/
import Amoco.Proofs.CfgBlocks

namespace Amoco.Cfg

open Amoco.Blocks

/-- an instruction stream as the sweep yields it: consecutive, every instruction at least one byte.
    `pos` makes `addrOf` strictly increasing (`addrOf_lt`), so that positions and addresses determine
    each other: an instruction of length 0 would share its address with the next one. -/
structure StreamOK (S : List Instr) : Prop where
  cons : Consecutive S
  pos : ∀ x ∈ S, 0 < x.length

def base (S : List Instr) : Nat := (address? S).getD 0

/-- address of instruction `k` of the stream (`k = S.length`: the end address) -/
def addrOf (S : List Instr) (k : Nat) : Nat := base S + blen (S.take k)

def run (S : List Instr) (s e : Nat) : Block := (S.take e).drop s

variable {S : List Instr}

theorem run_length (s e : Nat) (he : e ≤ S.length) : (run S s e).length = e - s := by
  simp [run]; omega

theorem run_eq_nil_iff (s e : Nat) (he : e ≤ S.length) : run S s e = [] ↔ e ≤ s := by
  rw [← List.length_eq_zero_iff, run_length s e he]; omega

theorem run_append (s p e : Nat) (h1 : s ≤ p) (h2 : p ≤ e) (he : e ≤ S.length) :
    run S s p ++ run S p e = run S s e := by
  unfold run
  have : S.take p = (S.take e).take p := by rw [List.take_take]; congr; omega
  rw [this]
  have h3 : ((S.take e).take p).drop s ++ (S.take e).drop p = (S.take e).drop s := by
    conv => rhs; rw [← List.take_append_drop p (S.take e)]
    rw [List.drop_append_of_le_length]
    simp; omega
  exact h3

theorem run_take (s p e : Nat) (h1 : s ≤ p) (h2 : p ≤ e) : (run S s e).take (p - s) = run S s p := by
  unfold run
  rw [List.take_drop]
  rw [List.take_take]
  congr 2
  omega

theorem run_drop (s p e : Nat) (h1 : s ≤ p) : (run S s e).drop (p - s) = run S p e := by
  unfold run
  rw [List.drop_drop]
  congr 1
  omega

/-- what `cut` removes from a run: its last `e - p` instructions -/
theorem run_drop_tail (s p e : Nat) (h1 : s ≤ p) (h2 : p ≤ e) (he : e ≤ S.length) :
    (run S s e).drop ((run S s e).length - (e - p)) = run S p e := by
  rw [run_length s e he, show e - s - (e - p) = p - s by omega]
  exact run_drop s p e h1

theorem run_full : run S 0 S.length = S := by simp [run]

theorem blen_pos (hS : StreamOK S) (s e : Nat) (h : s < e) (he : e ≤ S.length) : 0 < blen (run S s e) := by
  have hne : run S s e ≠ [] := by
    intro h0; rw [run_eq_nil_iff s e he] at h0; omega
  cases hr : run S s e with
  | nil => exact absurd hr hne
  | cons x r =>
    have hx : x ∈ S := by
      have : x ∈ run S s e := by rw [hr]; simp
      exact List.mem_of_mem_take (List.mem_of_mem_drop this)
    have := hS.pos x hx
    simp; omega

theorem addrOf_add (s e : Nat) (h : s ≤ e) (he : e ≤ S.length) : addrOf S s + blen (run S s e) = addrOf S e := by
  have h1 := run_append (S := S) 0 s e (by omega) h he
  have h2 : run S 0 s = S.take s := by simp [run]
  have h3 : run S 0 e = S.take e := by simp [run]
  rw [h2, h3] at h1
  unfold addrOf
  rw [← h1, blen_append]; omega

theorem addrOf_lt (hS : StreamOK S) (s e : Nat) (h : s < e) (he : e ≤ S.length) : addrOf S s < addrOf S e := by
  have := addrOf_add (S := S) s e (by omega) he
  have := blen_pos hS s e h he
  omega

theorem addrOf_le (s e : Nat) (h : s ≤ e) (he : e ≤ S.length) : addrOf S s ≤ addrOf S e := by
  have := addrOf_add (S := S) s e h he
  omega

theorem addrOf_lt_iff (hS : StreamOK S) (s e : Nat) (hs : s ≤ S.length) (he : e ≤ S.length) :
    addrOf S s < addrOf S e ↔ s < e := by
  constructor
  · intro h
    apply Nat.lt_of_not_le
    intro hle
    have := addrOf_le (S := S) e s hle hs
    omega
  · intro h; exact addrOf_lt hS s e h he

theorem addrOf_le_iff (hS : StreamOK S) (s e : Nat) (hs : s ≤ S.length) (he : e ≤ S.length) :
    addrOf S s ≤ addrOf S e ↔ s ≤ e := by
  constructor
  · intro h
    apply Nat.le_of_not_lt
    intro hlt
    have := addrOf_lt hS e s hlt hs
    omega
  · intro h; exact addrOf_le s e h he

theorem addrOf_inj (hS : StreamOK S) (s e : Nat) (hs : s ≤ S.length) (he : e ≤ S.length)
    (h : addrOf S s = addrOf S e) : s = e := by
  have h1 := (addrOf_le_iff hS s e hs he).mp (by omega)
  have h2 := (addrOf_le_iff hS e s he hs).mp (by omega)
  omega

theorem addrOf_getElem (hS : StreamOK S) (k : Nat) (hk : k < S.length) : S[k].addr = addrOf S k := by
  have hb : S = S.take k ++ S[k] :: S.drop (k + 1) := by
    rw [← List.drop_eq_getElem_cons hk, List.take_append_drop]
  have ha : address? S = some (base S) := by
    unfold base
    cases S with
    | nil => simp at hk
    | cons x r => simp [address?]
  have hc : Consecutive (S.take k ++ S[k] :: S.drop (k + 1)) := by rw [← hb]; exact hS.cons
  have ha' : address? (S.take k ++ S[k] :: S.drop (k + 1)) = some (base S) := by rw [← hb]; exact ha
  exact consecutive_addr' (S.take k) S[k] (S.drop (k + 1)) (base S) hc ha'

theorem run_getElem (s e k : Nat) (he : e ≤ S.length) (hk : k < e - s) :
    (run S s e)[k]'(by rw [run_length s e he]; exact hk) = S[s + k]'(by omega) := by
  simp [run]

theorem run_getElem? (s e k : Nat) (hk : s + k < e) : (run S s e)[k]? = S[s + k]? := by
  simp [run, hk]

theorem run_head? (s e : Nat) (hse : s < e) : (run S s e).head? = S[s]? := by
  rw [List.head?_eq_getElem?, run_getElem? s e 0 hse]; rfl

theorem run_getLast? (s e : Nat) (hse : s < e) (he : e ≤ S.length) : (run S s e).getLast? = S[e - 1]? := by
  rw [List.getLast?_eq_getElem?, run_length s e he, run_getElem? s e _ (by omega)]
  congr 1; omega

theorem mem_run {s e : Nat} {x : Instr} (he : e ≤ S.length) :
    x ∈ run S s e ↔ ∃ k, s ≤ k ∧ k < e ∧ S[k]? = some x := by
  rw [List.mem_iff_getElem?]
  constructor
  · rintro ⟨i, hi⟩
    have hl := (List.getElem?_eq_some_iff.mp hi).1
    rw [run_length s e he] at hl
    exact ⟨s + i, by omega, by omega, by rw [← run_getElem? s e i (by omega)]; exact hi⟩
  · rintro ⟨k, h1, h2, h3⟩
    exact ⟨k - s, by rw [run_getElem? s e _ (by omega), ← h3]; congr 1; omega⟩
theorem address_run (hS : StreamOK S) (s e : Nat) (h : s < e) (he : e ≤ S.length) :
    address? (run S s e) = some (addrOf S s) := by
  unfold address?
  rw [run_head? s e h, List.getElem?_eq_getElem (by omega), Option.map_some, addrOf_getElem hS s (by omega)]

theorem consecutive_run (hS : StreamOK S) (s e : Nat) : Consecutive (run S s e) :=
  consecutive_drop _ _ (consecutive_take _ _ hS.cons)

theorem run_addr_getElem (hS : StreamOK S) (s e k : Nat) (he : e ≤ S.length) (hk : k < e - s) :
    ((run S s e).map (·.addr))[k]'(by simp [run_length s e he]; exact hk) = addrOf S (s + k) := by
  simp only [List.getElem_map]
  rw [run_getElem s e k he hk, addrOf_getElem hS]

theorem cut_run (hS : StreamOK S) (s p e : Nat) (h1 : s ≤ p) (h2 : p < e) (he : e ≤ S.length) :
    cut (run S s e) (addrOf S p) = (run S s p, e - p) := by
  have hidx : ((run S s e).map (·.addr)).idxOf? (addrOf S p) = some (p - s) := by
    rw [List.idxOf?_eq_some_iff]
    refine ⟨by simp [run_length s e he]; omega, ?_, ?_⟩
    · rw [run_addr_getElem hS s e (p - s) he (by omega)]
      congr 1; omega
    · intro j hj
      rw [run_addr_getElem hS s e j he (by omega)]
      intro heq
      have := addrOf_inj hS (s + j) p (by omega) (by omega) heq
      omega
  unfold cut
  rw [hidx]
  simp only
  rw [run_take s p e h1 (by omega), run_length s e he]
  congr 1
  omega

theorem offsets_run_getElem (s e k : Nat) (hse : s ≤ e) (he : e ≤ S.length) (hk : k ≤ e - s) :
    (offsets (run S s e) 0)[k]'(by rw [offsets_length, run_length s e he]; omega) = blen (run S s (s + k)) := by
  rw [offsets_getElem]
  have := run_take (S := S) s (s + k) e (by omega) (by omega)
  rw [show s + k - s = k by omega] at this
  rw [this]; omega

theorem blen_run_lt_iff (hS : StreamOK S) (s a b : Nat) (ha : s ≤ a) (hb : s ≤ b) (ha' : a ≤ S.length) (hb' : b ≤ S.length) :
    blen (run S s a) < blen (run S s b) ↔ a < b := by
  have h1 := addrOf_add (S := S) s a ha ha'
  have h2 := addrOf_add (S := S) s b hb hb'
  have := addrOf_lt_iff hS a b ha' hb'
  omega

theorem offsets_run_idxOf (hS : StreamOK S) (s p e : Nat) (h1 : s ≤ p) (h2 : p ≤ e) (he : e ≤ S.length) :
    (offsets (run S s e) 0).idxOf? (blen (run S s p)) = some (p - s) := by
  rw [List.idxOf?_eq_some_iff]
  refine ⟨by rw [offsets_length, run_length s e he]; omega, ?_, ?_⟩
  · rw [offsets_run_getElem s e (p - s) (by omega) he (by omega)]
    congr 2; omega
  · intro j hj
    rw [offsets_run_getElem s e j (by omega) he (by omega)]
    have := (blen_run_lt_iff hS s (s + j) p (by omega) h1 (by omega) (by omega)).mpr (by omega)
    omega

/-- `v[len(old):]` for `old` a proper prefix run of `v` -/
theorem getitem_run (hS : StreamOK S) (s p e : Nat) (h1 : s ≤ p) (h2 : p < e) (he : e ≤ S.length) :
    getitem (run S s e) (some (blen (run S s p) : Int)) none = some (run S p e) := by
  have hle : blen (run S s p) ≤ blen (run S s e) :=
    Nat.le_of_lt ((blen_run_lt_iff hS s p e h1 (by omega) (by omega) he).mpr h2)
  unfold getitem
  simp only [sliceBound]
  have hneg : ¬ ((blen (run S s p) : Int) < 0) := by omega
  simp only [hneg, if_false, Int.toNat_natCast]
  rw [Nat.min_eq_left hle]
  rw [offsets_run_idxOf hS s p e h1 (by omega) he]
  have := offsets_run_idxOf hS s e e (by omega) (by omega) he
  rw [this]
  simp only
  have ht : (run S s e).take (e - s) = run S s e := by
    rw [List.take_of_length_le]; rw [run_length s e he]; omega
  rw [ht, run_drop s p e h1]
  have hne : run S p e ≠ [] := by
    intro h0; rw [run_eq_nil_iff p e he] at h0; omega
  simp [hne]

theorem isInfix_run (v : Block) (hv : v ≠ []) (h : v <:+: S) :
    ∃ s e, s < e ∧ e ≤ S.length ∧ v = run S s e := by
  obtain ⟨pre, post, hS⟩ := h
  refine ⟨pre.length, pre.length + v.length, ?_, ?_, ?_⟩
  · have : 0 < v.length := List.length_pos_iff.mpr hv
    omega
  · rw [← hS]; simp
  · unfold run
    rw [← hS]
    simp [List.take_append]

theorem run_isInfix (s e : Nat) (h : s ≤ e) : run S s e <:+: S := by
  refine ⟨S.take s, S.drop e, ?_⟩
  unfold run
  have h1 : S.take s = (S.take e).take s := by rw [List.take_take]; congr; omega
  rw [h1, List.take_append_drop, List.take_append_drop]

end Amoco.Cfg
