/-
  Helper lemmas for C18: the support zone of runs of one stream — `locate` and non-overlapping
  `addtomap` on represented zones.
-/
import Amoco.Model.Cfg
import Amoco.Proofs.CfgStream
import Amoco.Proofs.CfgAbs

namespace Amoco.Cfg

open Amoco.Blocks

theorem bisectLeft_zero {p : List Nat} {a : Nat} (h : ∀ x ∈ p, a ≤ x) : bisectLeft p a = 0 := by
  cases p with
  | nil => rfl
  | cons x r =>
    have := h x (List.mem_cons_self ..)
    simp [bisectLeft, List.takeWhile_cons]; omega

theorem bisectLeft_append {p1 p2 : List Nat} {a : Nat} (h : ∀ x ∈ p1, x < a) :
    bisectLeft (p1 ++ p2) a = p1.length + bisectLeft p2 a := by
  unfold bisectLeft
  rw [List.takeWhile_append_of_pos (by simpa using h), List.length_append]

theorem locate_before {z : Zone} {a : Nat} (h : ∀ x ∈ z, a < x.vaddr) : locate z a = none := by
  have hp : ∀ x ∈ z.map (·.vaddr), a < x := by simpa using h
  unfold locate
  rw [if_neg (fun hm => Nat.lt_irrefl _ (hp a hm)), bisectLeft_zero (fun x hx => Nat.le_of_lt (hp x hx))]
  rfl

theorem locate_mid {z1 z2 : Zone} {m : Mo} {a : Nat} (h1 : ∀ x ∈ z1, x.vaddr < m.vaddr) (hm : m.vaddr ≤ a)
    (h2 : ∀ x ∈ z2, a < x.vaddr) : locate (z1 ++ m :: z2) a = some z1.length := by
  have hp1 : ∀ x ∈ z1.map (·.vaddr), x < m.vaddr := by simpa using h1
  have hp2 : ∀ x ∈ z2.map (·.vaddr), a < x := by simpa using h2
  have hn1 : a ∉ z1.map (·.vaddr) := fun hx => by have := hp1 a hx; omega
  unfold locate
  simp only [List.map_append, List.map_cons]
  by_cases heq : m.vaddr = a
  · rw [if_pos (by simp [heq]), List.idxOf_append, if_neg hn1, heq, List.idxOf_cons_self]
    simp
  · have hn : a ∉ z1.map (·.vaddr) ++ m.vaddr :: z2.map (·.vaddr) := fun hx => by
      rcases List.mem_append.mp hx with hx | hx
      · exact hn1 hx
      · rcases List.mem_cons.mp hx with hx | hx
        · exact heq hx.symm
        · exact Nat.lt_irrefl _ (hp2 a hx)
    rw [if_neg hn, List.append_cons, bisectLeft_append, bisectLeft_zero (fun x hx => Nat.le_of_lt (hp2 x hx))]
    · simp
    · intro x hx
      rcases List.mem_append.mp hx with hx | hx
      · have := hp1 x hx; omega
      · rw [List.mem_singleton.mp hx]; omega

/-- the zone entry that the index interval `iv` of the stream `S` stands for; `rep` does the same for
    a list of intervals.  The refinement (`Proofs/Cfg.lean`) is stated on zones of the form `rep S ivs`. -/
def repMo (S : List Instr) (iv : Iv) : Mo := ⟨addrOf S iv.1, run S iv.1 iv.2⟩
def rep (S : List Instr) (ivs : List Iv) : Zone := ivs.map (repMo S)

variable {S : List Instr}

@[simp] theorem rep_nil : rep S [] = [] := rfl
@[simp] theorem rep_cons (iv : Iv) (ivs : List Iv) : rep S (iv :: ivs) = repMo S iv :: rep S ivs := rfl
@[simp] theorem rep_append (a b : List Iv) : rep S (a ++ b) = rep S a ++ rep S b := by simp [rep]
theorem rep_length (a : List Iv) : (rep S a).length = a.length := by simp [rep]

theorem rep_getElem?_mid (pre post : List Iv) (iv : Iv) :
    (rep S (pre ++ iv :: post))[pre.length]? = some (repMo S iv) := by
  rw [rep_append, ← rep_length (S := S) pre, List.getElem?_append_right (Nat.le_refl _)]
  simp

theorem repMo_end (iv : Iv) (h1 : iv.1 ≤ iv.2) (h2 : iv.2 ≤ S.length) : (repMo S iv).end = addrOf S iv.2 := by
  simp [Mo.end, repMo, addrOf_add iv.1 iv.2 h1 h2]

theorem repMo_contains (hS : StreamOK S) (iv : Iv) (p : Nat) (h1 : iv.1 ≤ iv.2) (h2 : iv.2 ≤ S.length)
    (hp : p ≤ S.length) : (repMo S iv).contains (addrOf S p) = (decide (iv.1 ≤ p) && decide (p < iv.2)) := by
  unfold Mo.contains
  rw [repMo_end iv h1 h2]
  simp only [repMo]
  have e1 : (addrOf S iv.1 ≤ addrOf S p) ↔ iv.1 ≤ p := addrOf_le_iff hS _ _ (by omega) hp
  have e2 : (addrOf S p < addrOf S iv.2) ↔ p < iv.2 := addrOf_lt_iff hS _ _ hp h2
  simp [e1, e2]

theorem locate_rep_none (hS : StreamOK S) (ivs : List Iv) (p : Nat) (hok : IvsOK S.length ivs)
    (h : ∀ x ∈ ivs, p < x.1) : locate (rep S ivs) (addrOf S p) = none := by
  refine locate_before fun m hm => ?_
  obtain ⟨iv, hiv, rfl⟩ := List.mem_map.mp hm
  exact addrOf_lt hS p iv.1 (h iv hiv) (by have := hok.mem hiv; omega)

theorem locate_rep_some (hS : StreamOK S) (pre post : List Iv) (iv : Iv) (p : Nat)
    (hok : IvsOK S.length (pre ++ iv :: post)) (hp : p ≤ S.length)
    (h1 : iv.1 ≤ p) (h2 : ∀ x ∈ post, p < x.1) :
    locate (rep S (pre ++ iv :: post)) (addrOf S p) = some pre.length := by
  have hiv := hok.mid
  rw [rep_append, rep_cons, ← rep_length (S := S) pre]
  refine locate_mid (fun m hm => ?_) (addrOf_le _ _ h1 hp) (fun m hm => ?_)
  · obtain ⟨x, hx, rfl⟩ := List.mem_map.mp hm
    have := hok.before hx
    have := (hok.mem (List.mem_append_left _ hx)).1
    exact addrOf_lt hS x.1 iv.1 (by omega) (by omega)
  · obtain ⟨x, hx, rfl⟩ := List.mem_map.mp hm
    have := hok.mem (mem_mid.mpr (Or.inr (List.mem_append_right _ hx)))
    exact addrOf_lt hS p x.1 (h2 x hx) (by omega)

theorem moWrite_after (hS : StreamOK S) (q : Iv) (s e : Nat) (hq : q.1 < q.2) (hqs : q.2 ≤ s) (hse : s ≤ e)
    (he : e ≤ S.length) :
    moWrite (repMo S q) (addrOf S s) (run S s e) = some (repMo S q, [⟨addrOf S s, run S s e⟩]) := by
  have hend := repMo_end (S := S) q (by omega) (by omega)
  have hcont : (repMo S q).contains (addrOf S s) = false := by
    rw [repMo_contains hS q s (by omega) (by omega) (by omega)]
    simp; omega
  unfold moWrite
  by_cases heq : q.2 = s
  · have hae : (addrOf S s == (repMo S q).end) = true := by rw [hend, heq]; simp
    simp only [hcont, hae, Bool.false_or, if_true]
    have ho : addrOf S s - (repMo S q).vaddr = blen (repMo S q).blk := by
      have := addrOf_add (S := S) q.1 q.2 (by omega) (by omega)
      simp only [repMo]
      rw [← heq]; omega
    rw [ho]
    have hpos : 0 < blen (repMo S q).blk := blen_pos hS q.1 q.2 hq (by omega)
    have h1 : ¬ (blen (repMo S q).blk > blen (repMo S q).blk + blen (run S s e)) := by omega
    simp only [h1, if_false, hpos, if_true]
    have hg : getpart (repMo S q).blk 0 (blen (repMo S q).blk) = some (repMo S q).blk := by
      unfold getpart; simp
    rw [hg]
    simp only [Option.map_some, List.append_nil, List.cons_append, List.nil_append]
    simp only [placeParts, hend, heq]
  · have hae : (addrOf S s == (repMo S q).end) = false := by
      rw [hend]
      simp
      intro h
      exact heq (addrOf_inj hS s q.2 (by omega) (by omega) h).symm
    simp only [hcont, hae, Bool.or_self, Bool.false_eq_true, if_false]

theorem moTrim_start (hS : StreamOK S) (iv : Iv) (h : iv.1 < iv.2) (h2 : iv.2 ≤ S.length) :
    moTrim (repMo S iv) (addrOf S iv.1) = some (repMo S iv) := by
  unfold moTrim
  rw [repMo_contains hS iv iv.1 (by omega) h2 (by omega)]
  simp [h, repMo]

theorem repMo_contains_start (hS : StreamOK S) (iv : Iv) (h : iv.1 < iv.2) (h2 : iv.2 ≤ S.length) :
    (repMo S iv).contains (addrOf S iv.1) = true := by
  rw [repMo_contains hS iv iv.1 (by omega) h2 (by omega)]
  simp [h]

theorem addtomap_none {z : Zone} {n : Mo} {b : Nat} (hb : n.end = b) (hi : locate z n.vaddr = none)
    (hj : locate z b = none) : addtomap z n = some (n :: z) := by
  unfold addtomap
  simp only [hb, hi, hj, true_or, if_true]

/-- both ends are located in `m`, which the block follows -/
theorem addtomap_same {z1 z2 : Zone} {m n : Mo} {b : Nat} (hb : n.end = b)
    (hi : locate (z1 ++ m :: z2) n.vaddr = some z1.length) (hj : locate (z1 ++ m :: z2) b = some z1.length)
    (hw : moWrite m n.vaddr n.blk = some (m, [n])) :
    addtomap (z1 ++ m :: z2) n = some (z1 ++ m :: n :: z2) := by
  unfold addtomap
  simp only [hb, hi, hj, if_true, List.getElem?_append_right (Nat.le_refl _), Nat.sub_self, List.getElem?_cons_zero, hw,
    List.take_left', List.drop_append]
  simp

/-- the block ends where the first stored one starts -/
theorem addtomap_first {z2 : Zone} {mj n : Mo} {b : Nat} (hb : n.end = b) (hi : locate (mj :: z2) n.vaddr = none)
    (hj : locate (mj :: z2) b = some 0) (hc : mj.contains b = true) (ht : moTrim mj b = some mj) :
    addtomap (mj :: z2) n = some (n :: mj :: z2) := by
  unfold addtomap
  simp only [hb, hi, hj, reduceCtorEq, if_false, List.getElem?_cons_zero, hc, if_true, ht, Option.map_some,
    List.set_cons_zero]
  rfl

/-- the block starts after `mi` and ends where the next stored one, `mj`, starts -/
theorem addtomap_between {z0 z2 : Zone} {mi mj n : Mo} {b : Nat} (hb : n.end = b)
    (hi : locate (z0 ++ mi :: mj :: z2) n.vaddr = some z0.length)
    (hj : locate (z0 ++ mi :: mj :: z2) b = some (z0.length + 1))
    (hc : mj.contains b = true) (ht : moTrim mj b = some mj)
    (hw : moWrite mi n.vaddr n.blk = some (mi, [n])) :
    addtomap (z0 ++ mi :: mj :: z2) n = some (z0 ++ mi :: n :: mj :: z2) := by
  have hgj : (z0 ++ mi :: mj :: z2)[z0.length + 1]? = some mj := by simp
  have hgi : (z0 ++ mi :: mj :: z2)[z0.length]? = some mi := by simp
  have hsj : (z0 ++ mi :: mj :: z2).set (z0.length + 1) mj = z0 ++ mi :: mj :: z2 := by simp
  have hsi : (z0 ++ mi :: mj :: z2).set z0.length mi = z0 ++ mi :: mj :: z2 := by simp
  have htk : (z0 ++ mi :: mj :: z2).take (z0.length + 1) = z0 ++ [mi] := by
    rw [List.take_append, List.take_of_length_le (Nat.le_succ _)]; simp
  have hdr : (z0 ++ mi :: mj :: z2).drop (z0.length + 1) = mj :: z2 := by simp
  unfold addtomap
  simp only [hb, hi, hj, Option.some.injEq, Nat.left_eq_add, Nat.succ_ne_self, if_false, hgj, hc, if_true, ht,
    Option.map_some, hsj, hgi]
  by_cases hle : n.vaddr ≤ mi.end
  · simp only [hle, if_true, hw, Option.map_some, hsi, Nat.max_self, htk, hdr]
    simp
  · simp only [hle, if_false, Nat.max_self, htk, hdr]
    simp

/-- `MemoryZone.write` of a run into a gap of the zone is the sorted insertion -/
theorem addtomap_gap (hS : StreamOK S) (pre post : List Iv) (s e : Nat)
    (hok : IvsOK S.length (pre ++ post)) (hse : s < e) (he : e ≤ S.length)
    (hpre : ∀ iv ∈ pre, iv.2 ≤ s) (hpost : ∀ iv ∈ post, e ≤ iv.1) :
    addtomap (rep S (pre ++ post)) ⟨addrOf S s, run S s e⟩ = some (rep S (pre ++ (s, e) :: post)) := by
  have hb : (⟨addrOf S s, run S s e⟩ : Mo).end = addrOf S e := addrOf_add s e (by omega) he
  have hposts : ∀ x ∈ post, s < x.1 := fun x hx => by have := hpost x hx; omega
  -- the next stored block starts beyond `e`, or exactly at `e`
  have htouch : (∀ x ∈ post, e < x.1) ∨ ∃ ne post', post = (e, ne) :: post' := by
    cases post with
    | nil => exact Or.inl nofun
    | cons hd post' =>
      by_cases h : hd.1 = e
      · exact Or.inr ⟨hd.2, post', by rw [← h]⟩
      · refine Or.inl fun x hx => ?_
        rcases List.mem_cons.mp hx with rfl | hx
        · have := hpost x (List.mem_cons_self ..); omega
        · have := hok.after hx; have := hok.mid.1; have := hpost hd (List.mem_cons_self ..); omega
  -- a stored block that starts at `e` is located for `e` and left as it is
  have hnext : ∀ ne post', post = (e, ne) :: post' →
      locate (rep S (pre ++ post)) (addrOf S e) = some pre.length ∧
      (repMo S (e, ne)).contains (addrOf S e) = true ∧ moTrim (repMo S (e, ne)) (addrOf S e) = some (repMo S (e, ne)) := by
    rintro ne post' rfl
    have hm : e < ne ∧ ne ≤ S.length := hok.mid
    refine ⟨locate_rep_some hS pre post' (e, ne) e hok he (Nat.le_refl _) fun x hx => ?_,
      repMo_contains_start hS (e, ne) hm.1 hm.2, moTrim_start hS (e, ne) hm.1 hm.2⟩
    have := hok.after hx; omega
  rcases List.eq_nil_or_concat pre with rfl | ⟨pre0, q, rfl⟩
  · -- nothing is stored before `s`
    have hi := locate_rep_none hS post s hok hposts
    rcases htouch with hfar | ⟨ne, post', rfl⟩
    · exact addtomap_none hb hi (locate_rep_none hS post e hok hfar)
    · obtain ⟨hj, hc, ht⟩ := hnext ne post' rfl
      exact addtomap_first hb hi hj hc ht
  · -- `q` is the last block stored before `s`: `s` is located in it, and the write into `q` leaves it whole
    rw [List.concat_eq_append] at hok hpre hnext ⊢
    have hokq : IvsOK S.length (pre0 ++ q :: post) := by simpa using hok
    have hq : q.1 < q.2 := hokq.mid.1
    have hqs : q.2 ≤ s := hpre q (by simp)
    have hw := moWrite_after hS q s e hq hqs (by omega) he
    have hi : locate (rep S pre0 ++ repMo S q :: rep S post) (addrOf S s) = some (rep S pre0).length := by
      rw [rep_length]
      simpa using locate_rep_some hS pre0 post q s hokq (by omega) (by omega) hposts
    rw [show rep S (pre0 ++ [q] ++ post) = rep S pre0 ++ repMo S q :: rep S post by simp,
      show rep S (pre0 ++ [q] ++ (s, e) :: post) = rep S pre0 ++ repMo S q :: ⟨addrOf S s, run S s e⟩ :: rep S post by
        simp [repMo]]
    rcases htouch with hfar | ⟨ne, post', rfl⟩
    · refine addtomap_same hb hi ?_ hw
      rw [rep_length]
      simpa using locate_rep_some hS pre0 post q e hokq he (by omega) hfar
    · obtain ⟨hj, hc, ht⟩ := hnext ne post' rfl
      refine addtomap_between hb hi ?_ hc ht hw
      rw [rep_length]
      simpa [rep] using hj

end Amoco.Cfg
