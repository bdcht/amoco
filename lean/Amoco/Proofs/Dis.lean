/-
  Helper lemmas for the decoder index (C04, C05, C11).
-/
import Amoco.Model.Dis

namespace Amoco.Dis

theorem firstHit_filter {I} (dec : SpecK → Out I) (p : SpecK → Bool) :
    ∀ (S : List SpecK), (∀ s ∈ S, p s = false → dec s = .reject) →
      firstHit dec (S.filter p) = firstHit dec S
  | [], _ => rfl
  | s :: rest, h => by
    have ih := firstHit_filter dec p rest (fun t ht => h t (List.mem_cons_of_mem _ ht))
    cases hp : p s with
    | true => rw [List.filter_cons_of_pos hp, firstHit, firstHit, ih]
    | false =>
      rw [List.filter_cons_of_neg (ne_true_of_eq_false hp), firstHit, h s List.mem_cons_self hp]
      exact ih

theorem firstHit_some {I} (dec : SpecK → Out I) :
    ∀ (l : List SpecK) (s : SpecK) (o : Out I), firstHit dec l = some (s, o) → dec s = o ∧ s ∈ l
  | [], _, _, h => nomatch h
  | a :: l, s, o, h => by
    rw [firstHit] at h
    split at h
    · exact (firstHit_some dec l s o h).imp_right (List.mem_cons_of_mem _)
    · cases h
      exact ⟨rfl, List.mem_cons_self⟩

theorem firstHit_congr {I} (d1 d2 : SpecK → Out I) :
    ∀ (l : List SpecK), (∀ s ∈ l, d1 s = d2 s) → firstHit d1 l = firstHit d2 l
  | [], _ => rfl
  | a :: l, h => by
    rw [firstHit, firstHit, h a List.mem_cons_self,
      firstHit_congr d1 d2 l (fun s hs => h s (List.mem_cons_of_mem _ hs))]

/-- bits of the key selected by a node mask are those of any spec's fix that matches the key. -/
theorem key_and_node (b am af f : Nat) (hm : am &&& f = f) (hb : b &&& am = af) :
    af &&& f = b &&& f := by
  rw [← hb, Nat.and_assoc, hm]

mutual
/-- **routing lemma**: on a tree that passes `checkTree` for the ordered list `S`, the leaf reached
    for key `b` contains, in order, every spec of `S` that can possibly accept. -/
theorem firstHit_route {I} (be : Bool) (maxlen : Nat) (dec : SpecK → Out I) (b : Nat) :
    ∀ (t : Tree) (S : List SpecK), checkTree be maxlen t S = true →
      (∀ s ∈ S, dec s ≠ .reject → b &&& s.amask be maxlen = s.afix be maxlen) →
      firstHit dec (route t b) = firstHit dec S
  | .leaf l, S, hc, _ => by
    simp only [checkTree, beq_iff_eq] at hc
    simp [route, hc]
  | .node f cs, S, hc, hacc => by
    simp only [checkTree, Bool.and_eq_true, bne_iff_ne, ne_eq, List.all_eq_true, beq_iff_eq,
      List.contains_eq_mem, decide_eq_true_eq] at hc
    obtain ⟨⟨⟨_, hmask⟩, hkeys⟩, hch⟩ := hc
    -- all possibly-accepting specs have key `b &&& f`
    have hfilter := firstHit_filter dec (fun s => s.afix be maxlen &&& f == b &&& f) S
      fun s hs hp => Classical.byContradiction fun hr =>
        ne_of_beq_false hp (key_and_node b _ _ f (hmask s hs) (hacc s hs hr))
    rw [route, ← hfilter]
    exact firstHit_routeChildren be maxlen dec b f cs S hch (fun s hs => Or.inl (hkeys s hs)) hacc
theorem firstHit_routeChildren {I} (be : Bool) (maxlen : Nat) (dec : SpecK → Out I) (b f : Nat) :
    ∀ (cs : List (Nat × Tree)) (S : List SpecK),
      checkTree.checkChildren be maxlen cs f S = true →
      (∀ s ∈ S, (s.afix be maxlen &&& f) ∈ cs.map Prod.fst ∨
                 (s.afix be maxlen &&& f) ≠ (b &&& f)) →
      (∀ s ∈ S, dec s ≠ .reject → b &&& s.amask be maxlen = s.afix be maxlen) →
      firstHit dec (route.routeChildren cs (b &&& f) b)
        = firstHit dec (S.filter (fun s => s.afix be maxlen &&& f == b &&& f))
  | [], S, _, hk, _ => by
    have : S.filter (fun s => s.afix be maxlen &&& f == b &&& f) = [] :=
      List.filter_eq_nil_iff.2 fun s hs =>
        mt beq_iff_eq.1 ((hk s hs).resolve_left List.not_mem_nil)
    rw [this]
    rfl
  | (k, t) :: rest, S, hc, hk, hacc => by
    simp only [checkTree.checkChildren, Bool.and_eq_true, Bool.not_eq_true', List.contains_eq_mem,
      decide_eq_false_iff_not] at hc
    obtain ⟨⟨hnot, hct⟩, hrest⟩ := hc
    simp only [route.routeChildren]
    by_cases hkk : k = b &&& f
    · subst hkk
      simp only [beq_self_eq_true, ↓reduceIte]
      apply firstHit_route be maxlen dec b t _ hct
      intro s hs hr
      exact hacc s (List.mem_filter.mp hs).1 hr
    · have : (k == b &&& f) = false := by simpa using hkk
      simp only [this, Bool.false_eq_true, ↓reduceIte]
      apply firstHit_routeChildren be maxlen dec b f rest S hrest _ hacc
      intro s hs
      rcases hk s hs with h | h
      · rcases List.mem_cons.1 h with h | h
        · exact Or.inr fun e => hkk (h.symm.trans e)
        · exact Or.inl h
      · exact Or.inr h
end

/-- two calls whose inputs are related by `R` agree, provided `R` makes the first non-rejecting
    candidate the same on both sides and is kept by the prefix recursion. -/
theorem call_rel {I} (r : Bool) (c1 c2 : List Nat → List SpecK)
    (dec : Option I → List Nat → SpecK → Out I) (xd : I → Option I)
    (R : Option I → List Nat → List Nat → Prop)
    (hfh : ∀ st b1 b2, R st b1 b2 →
      firstHit (dec st b1) (c1 b1) = firstHit (dec st b2) (c2 b2))
    (hpfx : ∀ st b1 b2 s i, R st b1 b2 → firstHit (dec st b1) (c1 b1) = some (s, .ok i) →
      s.pfx = .prefix → R (some i) (b1.drop (s.size / 8)) (b2.drop (s.size / 8))) :
    ∀ fuel st b1 b2, R st b1 b2 → call r c1 dec xd fuel st b1 = call r c2 dec xd fuel st b2
  | 0, _, _, _, _ => rfl
  | fuel+1, st, b1, b2, hR => by
    have hp := hpfx st b1 b2
    rw [call, call, ← hfh st b1 b2 hR]
    split <;> try rfl
    next s i hs =>
      split <;> try rfl
      next hpf => exact call_rel r c1 c2 dec xd R hfh hpfx fuel _ _ _ (hp s i hR hs hpf)

/-- the instruction a call returns was accepted by a candidate, at a state the prefix recursion
    reaches (`Inv`), and then only passed through `xd`. -/
theorem call_instr {I} {r : Bool} {cands : List Nat → List SpecK}
    {dec : Option I → List Nat → SpecK → Out I} {xd : I → Option I}
    (Inv : Option I → List Nat → Prop) (Q : I → Prop)
    (hok : ∀ st bytes s i, Inv st bytes → firstHit (dec st bytes) (cands bytes) = some (s, .ok i) →
      Q i ∧ (s.pfx = .prefix → Inv (some i) (bytes.drop (s.size / 8))))
    (hxd : ∀ i i', Q i → xd i = some i' → Q i')
    (fuel : Nat) (st : Option I) (bytes : List Nat) :
    Inv st bytes → ∀ i, (call r cands dec xd fuel st bytes).2 = .instr i → Q i := by
  -- of the eight branches of `call`, in the order written, three do not end in `.raised`/`.none`:
  -- 5 (`.prefix`, the recursive call), 6 (`.xdata`, `xd i = some i'`) and 8 (`.no`)
  fun_induction call r cands dec xd fuel st bytes with
  | case5 _ st bytes s i0 hs hprefix ih => exact fun hI => ih ((hok st bytes s i0 hI hs).2 hprefix)
  | case6 _ st bytes s i0 hs hxdata i' hx =>
    intro hI i h
    cases h
    exact hxd i0 i' (hok st bytes s i0 hI hs).1 hx
  | case8 _ st bytes s i0 hs hno =>
    intro hI i h
    cases h
    exact (hok st bytes s i0 hI hs).1
  | _ => exact fun _ _ h => nomatch h

theorem decBytes_ok (accepts : SpecK → List Nat → Bool) (hook : SpecK → List Nat → Option Ins → HookOut)
    (st : Option Ins) (bytes : List Nat) (s : SpecK) (i0 : Ins)
    (h : decBytes accepts hook st bytes s = .ok i0) :
    ∃ n, n ≤ bytes.length ∧ s.size / 8 ≤ n ∧ (s.pfx = .prefix → n = s.size / 8) ∧
      i0.bytes = pendBytes st ++ bytes.take n := by
  simp only [decBytes] at h
  split at h
  · cases h
  split at h
  · cases h
  split at h
  · cases h
  · cases h
  · cases h
    refine ⟨_, ?_, Nat.le_add_right .., fun hp => ?_, rfl⟩
    · split <;> omega
    · rw [hp]; rfl

end Amoco.Dis
