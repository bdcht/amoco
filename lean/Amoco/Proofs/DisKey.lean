/-
  Bridge between the spec-level acceptance test of `ispec.decode` (Amoco.Spec.decode) and the
  search key of `disassembler.__call__` (Amoco.Dis.key): a spec that accepts a byte string has its
  (justified) fixed bits present in the key.  This discharges the hypothesis of the routing lemma.
-/
import Amoco.Props.C03
import Amoco.Model.Dis

namespace Amoco

theorem testBit_leVal (l : List Nat) (k : Nat) :
    (leVal l).testBit k = ((l.getD (k / 8) 0) % 256).testBit (k % 8) := by
  induction l generalizing k with
  | nil => simp [leVal]
  | cons b bs ih =>
    have hb : b % 256 < 2 ^ 8 := Nat.mod_lt _ (by decide)
    have : leVal (b :: bs) = 2 ^ 8 * leVal bs + b % 256 := by simp [leVal]; omega
    rw [this, Nat.testBit_two_pow_mul_add _ hb]
    by_cases hk : k < 8
    · have h0 : k / 8 = 0 := by omega
      have h1 : k % 8 = k := by omega
      simp [hk, h0, h1]
    · have h0 : k / 8 = (k - 8) / 8 + 1 := by omega
      have h1 : k % 8 = (k - 8) % 8 := by omega
      simp only [hk, ↓reduceIte, ih, h0, h1, List.getD_cons_succ]

theorem getD_take (l : List Nat) (n i : Nat) (h : i < n) : (l.take n).getD i 0 = l.getD i 0 := by
  simp [List.getD_eq_getElem?_getD, h]

theorem getD_reverse (l : List Nat) (i : Nat) (h : i < l.length) :
    l.reverse.getD i 0 = l.getD (l.length - 1 - i) 0 := by
  simp [List.getD_eq_getElem?_getD, List.getElem?_reverse h]

theorem testBit_beVal_take (l : List Nat) (n k : Nat) (hn : n ≤ l.length) (hk : k / 8 < n) :
    (leVal (l.take n).reverse).testBit k = ((l.getD (n - 1 - k / 8) 0) % 256).testBit (k % 8) := by
  have hl : (l.take n).length = n := by rw [List.length_take]; omega
  rw [testBit_leVal, getD_reverse _ _ (by rw [hl]; exact hk), hl, getD_take _ _ _ (by omega)]

theorem mask_bit_lt {m n k : Nat} (hm : m < 2 ^ n) (hk : m.testBit k = true) : k < n := by
  by_cases h : k < n
  · exact h
  · have : m < 2 ^ k := Nat.lt_of_lt_of_le hm (Nat.pow_le_pow_right (by decide) (by omega))
    rw [Nat.testBit_lt_two_pow this] at hk
    cases hk

theorem and_shiftLeft_of_testBit {a b m n sh : Nat} (hm : m < 2 ^ n)
    (h : ∀ j, j < n → a.testBit (sh + j) = b.testBit j) :
    a &&& (m <<< sh) = (b &&& m) <<< sh := by
  apply Nat.eq_of_testBit_eq
  intro k
  rw [Nat.testBit_and, Nat.testBit_shiftLeft, Nat.testBit_shiftLeft, Nat.testBit_and]
  by_cases hk : sh ≤ k
  · cases hb : m.testBit (k - sh)
    · simp only [Bool.and_false]
    · have := h _ (mask_bit_lt hm hb)
      rw [Nat.add_sub_cancel' hk] at this
      simp only [this, hk, decide_true, Bool.and_true, Bool.true_and]
  · simp only [hk, decide_false, Bool.false_and, Bool.and_false]

namespace Dis

/-- the key carries the instruction word of an `8 * n`-bit spec from the bit where `adj` puts it. -/
theorem key_testBit (be : Bool) (bytes : List Nat) (maxlen n j : Nat) (hm : n ≤ maxlen)
    (hlen : n ≤ bytes.length) (hj : j < 8 * n) :
    (key be maxlen bytes).testBit ((if be then maxlen * 8 - 8 * n else 0) + j) =
      (leVal (if be then (bytes.take n).reverse else bytes.take n)).testBit j := by
  cases be with
  | false =>
    show (leVal (bytes.take maxlen)).testBit (0 + j) = (leVal (bytes.take n)).testBit j
    rw [Nat.zero_add, testBit_leVal, testBit_leVal, getD_take _ _ _ (by omega),
      getD_take _ _ _ (by omega)]
  | true =>
    show (leVal (bytes.take maxlen).reverse <<< (maxlen * 8 - 8 * (bytes.take maxlen).length)).testBit
        (maxlen * 8 - 8 * n + j) = (leVal (bytes.take n).reverse).testBit j
    rw [List.take_eq_take_min, List.length_take, Nat.min_assoc, Nat.min_self]
    have hnL : n ≤ min maxlen bytes.length := Nat.le_min.2 ⟨hm, hlen⟩
    have hLm : min maxlen bytes.length ≤ maxlen := Nat.min_le_left ..
    have hLl : min maxlen bytes.length ≤ bytes.length := Nat.min_le_right ..
    generalize min maxlen bytes.length = L at hnL hLm hLl ⊢
    have e : maxlen * 8 - 8 * n + j - (maxlen * 8 - 8 * L) = 8 * (L - n) + j := by omega
    rw [Nat.testBit_shiftLeft, decide_eq_true (by omega), Bool.true_and, e,
      testBit_beVal_take _ n _ hlen (by omega), testBit_beVal_take _ L _ hLl (by omega),
      Nat.mul_add_div (by decide), Nat.mul_add_mod]
    congr 3
    omega

open Amoco.Spec in
theorem accept_key (be : Bool) (s : Spec) (bytes : List Nat) (maxlen : Nat)
    (h8 : s.fixSize % 8 = 0) (hm : s.fixSize / 8 ≤ maxlen) (hmask : s.mask < 2 ^ s.fixSize)
    (hacc : (decode s bytes be).isSome) :
    key be maxlen bytes &&& adj be maxlen s.fixSize s.mask = adj be maxlen s.fixSize s.fix := by
  obtain ⟨hlen, hw⟩ := (Props.decode_accepts_iff s bytes be).1 hacc
  have hF : 8 * (s.fixSize / 8) = s.fixSize := by omega
  have h := and_shiftLeft_of_testBit hmask (b := word s bytes be) fun j hj => by
    have := key_testBit be bytes maxlen _ j hm hlen (by rw [hF]; exact hj)
    rw [hF] at this
    rw [this, word, Nat.testBit_mod_two_pow, decide_eq_true hj, Bool.true_and]
  rw [hw] at h
  cases be <;> exact h

end Dis
end Amoco
