/-
  `setup` always produces a tree that passes `checkTree` (C04): the builder as coded is correct for
  every specification list, every fetch endianness, every `maxlen` and every recursion budget.
-/
import Amoco.Model.Dis

namespace Amoco.Dis

def Sorted (l : List SpecK) : Prop := l.Pairwise (fun a b => weight a ≥ weight b)

theorem mem_insertFront {s x : SpecK} : ∀ {l : List SpecK}, x ∈ insertFront s l → x = s ∨ x ∈ l
  | [], h => Or.inl (List.mem_singleton.1 h)
  | t :: ts, h => by
    rw [insertFront] at h
    split at h
    · rcases List.mem_cons.1 h with rfl | h
      · exact Or.inr List.mem_cons_self
      · exact (mem_insertFront h).imp_right (List.mem_cons_of_mem _)
    · exact List.mem_cons.1 h

theorem sorted_insertFront (s : SpecK) : ∀ (l : List SpecK), Sorted l → Sorted (insertFront s l)
  | [], _ => List.pairwise_singleton _ _
  | t :: ts, h => by
    have ⟨ht, hts⟩ := List.pairwise_cons.mp h
    rw [insertFront]
    split
    · next hw =>
      refine List.pairwise_cons.mpr ⟨fun x hx => ?_, sorted_insertFront s ts hts⟩
      rcases mem_insertFront hx with rfl | hx
      · exact Nat.le_of_lt hw
      · exact ht x hx
    · next hw =>
      have hw := Nat.le_of_not_gt hw
      refine List.pairwise_cons.mpr ⟨fun x hx => ?_, h⟩
      rcases List.mem_cons.mp hx with rfl | hx
      · exact hw
      · exact Nat.le_trans (ht x hx) hw

theorem sorted_sortW : ∀ (l : List SpecK), Sorted (sortW l)
  | [] => List.Pairwise.nil
  | a :: l => sorted_insertFront a _ (sorted_sortW l)

theorem sortW_of_sorted : ∀ (l : List SpecK), Sorted l → sortW l = l
  | [], _ => rfl
  | a :: l, h => by
    have ⟨ha, hl⟩ := List.pairwise_cons.mp h
    show insertFront a (sortW l) = a :: l
    rw [sortW_of_sorted l hl]
    cases l with
    | nil => rfl
    | cons t ts => exact if_neg (Nat.not_lt.mpr (ha t List.mem_cons_self))

theorem and_andAll : ∀ (xs : List Nat) (x : Nat), x ∈ xs → x &&& andAll xs = andAll xs
  | [], _, h => by cases h
  | [y], x, h => by
    simp only [List.mem_singleton] at h
    subst h; simp [andAll]
  | y :: z :: zs, x, h => by
    have ih := and_andAll (z :: zs)
    simp only [andAll]
    rcases List.mem_cons.mp h with rfl | h'
    · rw [← Nat.and_assoc, Nat.and_self]
    · rw [← Nat.and_assoc, Nat.and_comm x y, Nat.and_assoc, ih x h']

theorem mem_dedup : ∀ (l : List Nat) (a : Nat), a ∈ dedup l ↔ a ∈ l
  | [], _ => Iff.rfl
  | x :: xs, a => by
    rw [dedup, List.mem_cons, List.mem_filter, mem_dedup xs a, List.mem_cons, bne_iff_ne]
    exact ⟨fun h => h.imp_right And.left,
      fun h => (Decidable.em (a = x)).imp_right fun e => ⟨h.resolve_left e, e⟩⟩

theorem nodup_dedup : ∀ (l : List Nat), (dedup l).Nodup
  | [] => by simp [dedup]
  | x :: xs => by
    simp only [dedup, List.nodup_cons, List.mem_filter, bne_iff_ne, ne_eq, not_true_eq_false, and_false,
      not_false_eq_true, true_and]
    exact List.Nodup.sublist List.filter_sublist (nodup_dedup xs)

theorem checkChildren_of_keys (be : Bool) (maxlen : Nat) (f : Nat) (S : List SpecK) (T : Nat → Tree) :
    ∀ (ks : List Nat), ks.Nodup →
      (∀ k ∈ ks, checkTree be maxlen (T k) (S.filter (fun s => s.afix be maxlen &&& f == k)) = true) →
      checkTree.checkChildren be maxlen (ks.map (fun k => (k, T k))) f S = true
  | [], _, _ => rfl
  | k :: ks, hnd, h => by
    simp only [List.map_cons, checkTree.checkChildren, Bool.and_eq_true, Bool.not_eq_true',
      List.contains_eq_mem, decide_eq_false_iff_not, List.map_map]
    have hk := List.nodup_cons.mp hnd
    refine ⟨⟨?_, h k List.mem_cons_self⟩, ?_⟩
    · intro hm
      apply hk.1
      simpa [Function.comp_def] using hm
    · exact checkChildren_of_keys be maxlen f S T ks hk.2 (fun k' hk' => h k' (List.mem_cons_of_mem _ hk'))

theorem setup_checks (be : Bool) (maxlen : Nat) :
    ∀ (fuel : Nat) (l : List SpecK), checkTree be maxlen (setup be maxlen fuel l) (sortW l) = true
  | 0, l => by simp [setup, checkTree]
  | fuel+1, l => by
    have hs := sorted_sortW l
    unfold setup
    simp only
    generalize hl' : sortW l = l' at hs ⊢
    by_cases h5 : l'.length < 5
    · simp [h5, checkTree]
    · simp only [h5, ↓reduceIte]
      by_cases hf : (andAll (l'.map (SpecK.amask be maxlen)) == 0) = true
      · simp [hf, checkTree]
      · simp only [hf, Bool.false_eq_true, ↓reduceIte]
        generalize hfdef : andAll (l'.map (SpecK.amask be maxlen)) = f at hf ⊢
        -- the children, whatever the shape of the partition
        have hchild : ∀ k, checkTree be maxlen
            (setup be maxlen fuel (l'.filter (fun t => t.afix be maxlen &&& f == k)))
            (l'.filter (fun s => s.afix be maxlen &&& f == k)) = true := by
          intro k
          have := setup_checks be maxlen fuel (l'.filter (fun t => t.afix be maxlen &&& f == k))
          rwa [sortW_of_sorted _ (List.Pairwise.filter _ hs)] at this
        have hmem : ∀ s ∈ l', s.afix be maxlen &&& f ∈ dedup (l'.map fun s => s.afix be maxlen &&& f) :=
          fun s hs' => (mem_dedup _ _).mpr (List.mem_map.mpr ⟨s, hs', rfl⟩)
        unfold partitionBy
        split
        · -- a single branch: it holds every spec
          next k only heq =>
          obtain ⟨k', hd, hk'⟩ := List.map_eq_singleton_iff.1 heq
          cases hk'
          rw [hd] at hmem
          rw [List.filter_eq_self.mpr fun s hs' => beq_iff_eq.2 (List.mem_singleton.1 (hmem s hs'))]
          simp [checkTree]
        · -- a proper node
          simp only [checkTree, Bool.and_eq_true, bne_iff_ne, ne_eq, List.all_eq_true, beq_iff_eq,
            List.contains_eq_mem, decide_eq_true_eq, List.map_map]
          refine ⟨⟨⟨by simpa using hf, ?_⟩, ?_⟩, ?_⟩
          · intro s hs'
            rw [← hfdef]
            exact and_andAll _ _ (List.mem_map.mpr ⟨s, hs', rfl⟩)
          · intro s hs'
            simpa [Function.comp_def] using hmem s hs'
          · have := checkChildren_of_keys be maxlen f l'
              (fun k => setup be maxlen fuel (l'.filter (fun t => t.afix be maxlen &&& f == k)))
              (dedup (l'.map (fun s => s.afix be maxlen &&& f))) (nodup_dedup _)
              (fun k _ => hchild k)
            simpa [List.map_map, Function.comp_def] using this

end Amoco.Dis
