/-
  Amoco.Proofs.ExprArith — the identities of `binSem`/`unSem` on values behind rewrite rules of
  `op.simplify`, `eqn1_helpers`, `eqn2_helpers` and `slc.simplify`: the `+`/`-` re-association rules as
  ring identities under `wrap`, the others by unfolding `binSem`.
-/
import Amoco.Proofs.ExprBits

namespace Amoco.Bits

open Amoco.Expr

theorem wrap_lt (w : Nat) (x : Int) : wrap w x < 2 ^ w := by
  unfold wrap
  have hp : (0 : Int) < ((2 ^ w : Nat) : Int) := by exact_mod_cast Nat.two_pow_pos w
  have h1 := Int.emod_lt_of_pos x hp
  have h0 := Int.emod_nonneg x (ne_of_gt hp)
  omega

theorem wrap_cast (w : Nat) (x : Int) : ((wrap w x : Nat) : Int) = x % ((2 ^ w : Nat) : Int) := by
  unfold wrap
  have hp : (0 : Int) < ((2 ^ w : Nat) : Int) := by exact_mod_cast Nat.two_pow_pos w
  exact Int.toNat_of_nonneg (Int.emod_nonneg x (ne_of_gt hp))

theorem wrap_congr (w : Nat) (x y : Int) (h : x % ((2 ^ w : Nat) : Int) = y % ((2 ^ w : Nat) : Int)) :
    wrap w x = wrap w y := by
  unfold wrap; rw [h]

theorem wrap_add_left (w : Nat) (x y : Int) : wrap w ((wrap w x : Nat) + y) = wrap w (x + y) := by
  apply wrap_congr; rw [wrap_cast]; exact Int.emod_add_emod x _ y

theorem wrap_add_right (w : Nat) (x y : Int) : wrap w (x + (wrap w y : Nat)) = wrap w (x + y) := by
  apply wrap_congr; rw [wrap_cast]; exact Int.add_emod_emod x y _

theorem wrap_sub_left (w : Nat) (x y : Int) : wrap w ((wrap w x : Nat) - y) = wrap w (x - y) := by
  apply wrap_congr; rw [wrap_cast]; exact Int.emod_sub_emod x _ y

theorem wrap_sub_right (w : Nat) (x y : Int) : wrap w (x - (wrap w y : Nat)) = wrap w (x - y) := by
  apply wrap_congr; rw [wrap_cast]; exact Int.sub_emod_emod x y _

theorem wrap_neg (w : Nat) (x : Int) : wrap w (-((wrap w x : Nat) : Int)) = wrap w (-x) := by
  have := wrap_sub_right w 0 x
  simpa using this

theorem wrap_mul_left (w : Nat) (x y : Int) : wrap w ((wrap w x : Nat) * y) = wrap w (x * y) := by
  apply wrap_congr; rw [wrap_cast, Int.mul_emod, Int.emod_emod_of_dvd _ (dvd_refl _), ← Int.mul_emod]

theorem wrap_mul_right (w : Nat) (x y : Int) : wrap w (x * (wrap w y : Nat)) = wrap w (x * y) := by
  apply wrap_congr; rw [wrap_cast, Int.mul_emod, Int.emod_emod_of_dvd _ (dvd_refl _), ← Int.mul_emod]

theorem wrap_of_nat (w a : Nat) : wrap w (a : Int) = a % 2 ^ w := by
  unfold wrap
  have : ((a : Int) % ((2 ^ w : Nat) : Int)) = ((a % 2 ^ w : Nat) : Int) := by push_cast; rfl
  rw [this]; rfl

theorem wrap_of_lt (w a : Nat) (h : a < 2 ^ w) : wrap w (a : Int) = a := by
  rw [wrap_of_nat, Nat.mod_eq_of_lt h]

theorem wrap_add_pow (w : Nat) (x : Int) : wrap w (x + ((2 ^ w : Nat) : Int)) = wrap w x := by
  apply wrap_congr; exact Int.add_emod_right x _

theorem wrap_toInt (w a : Nat) (h : a < 2 ^ w) : wrap w (toInt w a) = a := by
  unfold toInt
  split
  · have : ((a : Int) - ((2 ^ w : Nat) : Int)) = (a : Int) + (-1) * ((2 ^ w : Nat) : Int) := by ring
    rw [this]
    have : wrap w ((a : Int) + -1 * ((2 ^ w : Nat) : Int)) = wrap w (a : Int) := by
      apply wrap_congr; exact Int.add_mul_emod_self_right _ _ _
    rw [this, wrap_of_lt w a h]
  · exact wrap_of_lt w a h

/-- `cst(x, size)` for a Python integer `x`: `cst.__init__` masks the value and flags a negative `x` signed -/
theorem mkCst_v (x : Int) (s : Nat) : mkCst x s = Expr.cst (wrap s x) s (decide (x < 0)) := rfl

theorem cstValue_signed (v s : Nat) : cstValue v s true = toInt s v := by
  unfold cstValue toInt; simp

theorem cstValue_unsigned (v s : Nat) : cstValue v s false = (v : Int) := by
  unfold cstValue; simp

/-- `cst.value` is congruent to `cst.v`, whatever the sign flag -/
theorem wrap_cstValue (v s : Nat) (f : Bool) (h : v < 2 ^ s) : wrap s (cstValue v s f) = v := by
  cases f
  · rw [cstValue_unsigned]; exact wrap_of_lt s v h
  · rw [cstValue_signed]; exact wrap_toInt s v h

def pmInt (o : Op) (x y : Int) : Int := if o = Op.sub then x - y else x + y

/-- the sign of `+`/`-`: `pmInt o x y = x + sgn o * y`, and `Op.pm` multiplies signs, so the re-association
    rules below are ring identities -/
def sgn (o : Op) : Int := if o = Op.sub then -1 else 1

theorem pmInt_eq (o : Op) (x y : Int) : pmInt o x y = x + sgn o * y := by
  unfold pmInt sgn; split <;> ring

theorem sgn_sq (o : Op) : sgn o * sgn o = 1 := by unfold sgn; split <;> rfl

theorem binSem_add (sg : Bool) (w a b : Nat) : binSem Op.add sg w a b = wrap w ((a : Int) + b) := by
  unfold binSem
  rw [← wrap_of_nat]; push_cast; rfl

theorem binSem_sub (sg : Bool) (w a b : Nat) : binSem Op.sub sg w a b = wrap w ((a : Int) - b) := rfl

theorem binSem_pm (o : Op) (h : o = Op.add ∨ o = Op.sub) (sg : Bool) (w a b : Nat) :
    binSem o sg w a b = wrap w (pmInt o a b) := by
  rcases h with h | h <;> subst h
  · rw [binSem_add]; rfl
  · rw [binSem_sub]; rfl

theorem wrap_pm_left (o : Op) (w : Nat) (x y : Int) : wrap w (pmInt o ((wrap w x : Nat) : Int) y) = wrap w (pmInt o x y) := by
  unfold pmInt; split
  · exact wrap_sub_left w x y
  · exact wrap_add_left w x y

theorem wrap_pm_right (o : Op) (w : Nat) (x y : Int) : wrap w (pmInt o x ((wrap w y : Nat) : Int)) = wrap w (pmInt o x y) := by
  unfold pmInt; split
  · exact wrap_sub_right w x y
  · exact wrap_add_right w x y

/-- rule *reassoc_pm (1)*: `((a lo c) o r)  ⇒  ((a o r) lo c)` for `o, lo ∈ {+,-}` -/
theorem reassoc_pm_left (o lo : Op) (ho : o = Op.add ∨ o = Op.sub) (hlo : lo = Op.add ∨ lo = Op.sub)
    (sg1 sg2 sg3 sg4 : Bool) (w a c r : Nat) :
    binSem o sg1 w (binSem lo sg2 w a c) r = binSem lo sg3 w (binSem o sg4 w a r) c := by
  rw [binSem_pm o ho, binSem_pm lo hlo, binSem_pm lo hlo, binSem_pm o ho, wrap_pm_left, wrap_pm_left]
  congr 1
  simp only [pmInt_eq]; ring

/-- rule *add_neg*: `l + (-r)  ⇒  l - r` -/
theorem add_neg_to_sub (sg : Bool) (w l r : Nat) :
    binSem Op.add sg w l (unSem Op.sub w r) = binSem Op.sub sg w l r := by
  rw [binSem_add, binSem_sub]
  show wrap w ((l : Int) + ((wrap w (-(r : Int)) : Nat) : Int)) = _
  rw [wrap_add_right]; congr 1

theorem pm_addsub {o ro x : Op} (h : Op.pm o ro = some x) :
    (o = Op.add ∨ o = Op.sub) ∧ (ro = Op.add ∨ ro = Op.sub) ∧ (x = Op.add ∨ x = Op.sub) := by
  unfold Op.pm at h
  split at h <;> cases h <;> simp

theorem sgn_pm {o ro x : Op} (h : Op.pm o ro = some x) : sgn x = sgn o * sgn ro := by
  unfold Op.pm at h
  split at h <;> cases h <;> rfl

/-- rule *reassoc_pm (2)*: `(l o (a ro c))  ⇒  ((l o a) (o·ro) c)` where `o·ro` is the sign product -/
theorem reassoc_pm_right (o ro x : Op) (hx : Op.pm o ro = some x) (sg1 sg2 sg3 sg4 : Bool) (w l a c : Nat) :
    binSem o sg1 w l (binSem ro sg2 w a c) = binSem x sg3 w (binSem o sg4 w l a) c := by
  obtain ⟨ho, hro, hxx⟩ := pm_addsub hx
  rw [binSem_pm o ho, binSem_pm ro hro, binSem_pm x hxx, binSem_pm o ho, wrap_pm_right, wrap_pm_left]
  congr 1
  simp only [pmInt_eq, sgn_pm hx]; ring

/-- rule *merge_consts*: `((a lo c2) o c1)  ⇒  (a lo (c2 (o·lo) c1))` -/
theorem merge_consts (o lo x : Op) (hx : Op.pm o lo = some x) (sg1 sg2 sg3 sg4 : Bool) (w a c2 c1 : Nat) :
    binSem o sg1 w (binSem lo sg2 w a c2) c1 = binSem lo sg3 w a (binSem x sg4 w c2 c1) := by
  obtain ⟨ho, hlo, hxx⟩ := pm_addsub hx
  rw [binSem_pm o ho, binSem_pm lo hlo, binSem_pm lo hlo, binSem_pm x hxx, wrap_pm_left, wrap_pm_right]
  congr 1
  -- `a + lo·c2 + o·c1 = a + lo·(c2 + (o·lo)·c1)` because `lo·lo = 1`
  simp only [pmInt_eq, sgn_pm hx]
  have e : sgn lo * (sgn o * sgn lo * (c1 : Int)) = sgn lo * sgn lo * (sgn o * c1) := by ring
  rw [mul_add, e, sgn_sq, one_mul, add_assoc]

/-- rule *neg_of_sum*: `-(a ro b)  ⇒  ((-a) (−·ro) b)` -/
theorem neg_of_sum (ro x : Op) (hx : Op.pm Op.sub ro = some x) (sg1 sg2 : Bool) (w a b : Nat) :
    unSem Op.sub w (binSem ro sg1 w a b) = binSem x sg2 w (unSem Op.sub w a) b := by
  obtain ⟨_, hro, hxx⟩ := pm_addsub hx
  rw [binSem_pm ro hro, binSem_pm x hxx]
  show wrap w (-((wrap w (pmInt ro a b) : Nat) : Int)) = wrap w (pmInt x ((wrap w (-(a : Int)) : Nat) : Int) b)
  rw [wrap_neg, wrap_pm_left]
  congr 1
  have e : sgn Op.sub = -1 := rfl
  simp only [pmInt_eq, sgn_pm hx, e]; ring

/-- rule *neg_neg*: `-(-x) ⇒ x` -/
theorem neg_neg (w a : Nat) (h : a < 2 ^ w) : unSem Op.sub w (unSem Op.sub w a) = a := by
  show wrap w (-((wrap w (-(a : Int)) : Nat) : Int)) = a
  rw [wrap_neg]; simp [wrap_of_lt w a h]

/-- operand swap of `-` in `op.simplify`: `l - r ⇒ (-r) + l` -/
theorem sub_swap (sg1 sg2 : Bool) (w l r : Nat) :
    binSem Op.sub sg1 w l r = binSem Op.add sg2 w (unSem Op.sub w r) l := by
  rw [binSem_sub, binSem_add]
  show _ = wrap w (((wrap w (-(r : Int)) : Nat) : Int) + l)
  rw [wrap_add_left]; congr 1; ring

theorem op_zero_right (o : Op) (ho : o = Op.or ∨ o = Op.xor ∨ o = Op.add ∨ o = Op.sub ∨ o = Op.lsr ∨ o = Op.lsl)
    (sg : Bool) (w a : Nat) (h : a < 2 ^ w) (hw : 0 < w) : binSem o sg w a 0 = a := by
  rcases ho with h' | h' | h' | h' | h' | h' <;> subst h'
  · simp [binSem]
  · simp [binSem]
  · simp [binSem, Nat.mod_eq_of_lt h]
  · rw [binSem_sub]; simp [wrap_of_lt w a h]
  · simp [binSem]
  · have : ¬ (0 ≥ w) := by omega
    simp [binSem, this, Nat.mod_eq_of_lt h]

theorem op_zero_absorb (o : Op) (ho : o = Op.and ∨ o = Op.mul) (sg : Bool) (w a : Nat) : binSem o sg w a 0 = 0 := by
  rcases ho with h' | h' <;> subst h' <;> simp [binSem]

theorem mul2_zero (sg : Bool) (w a : Nat) : binSem Op.mul2 sg w a 0 = 0 := by
  unfold binSem
  by_cases h : sg <;> simp [h, wrap, toInt]

theorem mul_one (sg : Bool) (w a : Nat) (h : a < 2 ^ w) : binSem Op.mul sg w a 1 = a := by
  simp [binSem, Nat.mod_eq_of_lt h]

theorem div_one_unsigned (w a : Nat) (h : a < 2 ^ w) : binSem Op.div false w a 1 = a := by
  simp [binSem, Nat.mod_eq_of_lt h]

theorem x_sub_x (sg : Bool) (w a : Nat) : binSem Op.sub sg w a a = 0 := by
  rw [binSem_sub]; simp [wrap]

theorem x_xor_x (sg : Bool) (w a : Nat) : binSem Op.xor sg w a a = 0 := by simp [binSem]
theorem x_and_x (sg : Bool) (w a : Nat) : binSem Op.and sg w a a = a := by simp [binSem]
theorem x_or_x (sg : Bool) (w a : Nat) : binSem Op.or sg w a a = a := by simp [binSem]

theorem x_cmp_x_false (o : Op) (ho : o = Op.neq ∨ o = Op.lt ∨ o = Op.gt) (sg : Bool) (w a : Nat) : binSem o sg w a a = 0 := by
  rcases ho with h | h | h <;> subst h <;> cases sg <;> simp [binSem, b2n]

theorem x_cmp_x_true (o : Op) (ho : o = Op.eq ∨ o = Op.le ∨ o = Op.ge) (sg : Bool) (w a : Nat) : binSem o sg w a a = 1 := by
  rcases ho with h | h | h <;> subst h <;> cases sg <;> simp [binSem, b2n]

/-- rule *eq_bit*: `(c == 1) ⇒ c`, `(c == 0) ⇒ ~c`, `(c != 1) ⇒ ~c`, `(c != 0) ⇒ c` for a 1-bit `c`, in
    `eqn2_helpers` as repaired by `fix: eqn2_helpers rewrite rules preserve meaning and width` (the
    original returned `~c` for `c != 0` too) -/
theorem eq_bit (sg : Bool) (c : Nat) (h : c < 2) :
    binSem Op.eq sg 1 c 1 = c ∧ binSem Op.eq sg 1 c 0 = unSem Op.not 1 c ∧
    binSem Op.neq sg 1 c 1 = unSem Op.not 1 c ∧ binSem Op.neq sg 1 c 0 = c := by
  have : c = 0 ∨ c = 1 := by omega
  rcases this with h | h <;> subst h <;> simp [binSem, b2n, unSem]

/-- the negated comparison operator of `eqn1_helpers` -/
def notop : Op → Option Op
  | .eq => some .neq | .neq => some .eq | .lt => some .ge | .gt => some .le
  | .ltu => some .geu | .geu => some .ltu | .le => some .gt | .ge => some .lt
  | _ => none

theorem not_b2n (c : Bool) : unSem Op.not 1 (b2n c) = b2n (!c) := by cases c <;> rfl

/-- rule *not_cond*: `~(a o b) ⇒ (a notop(o) b)` on 1-bit results, for either declared reading -/
theorem not_cond (o o' : Op) (h : notop o = some o') (sg : Bool) (w a b : Nat) :
    unSem Op.not 1 (binSem o sg w a b) = binSem o' sg w a b := by
  -- both sides are `b2n` of a decision; `notop` negates the relation decided
  cases o <;> cases h <;> cases sg <;>
    simp only [binSem, if_true, if_false, Bool.false_eq_true, not_b2n, bne, Bool.not_not, ← decide_not, not_lt, not_le,
      ge_iff_le, gt_iff_lt]

/-- `tst.simplify`: equal branches make the condition irrelevant -/
theorem tst_same (c a : Nat) : (if c % 2 = 1 then a else a) = a := by split <;> rfl

/-- slices distribute over logic operators (`slc.simplify` on `op` of type LOGIC; rule *bitslice* at width 1) -/
theorem slice_and (a b p s : Nat) : bitsOf (a &&& b) p s = bitsOf a p s &&& bitsOf b p s := by
  apply Nat.eq_of_testBit_eq; intro j
  simp only [testBit_bitsOf, Nat.testBit_and]
  by_cases h : j < s <;> simp [h]

theorem slice_or (a b p s : Nat) : bitsOf (a ||| b) p s = bitsOf a p s ||| bitsOf b p s := by
  apply Nat.eq_of_testBit_eq; intro j
  simp only [testBit_bitsOf, Nat.testBit_or]
  by_cases h : j < s <;> simp [h]

theorem slice_xor (a b p s : Nat) : bitsOf (a ^^^ b) p s = bitsOf a p s ^^^ bitsOf b p s := by
  apply Nat.eq_of_testBit_eq; intro j
  simp only [testBit_bitsOf, Nat.testBit_xor]
  by_cases h : j < s <;> simp [h]

/-- low slices commute with `+` (`slc.simplify` on `op` `+` at `pos = 0`) -/
theorem slice_add_low (a b w s : Nat) (h : s ≤ w) : bitsOf ((a + b) % 2 ^ w) 0 s = (bitsOf a 0 s + bitsOf b 0 s) % 2 ^ s := by
  unfold bitsOf
  simp only [Nat.shiftRight_zero]
  rw [Nat.mod_mod_of_dvd _ (Nat.pow_dvd_pow 2 h)]
  exact (Nat.add_mod a b (2 ^ s))

end Amoco.Bits
