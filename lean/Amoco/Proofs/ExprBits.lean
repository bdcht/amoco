/-
  Amoco.Proofs.ExprBits — bit-vector facts behind the rewrite rules of `cas/expressions.py`,
  for every width and every operand value (values are `Nat` with an explicit width).
-/
import Amoco.Model.Eval
import Mathlib.Tactic.Ring
import Mathlib.Tactic.Linarith

namespace Amoco.Bits

open Amoco.Expr

def bitsOf (a p s : Nat) : Nat := (a >>> p) % 2 ^ s

theorem testBit_bitsOf (a p s j : Nat) : (bitsOf a p s).testBit j = (decide (j < s) && a.testBit (p + j)) := by
  unfold bitsOf
  rw [Nat.testBit_mod_two_pow, Nat.testBit_shiftRight]

theorem testBit_of_lt (a w j : Nat) (h : a < 2 ^ w) (hj : w ≤ j) : a.testBit j = false := by
  apply Nat.testBit_lt_two_pow
  exact Nat.lt_of_lt_of_le h (Nat.pow_le_pow_right (by decide) hj)

/-- slice of a slice (`slc.__getitem__`, `slc.__init__` on a `slc`) -/
theorem slice_of_slice (a p s q t : Nat) (h : q + t ≤ s) : bitsOf (bitsOf a p s) q t = bitsOf a (p + q) t := by
  apply Nat.eq_of_testBit_eq
  intro j
  simp only [testBit_bitsOf]
  by_cases hj : j < t
  · have : q + j < s := by omega
    simp [hj, this, Nat.add_assoc]
  · simp [hj]

/-- a full-width slice is the value itself (`slicer` returns `x` for `pos = 0, size = x.size`) -/
theorem slice_whole (a w : Nat) (h : a < 2 ^ w) : bitsOf a 0 w = a := by
  unfold bitsOf
  simp [Nat.mod_eq_of_lt h]

/-- the left side is `cst.__getitem__` -/
theorem slice_cst (v start len : Nat) : ((v >>> start : Nat) % 2 ^ len) = bitsOf v start len := rfl

/-- the mask with bits `[i1, i2]` set, written as `maskBounds` (`ismask`) compares it -/
def maskOf (i1 i2 : Nat) : Nat := (2 ^ (i2 + 1) - 1) ^^^ (2 ^ i1 - 1)

theorem testBit_maskOf (i1 i2 j : Nat) (h : i1 ≤ i2) : (maskOf i1 i2).testBit j = (decide (i1 ≤ j) && decide (j ≤ i2)) := by
  unfold maskOf
  rw [Nat.testBit_xor, Nat.testBit_two_pow_sub_one, Nat.testBit_two_pow_sub_one]
  by_cases h1 : j < i1 <;> by_cases h2 : j < i2 + 1 <;> simp [h1, h2] <;> omega

/-- `a & mask[i1..i2]` is the slice `a[i1:i2+1]` put back at position `i1` (rule *mask_to_slice*):
    `{ [0:i1]→0 | [i1:i2+1]→a[i1:i2+1] | [i2+1:w]→0 }` -/
theorem mask_to_slice (a i1 i2 : Nat) (h : i1 ≤ i2) :
    a &&& maskOf i1 i2 = (bitsOf a i1 (i2 + 1 - i1)) <<< i1 := by
  apply Nat.eq_of_testBit_eq
  intro j
  rw [Nat.testBit_and, testBit_maskOf _ _ _ h, Nat.testBit_shiftLeft, testBit_bitsOf]
  by_cases h1 : i1 ≤ j
  · by_cases h2 : j ≤ i2
    · have : j - i1 < i2 + 1 - i1 := by omega
      have e : i1 + (j - i1) = j := by omega
      simp [h1, h2, this, e]
    · have : ¬ (j - i1 < i2 + 1 - i1) := by omega
      simp [h1, h2, this]
  · simp [h1]

/-- `a << n` on `w` bits is `{ [0:n]→0 | [n:w]→a[0:w-n] }` (rule *shl_to_comp*) -/
theorem shl_to_comp (a w n : Nat) (h : n ≤ w) : (a <<< n) % 2 ^ w = (bitsOf a 0 (w - n)) <<< n := by
  apply Nat.eq_of_testBit_eq
  intro j
  rw [Nat.testBit_mod_two_pow, Nat.testBit_shiftLeft, Nat.testBit_shiftLeft, testBit_bitsOf]
  by_cases h1 : n ≤ j
  · by_cases h2 : j < w
    · have : j - n < w - n := by omega
      simp [h1, h2, this]
    · have : ¬ (j - n < w - n) := by omega
      simp [h1, h2, this]
  · simp [h1]

/-- `a >> n` on `w` bits is `{ [0:w-n]→a[n:w] | [w-n:w]→0 }` (rule *shr_to_comp*) -/
theorem shr_to_comp (a w n : Nat) (ha : a < 2 ^ w) : a >>> n = bitsOf a n (w - n) := by
  apply Nat.eq_of_testBit_eq
  intro j
  rw [Nat.testBit_shiftRight, testBit_bitsOf]
  by_cases h2 : j < w - n
  · simp [h2]
  · have : a.testBit (n + j) = false := testBit_of_lt a w _ ha (by omega)
    simp [h2, this]

/-- `eqn2_helpers`, as repaired by `fix: eqn2_helpers rewrite rules preserve meaning and width`, rewrites
    `l >> n` and `l << n` to `cst(0)` for a constant `n.v >= l.size` (the original built a slice with
    `stop <= start` and raised) -/
theorem shr_ge_width (a w n : Nat) (ha : a < 2 ^ w) (h : w ≤ n) : a >>> n = 0 := by
  rw [Nat.shiftRight_eq_div_pow]
  apply Nat.div_eq_of_lt
  exact Nat.lt_of_lt_of_le ha (Nat.pow_le_pow_right (by decide) h)

theorem shl_ge_width (a w n : Nat) (h : w ≤ n) : (a <<< n) % 2 ^ w = 0 := by
  rw [Nat.shiftLeft_eq]
  have : 2 ^ n = 2 ^ w * 2 ^ (n - w) := by rw [← Nat.pow_add]; congr 1; omega
  rw [this, ← Nat.mul_assoc, Nat.mul_comm a, Nat.mul_assoc]
  exact Nat.mul_mod_right _ _

/-- the value of two adjacent parts: low part `a` of width `wa`, high part `b` -/
def cat (a wa b : Nat) : Nat := (b <<< wa) ||| a

theorem testBit_cat (a wa b j : Nat) (ha : a < 2 ^ wa) :
    (cat a wa b).testBit j = if j < wa then a.testBit j else b.testBit (j - wa) := by
  unfold cat
  rw [Nat.testBit_or, Nat.testBit_shiftLeft]
  by_cases h : j < wa
  · have : ¬ wa ≤ j := by omega
    simp [h, this]
  · have h' : wa ≤ j := by omega
    simp [h, h', testBit_of_lt a wa j ha h']

/-- `restruct` merges two adjacent constant parts into `cst((nb.v << na.size) | na.v, na.size + nb.size)`, a
    `cat`; `cat_low` and `cat_high` recover the two constants as its slices -/
theorem cat_low (a wa b : Nat) (ha : a < 2 ^ wa) : bitsOf (cat a wa b) 0 wa = a := by
  apply Nat.eq_of_testBit_eq
  intro j
  rw [testBit_bitsOf, Nat.zero_add, testBit_cat _ _ _ _ ha]
  by_cases h : j < wa
  · simp [h]
  · simp [h, testBit_of_lt a wa j ha (by omega)]

theorem cat_high (a wa b wb : Nat) (ha : a < 2 ^ wa) (hb : b < 2 ^ wb) : bitsOf (cat a wa b) wa wb = b := by
  apply Nat.eq_of_testBit_eq
  intro j
  rw [testBit_bitsOf, testBit_cat _ _ _ _ ha]
  by_cases h : j < wb
  · have : ¬ (wa + j < wa) := by omega
    simp [h, this]
  · simp [h, testBit_of_lt b wb j hb (by omega)]

theorem cat_lt (a wa b wb : Nat) (ha : a < 2 ^ wa) (hb : b < 2 ^ wb) : cat a wa b < 2 ^ (wa + wb) := by
  apply Nat.lt_pow_two_of_testBit
  intro j hj
  rw [testBit_cat _ _ _ _ ha]
  have : ¬ j < wa := by omega
  simp [this, testBit_of_lt b wb (j - wa) hb (by omega)]

/-- `comp.__getitem__` on a slice that lies inside one part: the low one here, the high one in `slice_cat_high` -/
theorem slice_cat_low (a wa b p s : Nat) (ha : a < 2 ^ wa) (h : p + s ≤ wa) :
    bitsOf (cat a wa b) p s = bitsOf a p s := by
  apply Nat.eq_of_testBit_eq
  intro j
  rw [testBit_bitsOf, testBit_bitsOf, testBit_cat _ _ _ _ ha]
  by_cases hj : j < s
  · have : p + j < wa := by omega
    simp [hj, this]
  · simp [hj]

theorem slice_cat_high (a wa b p s : Nat) (ha : a < 2 ^ wa) (h : wa ≤ p) :
    bitsOf (cat a wa b) p s = bitsOf b (p - wa) s := by
  apply Nat.eq_of_testBit_eq
  intro j
  rw [testBit_bitsOf, testBit_bitsOf, testBit_cat _ _ _ _ ha]
  have : ¬ (p + j < wa) := by omega
  have e : p + j - wa = p - wa + j := by omega
  simp [this, e]

/-- every value is the composition of its two halves at any cut (`comp.cut` splits a part in two) -/
theorem cat_split (a k : Nat) : cat (bitsOf a 0 k) k (a >>> k) = a := by
  apply Nat.eq_of_testBit_eq
  intro j
  have hlt : bitsOf a 0 k < 2 ^ k := by unfold bitsOf; exact Nat.mod_lt _ (Nat.two_pow_pos k)
  rw [testBit_cat _ _ _ _ hlt, testBit_bitsOf, Nat.testBit_shiftRight]
  by_cases h : j < k
  · simp [h]
  · have : k + (j - k) = j := by omega
    simp [h, this]

/-- zero extension keeps the value: `{ [0:w]→a | [w:n]→0 }` -/
theorem zext_value (a w : Nat) : cat a w 0 = a := by
  unfold cat; simp

theorem cat_eq_add (a w b : Nat) (ha : a < 2 ^ w) : cat a w b = 2 ^ w * b + a := by
  unfold cat
  rw [Nat.shiftLeft_eq, Nat.mul_comm]
  exact (Nat.two_pow_add_eq_or_of_lt ha b).symm

/-- sign extension: `{ [0:w]→a | [w:n]→(a[w-1] ? -1 : 0) }` is the two's complement of the signed reading -/
theorem sext_value (a w xt : Nat) (ha : a < 2 ^ w) :
    cat a w (if a.testBit (w - 1) then 2 ^ xt - 1 else 0) = wrap (w + xt) (toInt w a) := by
  unfold wrap toInt
  have hp : (0 : Int) < ((2 ^ w : Nat) : Int) := by exact_mod_cast Nat.two_pow_pos w
  have hxt : 1 ≤ 2 ^ xt := Nat.two_pow_pos xt
  have hpow : 2 ^ (w + xt) = 2 ^ w * 2 ^ xt := Nat.pow_add 2 w xt
  by_cases hb : a.testBit (w - 1)
  · simp only [hb, if_true]
    rw [cat_eq_add _ _ _ ha]
    have e : ((a : Int) - ((2 ^ w : Nat) : Int)) % ((2 ^ (w + xt) : Nat) : Int)
           = (a : Int) - ((2 ^ w : Nat) : Int) + ((2 ^ (w + xt) : Nat) : Int) := by
      rw [← Int.add_emod_right]
      apply Int.emod_eq_of_lt
      · have : (2 ^ w : Nat) ≤ 2 ^ (w + xt) := Nat.pow_le_pow_right (by decide) (by omega)
        have : ((2 ^ w : Nat) : Int) ≤ ((2 ^ (w + xt) : Nat) : Int) := by exact_mod_cast this
        omega
      · have : (a : Int) < ((2 ^ w : Nat) : Int) := by exact_mod_cast ha
        omega
    rw [e]
    have : (2 ^ w * (2 ^ xt - 1) + a : Nat) = 2 ^ (w + xt) - 2 ^ w + a := by
      rw [Nat.mul_sub, Nat.mul_one, hpow]
    rw [this]
    have hle : 2 ^ w ≤ 2 ^ (w + xt) := Nat.pow_le_pow_right (by decide) (by omega)
    omega
  · simp only [hb]
    have hz : cat a w (if false = true then 2 ^ xt - 1 else 0) = a := by
      simp only [Bool.false_eq_true, if_false]; exact zext_value a w
    rw [hz]
    have : (a : Int) % ((2 ^ (w + xt) : Nat) : Int) = a := by
      apply Int.emod_eq_of_lt (by omega)
      have : a < 2 ^ (w + xt) := Nat.lt_of_lt_of_le ha (Nat.pow_le_pow_right (by decide) (by omega))
      exact_mod_cast this
    simp only [Bool.false_eq_true, if_false]
    rw [this]; rfl

end Amoco.Bits
