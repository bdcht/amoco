/-
  Amoco.Proofs.ExprComp — the part-table bookkeeping of `comp` (`parts[...] = v`, `pop`, `cut`, `restruct`,
  the `__getitem__` loop): coverage counts, sizes.  Everything is stated with the re-entrant operations
  (`getitem`, `setitem`) as parameters satisfying a size specification.
-/
import Amoco.Model.Eval
import Mathlib.Tactic.SplitIfs
import Mathlib.Tactic.Linarith

namespace Amoco.Expr

theorem bind_ok {α β : Type} {x : R α} {f : α → R β} {b : β} (h : (x >>= f) = .ok b) :
    ∃ a, x = .ok a ∧ f a = .ok b := by
  cases x with
  | error e => cases h
  | ok a => exact ⟨a, rfl, h⟩

/-! ### Coverage counts -/

abbrev cnt (b : Nat) (ps : List Part) : Nat := ps.countP (covers b)

def ind (lo hi b : Nat) : Nat := if lo ≤ b ∧ b < hi then 1 else 0

theorem covers_eq (b lo hi : Nat) (e : Expr) : covers b (lo, hi, e) = (decide (lo ≤ b) && decide (b < hi)) := rfl

theorem cnt_cons (b : Nat) (p : Part) (ps : List Part) : cnt b (p :: ps) = cnt b ps + ind p.1 p.2.1 b := by
  unfold cnt ind
  rw [List.countP_cons]
  congr 1
  unfold covers
  by_cases h1 : p.1 ≤ b <;> by_cases h2 : b < p.2.1 <;> simp [h1, h2]

theorem cnt_nil (b : Nat) : cnt b [] = 0 := rfl

theorem cnt_append (b : Nat) (ps qs : List Part) : cnt b (ps ++ qs) = cnt b ps + cnt b qs :=
  List.countP_append

theorem cnt_single (b lo hi : Nat) (e : Expr) : cnt b [(lo, hi, e)] = ind lo hi b := by
  rw [cnt_cons, cnt_nil]; simp

theorem ind_le_one (lo hi b : Nat) : ind lo hi b ≤ 1 := by unfold ind; split <;> omega

theorem ind_pos {lo hi b : Nat} (h : lo ≤ b ∧ b < hi) : ind lo hi b = 1 := if_pos h

theorem ind_adjacent {lo mid hi : Nat} (h1 : lo < mid) (h2 : mid < hi) (b : Nat) :
    ind lo mid b + ind mid hi b = ind lo hi b := by
  unfold ind
  split_ifs <;> omega

theorem ind_split (lo hi sta sto b : Nat) (h2 : sta < sto) (h3 : lo < sto) (h4 : sta < hi) :
    ind lo hi b = ind (max lo sta) (min hi sto) b + (if lo < sta then ind lo sta b else 0)
      + (if sto < hi then ind sto hi b else 0) := by
  -- `[lo, hi)` is `[lo, sta)`, the overlap, `[sto, hi)`, the outer two present when non-empty
  by_cases c1 : lo < sta <;> by_cases c2 : sto < hi <;> simp only [c1, c2, if_true, if_false, Nat.add_zero]
  · rw [Nat.max_eq_right (by omega), Nat.min_eq_right (by omega), ← ind_adjacent h3 c2, ← ind_adjacent c1 h2]; omega
  · rw [Nat.max_eq_right (by omega), Nat.min_eq_left (by omega), ← ind_adjacent c1 h4]; omega
  · rw [Nat.max_eq_left (by omega), Nat.min_eq_right (by omega), ind_adjacent h3 c2]
  · rw [Nat.max_eq_left (by omega), Nat.min_eq_left (by omega)]

theorem cnt_pos_of_mem {b : Nat} {ps : List Part} {p : Part} (hp : p ∈ ps) (hc : p.1 ≤ b ∧ b < p.2.1) :
    1 ≤ cnt b ps := by
  induction ps with
  | nil => cases hp
  | cons q tl ih =>
    rw [cnt_cons]
    rcases List.mem_cons.mp hp with rfl | hp
    · have := ind_pos hc
      omega
    · have := ih hp; omega

theorem cnt_zero_of_sized {n : Nat} {ps : List Part} (h : Sized n ps) {b : Nat} (hb : n ≤ b) : cnt b ps = 0 := by
  unfold cnt
  rw [List.countP_eq_zero]
  intro p hp
  have := h p hp
  unfold covers
  simp only [Bool.and_eq_true, decide_eq_true_eq, not_and, not_lt]
  intro _; omega

/-! ### The key table: `findKey`, `assignKey`, `popKey` -/

abbrev isKey (lo hi : Nat) (p : Part) : Bool := p.1 == lo && p.2.1 == hi

theorem isKey_iff {lo hi : Nat} {p : Part} : isKey lo hi p = true ↔ p.1 = lo ∧ p.2.1 = hi := by
  simp only [isKey, Bool.and_eq_true, beq_iff_eq]

theorem findKey_eq_find (lo hi : Nat) (ps : List Part) :
    findKey lo hi ps = (ps.find? (isKey lo hi)).map (·.2.2) := by
  induction ps with
  | nil => rfl
  | cons p tl ih =>
    obtain ⟨a, b, e⟩ := p
    rw [findKey, List.find?_cons, ih]
    cases h : (a == lo && b == hi) <;> simp only [isKey, h] <;> rfl

theorem popKey_eq_eraseP (lo hi : Nat) (ps : List Part) : popKey lo hi ps = ps.eraseP (isKey lo hi) := by
  induction ps with
  | nil => rfl
  | cons p tl ih =>
    obtain ⟨a, b, e⟩ := p
    rw [popKey, List.eraseP_cons, ih]
    cases h : (a == lo && b == hi) <;> simp only [isKey, h] <;> rfl

theorem findKey_some_mem {lo hi : Nat} {ps : List Part} {e : Expr} (h : findKey lo hi ps = some e) :
    (lo, hi, e) ∈ ps := by
  rw [findKey_eq_find, Option.map_eq_some_iff] at h
  obtain ⟨⟨a, b, x⟩, hf, rfl⟩ := h
  obtain ⟨rfl, rfl⟩ := isKey_iff.mp (List.find?_some hf)
  exact List.mem_of_find?_eq_some hf

theorem findKey_none {lo hi : Nat} {ps : List Part} (h : findKey lo hi ps = none) :
    ∀ p ∈ ps, ¬ (p.1 = lo ∧ p.2.1 = hi) := by
  rw [findKey_eq_find, Option.map_eq_none_iff, List.find?_eq_none] at h
  exact fun p hp hk => h p hp (isKey_iff.mpr hk)

theorem findKey_isSome_of_mem {lo hi : Nat} {ps : List Part} {e : Expr} (h : (lo, hi, e) ∈ ps) :
    (findKey lo hi ps).isSome := by
  cases hf : findKey lo hi ps with
  | some _ => rfl
  | none => exact absurd ⟨rfl, rfl⟩ (findKey_none hf _ h)

theorem assignKey_absent {lo hi : Nat} {ps : List Part} (v : Expr) (h : findKey lo hi ps = none) :
    assignKey lo hi v ps = ps ++ [(lo, hi, v)] := by
  induction ps with
  | nil => rfl
  | cons q tl ih =>
    obtain ⟨a, b, x⟩ := q
    simp only [findKey] at h
    split at h
    · cases h
    · rename_i hk
      simp only [assignKey, hk, List.cons_append]
      rw [ih h]; rfl

theorem mem_assignKey {lo hi : Nat} {v : Expr} {ps : List Part} {p : Part} (h : p ∈ assignKey lo hi v ps) :
    p ∈ ps ∨ p = (lo, hi, v) := by
  induction ps with
  | nil => simp [assignKey] at h; exact Or.inr h
  | cons q tl ih =>
    obtain ⟨a, b, x⟩ := q
    simp only [assignKey] at h
    split at h
    · rename_i hk
      simp only [Bool.and_eq_true, beq_iff_eq] at hk
      obtain ⟨rfl, rfl⟩ := hk
      rcases List.mem_cons.mp h with rfl | h
      · exact Or.inr rfl
      · exact Or.inl (List.mem_cons_of_mem _ h)
    · rcases List.mem_cons.mp h with rfl | h
      · exact Or.inl List.mem_cons_self
      · rcases ih h with h | h
        · exact Or.inl (List.mem_cons_of_mem _ h)
        · exact Or.inr h

theorem cnt_assignKey_present (b : Nat) {lo hi : Nat} (v : Expr) {ps : List Part} :
    (findKey lo hi ps).isSome → cnt b (assignKey lo hi v ps) = cnt b ps := by
  induction ps with
  | nil => intro h; simp [findKey] at h
  | cons q tl ih =>
    obtain ⟨a, c, x⟩ := q
    intro h
    simp only [findKey] at h
    simp only [assignKey]
    split
    · rw [cnt_cons, cnt_cons]
    · rename_i hk
      simp only [hk] at h
      rw [cnt_cons, cnt_cons, ih h]

theorem mem_popKey {lo hi : Nat} {ps : List Part} {p : Part} (h : p ∈ popKey lo hi ps) : p ∈ ps :=
  List.mem_of_mem_eraseP (popKey_eq_eraseP lo hi ps ▸ h)

theorem cnt_popKey (b : Nat) {lo hi : Nat} {ps : List Part} {e : Expr} (h : findKey lo hi ps = some e) :
    cnt b (popKey lo hi ps) + ind lo hi b = cnt b ps := by
  obtain ⟨p, l₁, l₂, _, hp, rfl, h2⟩ := List.exists_of_eraseP (findKey_some_mem h) (isKey_iff.mpr ⟨rfl, rfl⟩)
  obtain ⟨rfl, rfl⟩ := isKey_iff.mp hp
  rw [popKey_eq_eraseP, h2, cnt_append, cnt_append, cnt_cons]
  omega

theorem popKey_absent {lo hi : Nat} {ps : List Part} (h : findKey lo hi ps = none) : popKey lo hi ps = ps := by
  rw [popKey_eq_eraseP]
  exact List.eraseP_of_forall_not fun p hp hk => findKey_none h p hp (isKey_iff.mp hk)

theorem length_popKey {lo hi : Nat} {ps : List Part} {e : Expr} (h : findKey lo hi ps = some e) :
    (popKey lo hi ps).length + 1 = ps.length := by
  have hm := findKey_some_mem h
  rw [popKey_eq_eraseP, List.length_eraseP_of_mem hm (isKey_iff.mpr ⟨rfl, rfl⟩)]
  have := List.length_pos_of_mem hm
  omega

theorem findKey_cons_ne {lo hi a c : Nat} (hne : ¬ (a = lo ∧ c = hi)) (e : Expr) (tl : List Part) :
    findKey a c ((lo, hi, e) :: tl) = findKey a c tl := by
  have : ¬ ((lo == a && hi == c) = true) := by
    simp only [Bool.and_eq_true, beq_iff_eq]; intro ⟨h1, h2⟩; exact hne ⟨h1.symm, h2.symm⟩
  rw [findKey, if_neg this]

theorem findKey_popKey_ne {lo hi a c : Nat} {ps : List Part} (hne : ¬ (a = lo ∧ c = hi)) :
    findKey a c (popKey lo hi ps) = findKey a c ps := by
  induction ps with
  | nil => rfl
  | cons q tl ih =>
    obtain ⟨x, y, e⟩ := q
    simp only [popKey]
    split
    · rename_i hk
      simp only [Bool.and_eq_true, beq_iff_eq] at hk
      obtain ⟨rfl, rfl⟩ := hk
      exact (findKey_cons_ne hne e tl).symm
    · simp only [findKey, ih]

theorem findKey_assignKey_ne {lo hi a c : Nat} {v : Expr} {ps : List Part} (hne : ¬ (a = lo ∧ c = hi)) :
    findKey a c (assignKey lo hi v ps) = findKey a c ps := by
  induction ps with
  | nil => exact findKey_cons_ne hne v []
  | cons q tl ih =>
    obtain ⟨x, y, e⟩ := q
    simp only [assignKey]
    split
    · rename_i hk
      simp only [Bool.and_eq_true, beq_iff_eq] at hk
      obtain ⟨rfl, rfl⟩ := hk
      rw [findKey_cons_ne hne, findKey_cons_ne hne]
    · simp only [findKey, ih]

theorem findKey_append_some {lo hi : Nat} {ps qs : List Part} {e : Expr} (h : findKey lo hi ps = some e) :
    findKey lo hi (ps ++ qs) = some e := by
  rw [findKey_eq_find] at h ⊢
  rw [List.find?_append]
  cases hf : ps.find? (isKey lo hi) with
  | none => rw [hf] at h; cases h
  | some p => rw [hf] at h; exact h

theorem findKey_append_none {lo hi : Nat} {ps qs : List Part} (h1 : findKey lo hi ps = none)
    (h2 : findKey lo hi qs = none) : findKey lo hi (ps ++ qs) = none := by
  rw [findKey_eq_find, Option.map_eq_none_iff] at h1 h2 ⊢
  rw [List.find?_append, h1, h2]; rfl

/-! ### Disjoint part lists and tilings -/

theorem WFParts_iff (ps : List Part) : WFParts ps ↔ ∀ p ∈ ps, WF p.2.2 := by
  induction ps with
  | nil => simp [WFParts]
  | cons q tl ih =>
    obtain ⟨a, b, e⟩ := q
    simp only [WFParts, ih, List.mem_cons, forall_eq_or_imp]

theorem Disj.cnt_le {n : Nat} {ps : List Part} (h : Disj n ps) (b : Nat) : cnt b ps ≤ 1 := h.2 b

theorem Disj.tail {n : Nat} {p : Part} {ps : List Part} (h : Disj n (p :: ps)) : Disj n ps := by
  refine ⟨fun q hq => h.1 q (List.mem_cons_of_mem _ hq), fun b => ?_⟩
  have := h.cnt_le b
  rw [cnt_cons] at this
  show cnt b ps ≤ 1
  omega

theorem Disj.unique {n : Nat} {ps : List Part} (h : Disj n ps) {p q : Part} {b : Nat}
    (hp : p ∈ ps) (hq : q ∈ ps) (cp : p.1 ≤ b ∧ b < p.2.1) (cq : q.1 ≤ b ∧ b < q.2.1) : p = q := by
  induction ps with
  | nil => cases hp
  | cons x tl ih =>
    have hb := h.cnt_le b
    rw [cnt_cons] at hb
    rcases List.mem_cons.mp hp with rfl | hp' <;> rcases List.mem_cons.mp hq with rfl | hq'
    · rfl
    · have := cnt_pos_of_mem hq' cq
      have := ind_pos cp
      omega
    · have := cnt_pos_of_mem hp' cp
      have := ind_pos cq
      omega
    · exact ih h.tail hp' hq'

theorem Disj.findKey_of_mem {n : Nat} {ps : List Part} (h : Disj n ps) {lo hi : Nat} {e : Expr}
    (hm : (lo, hi, e) ∈ ps) : findKey lo hi ps = some e := by
  cases hf : findKey lo hi ps with
  | none => exact absurd ⟨rfl, rfl⟩ (findKey_none hf _ hm)
  | some e' =>
    have hs := h.1 _ hm
    simp only at hs
    cases h.unique hm (findKey_some_mem hf) (b := lo) ⟨Nat.le_refl _, hs.1⟩ ⟨Nat.le_refl _, hs.1⟩
    rfl

theorem Disj.findKey_eq_none {n : Nat} {ps : List Part} (h : Disj n ps) {p : Part} (hp : p ∈ ps) {lo hi b : Nat}
    (hb : p.1 ≤ b ∧ b < p.2.1) (hb' : lo ≤ b ∧ b < hi) (hne : ¬ (p.1 = lo ∧ p.2.1 = hi)) : findKey lo hi ps = none := by
  cases hk : findKey lo hi ps with
  | none => rfl
  | some e =>
    obtain rfl := h.unique hp (findKey_some_mem hk) hb hb'
    exact absurd ⟨rfl, rfl⟩ hne

theorem Tiles.disj {n : Nat} {ps : List Part} (h : Tiles n ps) : Disj n ps := by
  refine ⟨h.1, fun b => ?_⟩
  by_cases hb : b < n
  · exact Nat.le_of_eq (h.2 b hb)
  · have := cnt_zero_of_sized h.1 (Nat.le_of_not_lt hb)
    show cnt b ps ≤ 1
    omega

theorem tiles_of_disj_cnt {n : Nat} {ps : List Part} (h : Disj n ps) (hc : ∀ b, b < n → cnt b ps = 1) : Tiles n ps :=
  ⟨h.1, hc⟩

theorem Tiles.whole_key {n : Nat} {ps : List Part} (h : Tiles n ps) {e : Expr} (hf : findKey 0 n ps = some e) :
    e.size = n := by
  have := h.1 _ (findKey_some_mem hf)
  simpa using this.2.2

theorem Tiles.single_key {n lo hi : Nat} {e : Expr} (hn : 0 < n) (h : Tiles n [(lo, hi, e)]) : lo = 0 ∧ hi = n := by
  have hs : lo < hi ∧ hi ≤ n ∧ e.size = hi - lo := h.1 _ List.mem_cons_self
  have h0 : cnt 0 [(lo, hi, e)] = 1 := h.2 0 hn
  have h1 : cnt (n - 1) [(lo, hi, e)] = 1 := h.2 (n - 1) (by omega)
  rw [cnt_single] at h0 h1
  unfold ind at h0 h1
  split_ifs at h0 h1; omega

theorem Tiles.single {n lo hi : Nat} {e : Expr} (hn : 0 < n) (h : Tiles n [(lo, hi, e)]) : e.size = n := by
  obtain ⟨rfl, rfl⟩ := Tiles.single_key hn h
  exact (h.1 _ List.mem_cons_self).2.2

theorem cover_eq_find (b : Nat) (ps : List Part) : cover b ps = ps.find? (covers b) := by
  induction ps with
  | nil => rfl
  | cons q tl ih =>
    obtain ⟨lo, hi, e⟩ := q
    rw [cover, List.find?_cons, ih, covers_eq]
    cases h : (decide (lo ≤ b) && decide (b < hi)) <;> simp only [h] <;> rfl

theorem cover_spec {b : Nat} {ps : List Part} {p : Part} (h : cover b ps = some p) :
    p ∈ ps ∧ p.1 ≤ b ∧ b < p.2.1 := by
  rw [cover_eq_find] at h
  have := List.find?_some h
  simp only [covers, Bool.and_eq_true, decide_eq_true_eq] at this
  exact ⟨List.mem_of_find?_eq_some h, this⟩

theorem cover_isSome_of_cnt {b : Nat} {ps : List Part} (h : 1 ≤ cnt b ps) : (cover b ps).isSome := by
  rw [cover_eq_find, List.find?_isSome]
  exact List.countP_pos_iff.mp h

theorem exists_cover {b : Nat} {ps : List Part} (h : 1 ≤ cnt b ps) :
    ∃ p, cover b ps = some p ∧ p ∈ ps ∧ p.1 ≤ b ∧ b < p.2.1 := by
  obtain ⟨p, hcv⟩ := Option.isSome_iff_exists.mp (cover_isSome_of_cnt h)
  exact ⟨p, hcv, cover_spec hcv⟩

/-! ### The overlapped parts in order of position -/

theorem perm_insertPart (p : Part) (l : List Part) : (insertPart p l).Perm (p :: l) := by
  induction l with
  | nil => exact List.Perm.refl _
  | cons q tl ih =>
    simp only [insertPart]
    split
    · exact List.Perm.refl _
    · exact (List.Perm.cons q ih).trans (List.Perm.swap p q tl)

theorem perm_sortParts (l : List Part) : (sortParts l).Perm l := by
  induction l with
  | nil => exact List.Perm.refl _
  | cons p tl ih =>
    simp only [sortParts]
    exact (perm_insertPart p _).trans (List.Perm.cons p ih)

theorem sorted_insertPart (p : Part) (l : List Part) (h : l.Pairwise (fun a b => a.1 ≤ b.1)) :
    (insertPart p l).Pairwise (fun a b => a.1 ≤ b.1) := by
  induction l with
  | nil => simp [insertPart]
  | cons q tl ih =>
    simp only [insertPart]
    have hq := List.pairwise_cons.mp h
    split
    · rename_i hlt
      refine List.pairwise_cons.mpr ⟨?_, h⟩
      intro x hx
      rcases List.mem_cons.mp hx with rfl | hx
      · omega
      · have := hq.1 x hx; omega
    · rename_i hge
      refine List.pairwise_cons.mpr ⟨?_, ih hq.2⟩
      intro x hx
      rcases List.mem_cons.mp ((perm_insertPart p tl).subset hx) with rfl | hx
      · omega
      · exact hq.1 x hx

theorem sorted_sortParts (l : List Part) : (sortParts l).Pairwise (fun a b => a.1 ≤ b.1) := by
  induction l with
  | nil => simp [sortParts]
  | cons p tl ih => exact sorted_insertPart p _ ih

theorem Disj.pairwise {n : Nat} {ps : List Part} (h : Disj n ps) :
    ps.Pairwise (fun p q => p.2.1 ≤ q.1 ∨ q.2.1 ≤ p.1) := by
  induction ps with
  | nil => exact List.Pairwise.nil
  | cons p tl ih =>
    refine List.pairwise_cons.mpr ⟨?_, ih h.tail⟩
    intro q hq
    by_contra hc
    have hp := h.1 p List.mem_cons_self
    have hq' := h.1 q (List.mem_cons_of_mem _ hq)
    have hb := h.cnt_le (max p.1 q.1)
    rw [cnt_cons] at hb
    have h1 := ind_pos (lo := p.1) (hi := p.2.1) (b := max p.1 q.1) (by omega)
    have h2 := cnt_pos_of_mem (b := max p.1 q.1) hq (by omega)
    omega

theorem Disj.sorted_pairwise {n : Nat} {ps l : List Part} (h : Disj n ps) (hl : l.Sublist ps) :
    (sortParts l).Pairwise (fun p q => p.2.1 ≤ q.1) := by
  have hd : (sortParts l).Pairwise (fun p q => p.2.1 ≤ q.1 ∨ q.2.1 ≤ p.1) :=
    ((perm_sortParts l).pairwise_iff (fun hab => hab.symm)).mpr (h.pairwise.sublist hl)
  refine ((sorted_sortParts l).and hd).imp_of_mem ?_
  intro a b ha hb hab
  have sa := h.1 a (hl.subset ((perm_sortParts l).subset ha))
  have sb := h.1 b (hl.subset ((perm_sortParts l).subset hb))
  rcases hab.2 with h' | h'
  · exact h'
  · have := hab.1; omega

theorem overlapping_pairwise {n sta sto : Nat} {ps : List Part} (h : Disj n ps) :
    (overlapping sta sto ps).Pairwise (fun p q => p.2.1 ≤ q.1) :=
  h.sorted_pairwise List.filter_sublist

theorem mem_overlapping {sta sto : Nat} {ps : List Part} {p : Part} (h : p ∈ overlapping sta sto ps) :
    p ∈ ps ∧ p.1 < sto ∧ sta < p.2.1 := by
  unfold overlapping at h
  have := (perm_sortParts _).subset h
  have := List.mem_filter.mp this
  simpa using this

theorem sum_overlapping (sta sto b : Nat) (ps : List Part) :
    ((overlapping sta sto ps).map (fun p => ind (max p.1 sta) (min p.2.1 sto) b)).sum
      = if sta ≤ b ∧ b < sto then cnt b ps else 0 := by
  unfold overlapping
  rw [((perm_sortParts _).map _).sum_nat]
  induction ps with
  | nil => simp [cnt]
  | cons p tl ih =>
    rw [List.filter_cons]
    rw [cnt_cons]
    split
    · rename_i hov
      simp only [Bool.and_eq_true, decide_eq_true_eq] at hov
      simp only [List.map_cons, List.sum_cons, ih]
      unfold ind
      split_ifs <;> omega
    · rename_i hov
      simp only [Bool.and_eq_true, decide_eq_true_eq, not_and, not_lt] at hov
      rw [ih]
      unfold ind
      split_ifs <;> omega

/-! ### `setitem`: cutting the overlapped parts around the new one -/

def GiSpec (gi : Expr → Nat → Nat → R Expr) : Prop :=
  ∀ x a b r, WF x → a < b → b ≤ x.size → gi x a b = .ok r → WF r ∧ r.size = b - a

theorem cutHead_ok {gi : Expr → Nat → Nat → R Expr} {sta lo : Nat} {nv : Expr} {ps ps2 : List Part}
    (h : cutHead gi sta lo nv ps = .ok ps2) :
    (lo < sta ∧ ∃ hd, gi nv 0 (sta - lo) = .ok hd ∧ ps2 = assignKey lo sta hd ps) ∨ (¬ lo < sta ∧ ps2 = ps) := by
  unfold cutHead at h
  split at h
  · rename_i hl
    cases hg : gi nv 0 (sta - lo) with
    | error e => rw [hg] at h; cases h
    | ok hd => rw [hg] at h; cases h; exact .inl ⟨hl, hd, rfl, rfl⟩
  · cases h; exact .inr ⟨‹_›, rfl⟩

theorem cutTail_ok {gi : Expr → Nat → Nat → R Expr} {sto lo hi : Nat} {nv : Expr} {ps ps3 : List Part}
    (h : cutTail gi sto lo hi nv ps = .ok ps3) :
    (sto < hi ∧ ∃ t, gi nv (sto - lo) (hi - lo) = .ok t ∧ ps3 = assignKey sto hi t ps) ∨ (¬ sto < hi ∧ ps3 = ps) := by
  unfold cutTail at h
  split at h
  · rename_i hl
    cases hg : gi nv (sto - lo) (hi - lo) with
    | error e => rw [hg] at h; cases h
    | ok t => rw [hg] at h; cases h; exact .inl ⟨hl, t, rfl, rfl⟩
  · cases h; exact .inr ⟨‹_›, rfl⟩

theorem cutLoop_cons_ok {gi : Expr → Nat → Nat → R Expr} {sta sto lo hi : Nat} {nv : Expr} {tl ps ps' : List Part}
    (h : cutLoop gi sta sto ((lo, hi, nv) :: tl) ps = .ok ps') :
    ∃ ps2 ps3, cutHead gi sta lo nv (popKey lo hi ps) = .ok ps2 ∧ cutTail gi sto lo hi nv ps2 = .ok ps3 ∧
      cutLoop gi sta sto tl ps3 = .ok ps' := by
  simp only [cutLoop] at h
  cases h2 : cutHead gi sta lo nv (popKey lo hi ps) with
  | error e => rw [h2] at h; cases h
  | ok ps2 =>
    rw [h2] at h
    simp only at h
    cases h3 : cutTail gi sto lo hi nv ps2 with
    | error e => rw [h3] at h; cases h
    | ok ps3 => rw [h3] at h; exact ⟨ps2, ps3, rfl, h3, h⟩

/-- Writing the piece `nv[a : b]` back under the key `(k₁, k₂)`, when the condition `c` of `cutHead`/`cutTail` holds. -/
theorem cutPiece_spec {gi : Expr → Nat → Nat → R Expr} (hgi : GiSpec gi) {nv : Expr} (hwf : WF nv) {c : Prop}
    [Decidable c] {n k₁ k₂ a b : Nat} {ps ps' : List Part} (hs : Sized n ps) (hw : ∀ p ∈ ps, WF p.2.2)
    (h : (c ∧ ∃ x, gi nv a b = .ok x ∧ ps' = assignKey k₁ k₂ x ps) ∨ (¬ c ∧ ps' = ps))
    (hab : c → a < b ∧ b ≤ nv.size ∧ b - a = k₂ - k₁ ∧ k₂ ≤ n) (habs : c → findKey k₁ k₂ ps = none) :
    Sized n ps' ∧ (∀ p ∈ ps', WF p.2.2)
      ∧ (∀ x, cnt x ps' = cnt x ps + (if c then ind k₁ k₂ x else 0))
      ∧ (∀ i j, ¬ (i = k₁ ∧ j = k₂) → findKey i j ps' = findKey i j ps) := by
  rcases h with ⟨hl, x, hg, rfl⟩ | ⟨hl, rfl⟩
  · obtain ⟨h1, h2, h3, h4⟩ := hab hl
    have := hgi nv a b x hwf h1 h2 hg
    refine ⟨?_, ?_, ?_, fun i j hne => findKey_assignKey_ne hne⟩
    · intro q hq
      rcases mem_assignKey hq with hq | rfl
      · exact hs q hq
      · exact ⟨show k₁ < k₂ by omega, h4, this.2.trans h3⟩
    · intro q hq
      rcases mem_assignKey hq with hq | rfl
      · exact hw q hq
      · exact this.1
    · intro y
      rw [assignKey_absent _ (habs hl), cnt_append, cnt_single, if_pos hl]
  · exact ⟨hs, hw, fun y => by rw [if_neg hl]; rfl, fun _ _ _ => rfl⟩

/-- The keys `(lo, sta)` and `(sto, hi)` of the pieces must be absent from the table: `assignKey` then appends
    (`assignKey_absent`) and the coverage grows by exactly the piece, where on a bound key it would overwrite a part. -/
theorem cutLoop_spec (gi : Expr → Nat → Nat → R Expr) (hgi : GiSpec gi) (n sta sto : Nat) (hr : sta < sto) :
    ∀ (todo ps ps' : List Part),
      (∀ p ∈ todo, findKey p.1 p.2.1 ps = some p.2.2 ∧ p.1 < sto ∧ sta < p.2.1) →
      todo.Pairwise (fun p q => p.2.1 ≤ q.1) →
      (∀ p ∈ todo, p.1 < sta → findKey p.1 sta ps = none) →
      (∀ p ∈ todo, sto < p.2.1 → findKey sto p.2.1 ps = none) →
      Sized n ps → (∀ p ∈ ps, WF p.2.2) →
      cutLoop gi sta sto todo ps = .ok ps' →
      Sized n ps' ∧ (∀ p ∈ ps', WF p.2.2) ∧
        ∀ b, cnt b ps' + (todo.map (fun p => ind (max p.1 sta) (min p.2.1 sto) b)).sum = cnt b ps := by
  intro todo
  induction todo with
  | nil =>
    intro ps ps' _ _ _ _ hs hw h
    simp only [cutLoop] at h
    cases h
    exact ⟨hs, hw, by intro b; simp⟩
  | cons p tl ih =>
    obtain ⟨lo, hi, nv⟩ := p
    intro ps ps' hall hpw habs1 habs2 hs hw h
    obtain ⟨hfk, hov1, hov2⟩ := hall (lo, hi, nv) List.mem_cons_self
    simp only at hfk hov1 hov2
    obtain ⟨hlt, hhi, hsz⟩ := hs _ (findKey_some_mem hfk)
    have hwf := hw _ (findKey_some_mem hfk)
    simp only at hlt hhi hsz hwf
    have hpw' := List.pairwise_cons.mp hpw
    obtain ⟨ps2, ps3, h2, h3, hrec⟩ := cutLoop_cons_ok h
    generalize hps1 : popKey lo hi ps = ps1 at h2
    have hmem1 : ∀ q ∈ ps1, q ∈ ps := by intro q hq; rw [← hps1] at hq; exact mem_popKey hq
    have hcnt1 : ∀ b, cnt b ps1 + ind lo hi b = cnt b ps := by
      intro b; rw [← hps1]; exact cnt_popKey b hfk
    have hf1 : lo < sta → findKey lo sta ps1 = none := by
      intro hl
      rw [← hps1, findKey_popKey_ne (by omega)]
      exact habs1 _ List.mem_cons_self hl
    obtain ⟨hs2, hw2, hc2, hk2⟩ := cutPiece_spec hgi hwf (fun q hq => hs q (hmem1 q hq)) (fun q hq => hw q (hmem1 q hq))
      (cutHead_ok h2) (fun _ => by omega) hf1
    have hf2 : sto < hi → findKey sto hi ps2 = none := by
      intro hl
      rw [hk2 _ _ (by omega), ← hps1, findKey_popKey_ne (by omega)]
      exact habs2 _ List.mem_cons_self hl
    obtain ⟨hs3, hw3, hc3, hk3⟩ := cutPiece_spec hgi hwf hs2 hw2 (cutTail_ok h3) (fun _ => by omega) hf2
    have hk : ∀ q ∈ tl, ∀ i j, q.1 ≤ i → q.1 < j → findKey i j ps3 = findKey i j ps := by
      intro q hq i j hi' hj
      have hord := hpw'.1 q hq
      simp only at hord
      rw [hk3 _ _ (by omega), hk2 _ _ (by omega), ← hps1, findKey_popKey_ne (by omega)]
    have hqlt : ∀ q ∈ tl, q.1 < q.2.1 :=
      fun q hq => (hs _ (findKey_some_mem (hall q (List.mem_cons_of_mem _ hq)).1)).1
    have hall' : ∀ q ∈ tl, findKey q.1 q.2.1 ps3 = some q.2.2 ∧ q.1 < sto ∧ sta < q.2.1 := by
      intro q hq
      have hq' := hall q (List.mem_cons_of_mem _ hq)
      exact ⟨(hk q hq _ _ (Nat.le_refl _) (hqlt q hq)).trans hq'.1, hq'.2⟩
    have habs1' : ∀ q ∈ tl, q.1 < sta → findKey q.1 sta ps3 = none :=
      fun q hq hl => (hk q hq _ _ (Nat.le_refl _) hl).trans (habs1 q (List.mem_cons_of_mem _ hq) hl)
    have habs2' : ∀ q ∈ tl, sto < q.2.1 → findKey sto q.2.1 ps3 = none := by
      intro q hq hl
      have hq' := hall q (List.mem_cons_of_mem _ hq)
      exact (hk q hq _ _ (Nat.le_of_lt hq'.2.1) (hqlt q hq)).trans (habs2 q (List.mem_cons_of_mem _ hq) hl)
    obtain ⟨r1, r2, r3⟩ := ih ps3 ps' hall' hpw'.2 habs1' habs2' hs3 hw3 hrec
    refine ⟨r1, r2, ?_⟩
    intro b
    have := r3 b
    simp only [List.map_cons, List.sum_cons]
    have e := ind_split lo hi sta sto b hr hov1 hov2
    have := hc3 b
    have := hc2 b
    have := hcnt1 b
    omega

theorem setPart_spec (gi : Expr → Nat → Nat → R Expr) (hgi : GiSpec gi) (n sta sto : Nat) (v : Expr)
    (parts ps' : List Part) (hd : Disj n parts) (hw : ∀ p ∈ parts, WF p.2.2) (hv : WF v)
    (hvs : v.size = sto - sta) (hr : sta < sto) (hn : sto ≤ n)
    (h : setPart gi sta sto v parts = .ok ps') :
    Disj n ps' ∧ (∀ p ∈ ps', WF p.2.2) ∧ ∀ b, cnt b ps' = if sta ≤ b ∧ b < sto then 1 else cnt b parts := by
  unfold setPart at h
  have hs0 : Sized n (assignKey sta sto v parts) := by
    intro p hp
    rcases mem_assignKey hp with hp | rfl
    · exact hd.1 p hp
    · exact ⟨hr, hn, hvs⟩
  have hw0 : ∀ p ∈ assignKey sta sto v parts, WF p.2.2 := by
    intro p hp
    rcases mem_assignKey hp with hp | rfl
    · exact hw p hp
    · exact hv
  have key : Sized n ps' ∧ (∀ p ∈ ps', WF p.2.2) ∧ ∀ b, cnt b ps' = if sta ≤ b ∧ b < sto then 1 else cnt b parts := by
    cases hf : findKey sta sto parts with
    | some e =>
      rw [hf] at h
      cases h
      refine ⟨hs0, hw0, ?_⟩
      intro b
      rw [cnt_assignKey_present b v (by rw [hf]; rfl)]
      split
      · rename_i hb
        have := cnt_pos_of_mem (findKey_some_mem hf) (b := b) hb
        have := hd.cnt_le b
        omega
      · rfl
    | none =>
      rw [hf] at h
      simp only at h
      rw [assignKey_absent v hf] at hs0 hw0
      have hall : ∀ p ∈ overlapping sta sto parts,
          findKey p.1 p.2.1 (parts ++ [(sta, sto, v)]) = some p.2.2 ∧ p.1 < sto ∧ sta < p.2.1 := by
        intro p hp
        obtain ⟨hm, h12⟩ := mem_overlapping hp
        exact ⟨findKey_append_some (hd.findKey_of_mem (lo := p.1) (hi := p.2.1) (e := p.2.2) hm), h12⟩
      have single_none : ∀ a c, ¬ (a = sta ∧ c = sto) → findKey a c [(sta, sto, v)] = none :=
        fun a c hne => findKey_cons_ne hne v []
      have habs1 : ∀ p ∈ overlapping sta sto parts, p.1 < sta → findKey p.1 sta (parts ++ [(sta, sto, v)]) = none := by
        intro p hp hl
        obtain ⟨hm, h1, h2⟩ := mem_overlapping hp
        have hs := hd.1 p hm
        exact findKey_append_none (hd.findKey_eq_none hm (b := p.1) ⟨Nat.le_refl _, hs.1⟩ ⟨Nat.le_refl _, hl⟩ (by omega))
          (single_none _ _ (by omega))
      have habs2 : ∀ p ∈ overlapping sta sto parts, sto < p.2.1 → findKey sto p.2.1 (parts ++ [(sta, sto, v)]) = none := by
        intro p hp hl
        obtain ⟨hm, h1, h2⟩ := mem_overlapping hp
        have hs := hd.1 p hm
        exact findKey_append_none (hd.findKey_eq_none hm (b := p.2.1 - 1) ⟨by omega, by omega⟩ ⟨by omega, by omega⟩ (by omega))
          (single_none _ _ (by omega))
      obtain ⟨r1, r2, r3⟩ := cutLoop_spec gi hgi n sta sto hr _ _ _ hall (overlapping_pairwise hd) habs1 habs2 hs0 hw0 h
      refine ⟨r1, r2, ?_⟩
      intro b
      have := r3 b
      rw [sum_overlapping, cnt_append, cnt_single] at this
      have hle := hd.cnt_le b
      unfold ind at this
      split_ifs at this ⊢ <;> omega
  refine ⟨⟨key.1, ?_⟩, key.2.1, key.2.2⟩
  intro b
  have := key.2.2 b
  have hle := hd.cnt_le b
  show cnt b ps' ≤ 1
  split_ifs at this <;> omega

/-! ### `restruct` -/

theorem WF_mkCst (x : Int) (s : Nat) (hs : 0 < s) : WF (mkCst x s) := by
  have hp : (0 : Int) < ((2 ^ s : Nat) : Int) := Int.natCast_pos.mpr (Nat.two_pow_pos s)
  exact ⟨hs, (Int.toNat_lt (Int.emod_nonneg x (ne_of_gt hp))).mpr (Int.emod_lt_of_pos x hp)⟩

theorem restructFind_spec (l : List Part) (A B : Part) (m : Expr) (h : restructFind l = some (A, B, m)) :
    A ∈ l ∧ B ∈ l ∧ A.2.1 = B.1 ∧
      ((∃ x, m = mkCst x (A.2.2.size + B.2.2.size)) ∨ m = mkTop (B.2.1 - A.1)) := by
  induction l with
  | nil => simp [restructFind] at h
  | cons p rest ih =>
    obtain ⟨alo, ahi, a⟩ := p
    cases rest with
    | nil => simp [restructFind] at h
    | cons q tl =>
      obtain ⟨blo, bhi, b⟩ := q
      simp only [restructFind] at h
      have rec_case : restructFind ((blo, bhi, b) :: tl) = some (A, B, m) →
          A ∈ (alo, ahi, a) :: (blo, bhi, b) :: tl ∧ B ∈ (alo, ahi, a) :: (blo, bhi, b) :: tl ∧ A.2.1 = B.1 ∧
            ((∃ x, m = mkCst x (A.2.2.size + B.2.2.size)) ∨ m = mkTop (B.2.1 - A.1)) := by
        intro h'
        obtain ⟨h1, h2, h3⟩ := ih h'
        exact ⟨List.mem_cons_of_mem _ h1, List.mem_cons_of_mem _ h2, h3⟩
      split at h
      · rename_i hadj
        simp only [beq_iff_eq] at hadj
        split at h
        · cases h
          exact ⟨List.mem_cons_self, List.mem_cons_of_mem _ List.mem_cons_self, hadj, Or.inl ⟨_, rfl⟩⟩
        · split at h
          · cases h
            exact ⟨List.mem_cons_self, List.mem_cons_of_mem _ List.mem_cons_self, hadj, Or.inr rfl⟩
          · exact rec_case h
      · exact rec_case h

theorem restruct_step (n : Nat) (ps : List Part) (alo ahi blo bhi : Nat) (a b m : Expr)
    (hd : Disj n ps) (hw : ∀ p ∈ ps, WF p.2.2)
    (hf : restructFind (sortParts ps) = some ((alo, ahi, a), (blo, bhi, b), m)) :
    let ps3 := popKey blo bhi (popKey alo ahi (assignKey alo bhi m ps))
    Disj n ps3 ∧ (∀ p ∈ ps3, WF p.2.2) ∧ (∀ x, cnt x ps3 = cnt x ps) ∧
      (∀ p ∈ ps3, p ∈ ps ∨ p = (alo, bhi, m)) ∧ ps3.length + 1 = ps.length ∧
      (alo, ahi, a) ∈ ps ∧ (blo, bhi, b) ∈ ps ∧ ahi = blo ∧ alo < ahi ∧ blo < bhi := by
  intro ps3
  obtain ⟨hA, hB, hadj, hm⟩ := restructFind_spec _ _ _ _ hf
  simp only at hadj hm
  subst hadj
  have hA' : (alo, ahi, a) ∈ ps := (perm_sortParts ps).subset hA
  have hB' : (ahi, bhi, b) ∈ ps := (perm_sortParts ps).subset hB
  have sA := hd.1 _ hA'
  have sB := hd.1 _ hB'
  simp only at sA sB
  have hmsz : m.size = bhi - alo := by
    rcases hm with ⟨x, rfl⟩ | rfl
    · show a.size + b.size = bhi - alo; omega
    · rfl
  have hmwf : WF m := by
    rcases hm with ⟨x, rfl⟩ | rfl
    · exact WF_mkCst _ _ (by omega)
    · exact Nat.sub_pos_of_lt (Nat.lt_trans sA.1 sB.1)
  have hnew : findKey alo bhi ps = none :=
    hd.findKey_eq_none hA' (b := alo) ⟨Nat.le_refl _, sA.1⟩ ⟨Nat.le_refl _, by omega⟩ (by simp only; omega)
  have hfA : findKey alo ahi (ps ++ [(alo, bhi, m)]) = some a := findKey_append_some (hd.findKey_of_mem hA')
  have hfB : findKey ahi bhi (popKey alo ahi (ps ++ [(alo, bhi, m)])) = some b := by
    rw [findKey_popKey_ne (by omega)]; exact findKey_append_some (hd.findKey_of_mem hB')
  have hps3 : ps3 = popKey ahi bhi (popKey alo ahi (ps ++ [(alo, bhi, m)])) := by
    rw [← assignKey_absent m hnew]
  have hc : ∀ x, cnt x ps3 = cnt x ps := by
    intro x
    have h3 := cnt_popKey x hfB
    have h2 := cnt_popKey x hfA
    have h1 : cnt x (ps ++ [(alo, bhi, m)]) = cnt x ps + ind alo bhi x := by rw [cnt_append, cnt_single]
    rw [← hps3] at h3
    have := ind_adjacent sA.1 sB.1 x
    omega
  have hmem : ∀ p ∈ ps3, p ∈ ps ∨ p = (alo, bhi, m) := by
    intro p hp
    rw [hps3] at hp
    have := mem_popKey (mem_popKey hp)
    rcases List.mem_append.mp this with h | h
    · exact Or.inl h
    · exact Or.inr (by simpa using h)
  have hlen : ps3.length + 1 = ps.length := by
    rw [hps3]
    have a1 := length_popKey hfB
    have a2 := length_popKey hfA
    simp only [List.length_append, List.length_cons, List.length_nil] at a2
    omega
  refine ⟨⟨?_, fun x => ?_⟩, ?_, hc, hmem, hlen, hA', hB', rfl, sA.1, sB.1⟩
  · intro p hp
    rcases hmem p hp with h | rfl
    · exact hd.1 p h
    · exact ⟨by simp only; omega, by simp only; omega, hmsz⟩
  · show cnt x ps3 ≤ 1
    rw [hc x]; exact hd.cnt_le x
  · intro p hp
    rcases hmem p hp with h | rfl
    · exact hw p h
    · exact hmwf

theorem restructN_spec (n : Nat) : ∀ (k : Nat) (ps : List Part), Disj n ps → (∀ p ∈ ps, WF p.2.2) →
    Disj n (restructN k ps) ∧ (∀ p ∈ restructN k ps, WF p.2.2) ∧ ∀ b, cnt b (restructN k ps) = cnt b ps := by
  intro k
  induction k with
  | zero => intro ps hd hw; exact ⟨hd, hw, fun _ => rfl⟩
  | succ k ih =>
    intro ps hd hw
    simp only [restructN]
    cases hf : restructFind (sortParts ps) with
    | none => exact ⟨hd, hw, fun _ => rfl⟩
    | some t =>
      obtain ⟨A, B, m⟩ := t
      obtain ⟨alo, ahi, a⟩ := A
      obtain ⟨blo, bhi, b⟩ := B
      simp only
      obtain ⟨hd3, hw3, hc, _⟩ := restruct_step n ps alo ahi blo bhi a b m hd hw hf
      obtain ⟨r1, r2, r3⟩ := ih _ hd3 hw3
      exact ⟨r1, r2, fun x => by rw [r3 x, hc x]⟩

theorem restruct_spec (n : Nat) (ps : List Part) (hd : Disj n ps) (hw : ∀ p ∈ ps, WF p.2.2) :
    Disj n (restruct ps) ∧ (∀ p ∈ restruct ps, WF p.2.2) ∧ ∀ b, cnt b (restruct ps) = cnt b ps :=
  restructN_spec n ps.length ps hd hw

/-! ### The loop of `__getitem__` -/

def SiSpec (si : Expr → Nat → Nat → Expr → R Expr) : Prop :=
  ∀ n sf ps a b v r, Disj n ps → (∀ p ∈ ps, WF p.2.2) → WF v → si (.comp n sf ps) a b v = .ok r →
    ∃ ps', r = .comp n sf ps' ∧ Disj n ps' ∧ (∀ p ∈ ps', WF p.2.2) ∧ a < b ∧ b ≤ n ∧
      ∀ x, cnt x ps' = if a ≤ x ∧ x < b then 1 else cnt x ps

/-- The loop of `comp.__getitem__`.  `J` is any further invariant of `(b, result parts)` that each step (one `gi`,
    one `si`) preserves. -/
theorem compGetLoop_inv (gi : Expr → Nat → Nat → R Expr) (si : Expr → Nat → Nat → Expr → R Expr)
    (hgi : GiSpec gi) (hsi : SiSpec si) (size : Nat) (parts : List Part) (ht : Tiles size parts)
    (hw : ∀ p ∈ parts, WF p.2.2) (stop l sta : Nat) (hstop : stop = sta + l) (hle : stop ≤ size) (sf : Bool)
    (J : Nat → List Part → Prop)
    (hJ : ∀ b rps lo hi s piece rps1, b < l → Disj l rps → (∀ p ∈ rps, WF p.2.2) → (lo, hi, s) ∈ parts →
      lo ≤ sta + b → sta + b < hi → gi s (sta + b - lo) (min hi stop - lo) = .ok piece →
      si (comp l sf rps) b (b + (min hi stop - lo - (sta + b - lo))) piece = .ok (comp l sf rps1) →
      J b rps → J (b + (min hi stop - lo - (sta + b - lo))) rps1) :
    ∀ (k b : Nat) (rps : List Part) (res : Expr), l - b ≤ k → b ≤ l → Disj l rps → (∀ p ∈ rps, WF p.2.2) →
      (∀ x, cnt x rps = if x < b then 1 else 0) → J b rps →
      compGetLoop gi si parts stop l k b (sta + b) (.comp l sf rps) = .ok res →
      ∃ rps', res = .comp l sf rps' ∧ Tiles l rps' ∧ (∀ p ∈ rps', WF p.2.2) ∧ J l rps' := by
  have done : ∀ (b : Nat) (rps : List Part), l ≤ b → b ≤ l → Disj l rps → (∀ p ∈ rps, WF p.2.2) →
      (∀ x, cnt x rps = if x < b then 1 else 0) → J b rps →
      ∃ rps', Expr.comp l sf rps = .comp l sf rps' ∧ Tiles l rps' ∧ (∀ p ∈ rps', WF p.2.2) ∧ J l rps' := by
    intro b rps h1 h2 hd hwr hc hj
    obtain rfl : b = l := by omega
    exact ⟨rps, rfl, ⟨hd.1, fun x hx => by show cnt x rps = 1; rw [hc x]; simp [hx]⟩, hwr, hj⟩
  intro k
  induction k with
  | zero =>
    intro b rps res hk hb hd hwr hc hj h
    simp only [compGetLoop] at h
    cases h
    exact done b rps (by omega) hb hd hwr hc hj
  | succ k ih =>
    intro b rps res hk hb hd hwr hc hj h
    simp only [compGetLoop] at h
    split at h
    · cases h
      exact done b rps (by omega) hb hd hwr hc hj
    · rename_i hbl
      have hbl' : b < l := by omega
      obtain ⟨⟨lo, hi, s⟩, hcv, hm, h1, h2⟩ := exists_cover (b := sta + b) (ps := parts)
        (Nat.le_of_eq (ht.2 (sta + b) (by subst hstop; omega)).symm)
      rw [hcv] at h
      simp only at h h1 h2
      have hs := ht.1 _ hm
      simp only at hs
      obtain ⟨piece, hg, h⟩ := bind_ok h
      have hp := hgi s _ _ piece (hw _ hm) (by omega) (by omega) hg
      obtain ⟨res1, hsv, h⟩ := bind_ok h
      obtain ⟨rps1, rfl, hd1, hw1, hab, hbn, hc1⟩ := hsi l sf rps _ _ piece res1 hd hwr hp.1 hsv
      have e : sta + b + (min hi stop - lo - (sta + b - lo)) = sta + (b + (min hi stop - lo - (sta + b - lo))) := by
        omega
      rw [e] at h
      refine ih _ rps1 res (by omega) hbn hd1 hw1 ?_ (hJ b rps lo hi s piece rps1 hbl' hd hwr hm h1 h2 hg hsv hj) h
      intro x
      rw [hc1 x, hc x]
      split_ifs <;> omega

end Amoco.Expr
