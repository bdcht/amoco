/-
  Amoco.Proofs.ExprCompSem — `idealParts` as the `|||` of one `contrib` per part, and: `restruct` on a tiled
  table whose parts are all constants merges them into ONE constant (used by `eval_const`: under a total
  constant environment `comp.eval` returns a constant).
-/
import Amoco.Proofs.ExprEvalWidth
import Amoco.Proofs.ExprCst

namespace Amoco.Expr

open Amoco.Bits

def contrib (ρ : Val) (p : Part) : Nat := ((ideal ρ p.2.2 % 2 ^ (p.2.1 - p.1)) <<< p.1)

theorem idealParts_cons (ρ : Val) (p : Part) (ps : List Part) :
    idealParts ρ (p :: ps) = contrib ρ p ||| idealParts ρ ps := by
  obtain ⟨lo, hi, e⟩ := p
  simp only [idealParts, contrib]

theorem idealParts_nil (ρ : Val) : idealParts ρ [] = 0 := by simp only [idealParts]

def AllCst (ps : List Part) : Prop := ∀ p ∈ ps, p.2.2.isCst = true

theorem sorted_adjacent {n : Nat} {ps : List Part} (ht : Tiles n ps) {a b : Part} {tl : List Part}
    (hs : sortParts ps = a :: b :: tl) : a.2.1 = b.1 := by
  have hperm := perm_sortParts ps
  have hd := ht.disj
  have hpw := hd.sorted_pairwise (List.Sublist.refl ps)
  rw [hs] at hpw
  have h1 := (List.pairwise_cons.mp hpw).1 b List.mem_cons_self
  by_contra hne
  have hlt : a.2.1 < b.1 := by omega
  have ha : a ∈ ps := hperm.subset (by rw [hs]; exact List.mem_cons_self)
  have hb : b ∈ ps := hperm.subset (by rw [hs]; exact List.mem_cons_of_mem _ List.mem_cons_self)
  have sb := hd.1 b hb
  have hcnt := ht.2 a.2.1 (by omega)
  have : cnt a.2.1 (sortParts ps) = 0 := by
    rw [hs]
    unfold cnt
    rw [List.countP_eq_zero]
    intro p hp
    unfold covers
    simp only [Bool.and_eq_true, decide_eq_true_eq, not_and, not_lt]
    intro hle
    rcases List.mem_cons.mp hp with rfl | hp
    · omega
    · rcases List.mem_cons.mp hp with rfl | hp
      · omega
      · have h2 := (List.pairwise_cons.mp (List.pairwise_cons.mp hpw).2).1 p hp
        have sp := hd.1 p (hperm.subset (by rw [hs]; exact List.mem_cons_of_mem _ (List.mem_cons_of_mem _ hp)))
        omega
  have e : cnt a.2.1 (sortParts ps) = cnt a.2.1 ps := hperm.countP_eq _
  change cnt a.2.1 ps = 1 at hcnt
  omega

theorem restructFind_first (alo ahi bhi av as_ bv bs : Nat) (fa fb : Bool) (tl : List Part) :
    restructFind ((alo, ahi, cst av as_ fa) :: (ahi, bhi, cst bv bs fb) :: tl)
      = some ((alo, ahi, cst av as_ fa), (ahi, bhi, cst bv bs fb), mkCst (((bv <<< as_) ||| av : Nat) : Int) (as_ + bs)) := by
  simp [restructFind]

theorem restructN_allcst (n : Nat) : ∀ (k : Nat) (ps : List Part), ps.length = k + 1 → Tiles n ps →
    (∀ p ∈ ps, WF p.2.2) → AllCst ps → 0 < n →
    ∃ v f, restructN (k + 1) ps = [(0, n, cst v n f)] ∧ v < 2 ^ n := by
  intro k
  induction k with
  | zero =>
    intro ps hl ht hw hc hn
    match ps, hl with
    | [p], _ =>
      obtain ⟨lo, hi, e⟩ := p
      obtain ⟨rfl, rfl⟩ := Tiles.single_key hn ht
      have hs : e.size = hi := Tiles.single hn ht
      have hce : e.isCst = true := hc _ List.mem_cons_self
      have hwe : WF e := hw _ List.mem_cons_self
      cases e with
      | cst v s f =>
        obtain rfl : s = hi := hs
        exact ⟨v, f, by simp [restructN, sortParts, insertPart, restructFind], hwe.2⟩
      | _ => simp [isCst] at hce
  | succ k ih =>
    intro ps hl ht hw hc hn
    have hperm := perm_sortParts ps
    have hlen : (sortParts ps).length = k + 2 := by rw [hperm.length_eq]; exact hl
    match hs : sortParts ps, hlen with
    | a :: b :: tl, _ =>
      have hadj := sorted_adjacent ht hs
      have ha : a ∈ ps := hperm.subset (by rw [hs]; exact List.mem_cons_self)
      have hb : b ∈ ps := hperm.subset (by rw [hs]; exact List.mem_cons_of_mem _ List.mem_cons_self)
      obtain ⟨alo, ahi, ae⟩ := a
      obtain ⟨blo, bhi, be⟩ := b
      simp only at hadj
      subst hadj
      have hca : ae.isCst = true := hc _ ha
      have hcb : be.isCst = true := hc _ hb
      cases ae with
      | cst av as_ fa =>
        cases be with
        | cst bv bs fb =>
          have hf : restructFind (sortParts ps) = some ((alo, ahi, cst av as_ fa), (ahi, bhi, cst bv bs fb),
              mkCst (((bv <<< as_) ||| av : Nat) : Int) (as_ + bs)) := by
            rw [hs]; exact restructFind_first _ _ _ _ _ _ _ _ _ _
          obtain ⟨hd3, hw3, hc3, hm3, hl3, _⟩ := restruct_step n ps alo ahi ahi bhi _ _ _ ht.disj hw hf
          obtain ⟨v, f, hr, hv⟩ := ih _ (by omega) (tiles_of_disj_cnt hd3 (fun x hx => by rw [hc3 x]; exact ht.2 x hx)) hw3
            (fun p hp => by
              rcases hm3 p hp with h | rfl
              · exact hc p h
              · rfl) hn
          exact ⟨v, f, by rw [restructN, hf]; exact hr, hv⟩
        | _ => simp [isCst] at hcb
      | _ => simp [isCst] at hca

end Amoco.Expr
