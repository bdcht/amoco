/-
  Amoco.Proofs.ExprCst — constant folding: on two constants the `cst` operator table `cstApi` returns the value and
  width that `binSem` dictates, whatever the sign flags for `+ - *` (the two readings are congruent modulo `2^size`),
  the logic operators, `<<`, `==`, `!=`, and when both flags are the declared signedness for `** / %` and the ordered
  comparisons.  `ror_formula`/`rol_formula` are the `>> | <<` composites that the helpers `ror`/`rol` compute.
-/
import Amoco.Proofs.ExprArith

namespace Amoco.Bits

open Amoco.Expr

def cstOut : R Expr → Option (Nat × Nat)
  | .ok (.cst v s _) => some (v, s)
  | _ => none

theorem cstOut_mkCst (x : Int) (s : Nat) : cstOut (.ok (mkCst x s)) = some (wrap s x, s) := rfl

theorem wrap_cstValue_add (lv ls : Nat) (lf : Bool) (rv rs : Nat) (rf : Bool) (hl : lv < 2 ^ ls) (hr : rv < 2 ^ ls)
    (hs : rs = ls) : wrap ls (cstValue lv ls lf + cstValue rv rs rf) = wrap ls ((lv : Int) + rv) := by
  subst hs
  rw [← wrap_add_left, ← wrap_add_right, wrap_cstValue _ _ _ hl, wrap_cstValue _ _ _ hr]

theorem cst_add (lv ls : Nat) (lf : Bool) (rv : Nat) (rf sg : Bool) (hl : lv < 2 ^ ls) (hr : rv < 2 ^ ls) :
    cstOut (cstApi Op.add lv ls lf rv ls rf) = some (binSem Op.add sg ls lv rv, ls) := by
  simp only [cstApi, cstOut_mkCst, binSem_add]
  rw [wrap_cstValue_add _ _ _ _ _ _ hl hr rfl]

theorem cst_sub (lv ls : Nat) (lf : Bool) (rv : Nat) (rf sg : Bool) (hl : lv < 2 ^ ls) (hr : rv < 2 ^ ls) :
    cstOut (cstApi Op.sub lv ls lf rv ls rf) = some (binSem Op.sub sg ls lv rv, ls) := by
  simp only [cstApi, cstOut_mkCst, binSem_sub]
  rw [← wrap_sub_left, ← wrap_sub_right, wrap_cstValue _ _ _ hl, wrap_cstValue _ _ _ hr]

theorem cst_mul (lv ls : Nat) (lf : Bool) (rv : Nat) (rf sg : Bool) (hl : lv < 2 ^ ls) (hr : rv < 2 ^ ls) :
    cstOut (cstApi Op.mul lv ls lf rv ls rf) = some (binSem Op.mul sg ls lv rv, ls) := by
  simp only [cstApi, cstOut_mkCst]
  rw [← wrap_mul_left, ← wrap_mul_right, wrap_cstValue _ _ _ hl, wrap_cstValue _ _ _ hr]
  simp only [binSem]
  rw [← wrap_of_nat]; push_cast; rfl

theorem cst_mul2 (lv ls : Nat) (rv : Nat) (sg : Bool) :
    cstOut (cstApi Op.mul2 lv ls sg rv ls sg) = some (binSem Op.mul2 sg ls lv rv, 2 * ls) := by
  simp only [cstApi, cstOut_mkCst, binSem]
  cases sg
  · simp only [cstValue_unsigned]
    rw [← wrap_of_nat]; push_cast; rfl
  · simp only [cstValue_signed]; rfl

/-- Python's `//` on ints is floor division, hence `Int.fdiv` in `cstApi` and in the signed `binSem` -/
theorem cst_div (lv ls : Nat) (rv : Nat) (sg : Bool) (h0 : cstValue rv ls sg ≠ 0) :
    cstOut (cstApi Op.div lv ls sg rv ls sg) = some (binSem Op.div sg ls lv rv, ls) := by
  simp only [cstApi, h0, if_false, cstOut_mkCst, binSem]
  cases sg
  · simp only [cstValue_unsigned]
    have : Int.fdiv (lv : Int) (rv : Int) = ((lv / rv : Nat) : Int) := by
      rw [Int.fdiv_eq_ediv_of_nonneg _ (by omega)]; rfl
    rw [this, wrap_of_nat]; rfl
  · simp only [cstValue_signed]; rfl

theorem cst_mod (lv ls : Nat) (rv : Nat) (sg : Bool) (h0 : cstValue rv ls sg ≠ 0) :
    cstOut (cstApi Op.mod lv ls sg rv ls sg) = some (binSem Op.mod sg ls lv rv, ls) := by
  simp only [cstApi, h0, if_false, cstOut_mkCst, binSem]
  cases sg
  · simp only [cstValue_unsigned]
    have : Int.fmod (lv : Int) (rv : Int) = ((lv % rv : Nat) : Int) := by
      rw [Int.fmod_eq_emod_of_nonneg _ (by omega)]; rfl
    rw [this, wrap_of_nat]; rfl
  · simp only [cstValue_signed]; rfl

theorem and_lt (a b w : Nat) (h : a < 2 ^ w) : a &&& b < 2 ^ w := Nat.lt_of_le_of_lt Nat.and_le_left h

theorem cst_and (lv ls : Nat) (lf : Bool) (rv : Nat) (rf sg : Bool) (hl : lv < 2 ^ ls) :
    cstOut (cstApi Op.and lv ls lf rv ls rf) = some (binSem Op.and sg ls lv rv, ls) := by
  simp only [cstApi, cstOut_mkCst, binSem]
  rw [wrap_of_lt _ _ (and_lt _ _ _ hl)]

theorem cst_or (lv ls : Nat) (lf : Bool) (rv : Nat) (rf sg : Bool) (hl : lv < 2 ^ ls) (hr : rv < 2 ^ ls) :
    cstOut (cstApi Op.or lv ls lf rv ls rf) = some (binSem Op.or sg ls lv rv, ls) := by
  simp only [cstApi, cstOut_mkCst, binSem]
  rw [wrap_of_lt _ _ (Nat.or_lt_two_pow hl hr)]

theorem cst_xor (lv ls : Nat) (lf : Bool) (rv : Nat) (rf sg : Bool) (hl : lv < 2 ^ ls) (hr : rv < 2 ^ ls) :
    cstOut (cstApi Op.xor lv ls lf rv ls rf) = some (binSem Op.xor sg ls lv rv, ls) := by
  simp only [cstApi, cstOut_mkCst, binSem]
  rw [wrap_of_lt _ _ (Nat.xor_lt_two_pow hl hr)]

/-- any amount: `cst.__lshift__` as repaired by `fix: constant shifts take the amount as an unsigned number …`
    shifts by the unsigned `n.v` and gives 0 for amounts ≥ size (the original shifted by the signed `n.value`) -/
theorem cst_lsl (lv ls : Nat) (lf : Bool) (rv rs : Nat) (rf sg : Bool) (hl : lv < 2 ^ ls) :
    cstOut (cstApi Op.lsl lv ls lf rv rs rf) = some (binSem Op.lsl sg ls lv rv, ls) := by
  simp only [cstApi, binSem]
  by_cases h : rv < ls
  · have h' : ¬ rv ≥ ls := by omega
    simp only [h, h', if_true, if_false, cstOut_mkCst]
    rw [← wrap_mul_left, wrap_cstValue _ _ _ hl, Nat.shiftLeft_eq, ← wrap_of_nat]; push_cast; rfl
  · have h' : rv ≥ ls := by omega
    simp only [h, h', if_true, if_false, cstOut_mkCst]; rfl

/-- `lf = false`: `cst.__rshift__` shifts the unsigned `self.v`, whatever `self.sf` -/
theorem cst_lsr (lv ls : Nat) (rv rs : Nat) (rf sg : Bool) (hl : lv < 2 ^ ls) :
    cstOut (cstApi Op.lsr lv ls false rv rs rf) = some (binSem Op.lsr sg ls lv rv, ls) := by
  simp only [cstApi, cstOut_mkCst, binSem, cstValue_unsigned]
  have : ((lv : Int) >>> rv) = ((lv >>> rv : Nat) : Int) := by
    rw [Int.shiftRight_eq_div_pow, Nat.shiftRight_eq_div_pow]; push_cast; rfl
  rw [this, wrap_of_lt]
  exact Nat.lt_of_le_of_lt (Nat.shiftRight_le _ _) hl

/-- `lf = true`: `cst.__floordiv__` (arithmetic shift right) shifts `.value` of a copy of `self` flagged signed -/
theorem cst_asr (lv ls : Nat) (rv rs : Nat) (rf sg : Bool) :
    cstOut (cstApi Op.asr lv ls true rv rs rf) = some (binSem Op.asr sg ls lv rv, ls) := by
  simp only [cstApi, cstOut_mkCst, binSem, cstValue_signed]

theorem cst_eq (lv ls : Nat) (lf : Bool) (rv : Nat) (rf sg : Bool) :
    cstOut (cstApi Op.eq lv ls lf rv ls rf) = some (binSem Op.eq sg ls lv rv, 1) := by
  simp only [cstApi, binSem, ofBool, b2n, cstOut]

theorem cst_neq (lv ls : Nat) (lf : Bool) (rv : Nat) (rf sg : Bool) :
    cstOut (cstApi Op.neq lv ls lf rv ls rf) = some (binSem Op.neq sg ls lv rv, 1) := by
  simp only [cstApi, binSem, ofBool, b2n, cstOut]

theorem cst_cmp (o : Op) (ho : o = Op.lt ∨ o = Op.le ∨ o = Op.ge ∨ o = Op.gt) (lv ls rv : Nat) (sg : Bool) :
    cstOut (cstApi o lv ls sg rv ls sg) = some (binSem o sg ls lv rv, 1) := by
  rcases ho with h | h | h | h <;> subst h <;> cases sg <;>
    simp only [cstApi, binSem, ofBool, b2n, cstOut, cstValue_signed, cstValue_unsigned] <;> simp

/-- `<.` on constants: the helper `ltu` of expressions.py, as repaired by `fix: ltu/geu on constants compare
    unsigned`, clears both sign flags and compares with `<`; likewise `geu` with `>=` -/
theorem cst_ltu (lv ls rv : Nat) (sg : Bool) :
    cstOut (cstApi Op.lt lv ls false rv ls false) = some (binSem Op.ltu sg ls lv rv, 1) := by
  simp only [cstApi, binSem, ofBool, b2n, cstOut, cstValue_unsigned]; simp

theorem cst_geu (lv ls rv : Nat) (sg : Bool) :
    cstOut (cstApi Op.ge lv ls false rv ls false) = some (binSem Op.geu sg ls lv rv, 1) := by
  simp only [cstApi, binSem, ofBool, b2n, cstOut, cstValue_unsigned]; simp

/-- before that commit `ltu`/`geu` set `x.sf = y.sf = True` and so compared the signed readings: a witness
    that this is not `binSem Op.ltu` -/
theorem ltu_signed_is_wrong :
    cstOut (cstApi Op.lt 0x80000000 32 true 1 32 true) ≠ some (binSem Op.ltu false 32 0x80000000 1, 1) := by
  decide

/-- the left sides of `cst_neg` and `cst_not` are what `apiNeg` and `apiNot` hand to `mkCst` -/
theorem cst_neg (v s : Nat) (f : Bool) (h : v < 2 ^ s) : wrap s (-(cstValue v s f)) = unSem Op.sub s v := by
  show _ = wrap s (-(v : Int))
  rw [← wrap_neg, wrap_cstValue _ _ _ h]

theorem cst_not (v s : Nat) : wrap s ((mask s - v % 2 ^ s : Nat) : Int) = unSem Op.not s v := by
  rw [wrap_of_nat]
  unfold mask unSem
  apply Nat.mod_eq_of_lt
  have := Nat.two_pow_pos s
  omega

/-- the left side is what the helper `ror` of expressions.py computes on constants, `x >> m | x << (x.size - m)`
    with `m = n.v % x.size`, as repaired by `fix: ror/rol compute size - n in the width of the rotated value …`
    (the original did not reduce `n` and computed `x.size - n` in the width of `n`); likewise `rol` -/
theorem ror_formula (a w n : Nat) (ha : a < 2 ^ w) :
    ((a >>> (n % w)) ||| ((a <<< (w - n % w)) % 2 ^ w)) = binSem Op.ror false w a n := by
  simp only [binSem]
  rw [Nat.or_mod_two_pow, Nat.mod_eq_of_lt (Nat.lt_of_le_of_lt (Nat.shiftRight_le _ _) ha)]

theorem rol_formula (a w n : Nat) (ha : a < 2 ^ w) :
    (((a <<< (n % w)) % 2 ^ w) ||| (a >>> (w - n % w))) = binSem Op.rol false w a n := by
  simp only [binSem]
  rw [Nat.or_mod_two_pow, Nat.mod_eq_of_lt (Nat.lt_of_le_of_lt (Nat.shiftRight_le _ _) ha)]

theorem asr_ge_width (a w n : Nat) (ha : a < 2 ^ w) (h : w ≤ n) (sg : Bool) :
    binSem Op.asr sg w a n = if a.testBit (w - 1) then 2 ^ w - 1 else 0 := by
  simp only [binSem, toInt]
  have hc : ((2 ^ w : Nat) : Int) = (2 : Int) ^ w := by push_cast; rfl
  have hp : (0 : Int) < (2 : Int) ^ w := by positivity
  have hwn : (2 : Int) ^ w ≤ 2 ^ n := by exact_mod_cast Nat.pow_le_pow_right (by decide) h
  have hpos : (0 : Int) < 2 ^ n := by positivity
  have haI : (a : Int) < (2 : Int) ^ w := by exact_mod_cast ha
  have ha0 : (0 : Int) ≤ (a : Int) := by omega
  by_cases hb : a.testBit (w - 1)
  · simp only [hb, if_true]
    -- `-2^n ≤ a - 2^w < 0` because `w ≤ n`, so the floor quotient by `2^n` is `-1`
    have : ((a : Int) - ((2 ^ w : Nat) : Int)) >>> n = -1 := by
      rw [Int.shiftRight_eq_div_pow, hc]
      have := (Int.ediv_emod_unique (a := (a : Int) - (2 : Int) ^ w) (b := (2 : Int) ^ n)
                (q := -1) (r := (a : Int) - (2 : Int) ^ w + 2 ^ n) hpos).mpr
      exact (this ⟨by ring, by linarith, by linarith⟩).1
    rw [this]
    unfold wrap
    rw [hc]
    have e : (-1 : Int) % ((2 : Int) ^ w) = (2 : Int) ^ w - 1 := by
      have := (Int.ediv_emod_unique (a := (-1 : Int)) (b := (2 : Int) ^ w) (q := -1)
                (r := (2 : Int) ^ w - 1) hp).mpr
      exact (this ⟨by ring, by linarith, by linarith⟩).2
    rw [e]
    have : ((2 : Int) ^ w - 1).toNat = 2 ^ w - 1 := by
      rw [← hc]
      have := Nat.two_pow_pos w
      omega
    exact this
  · simp only [hb]
    have : ((a : Int)) >>> n = 0 := by
      rw [Int.shiftRight_eq_div_pow]
      have hcn : ((2 ^ n : Nat) : Int) = (2 : Int) ^ n := by push_cast; rfl
      exact Int.ediv_eq_zero_of_lt ha0 (by linarith)
    simp [this, wrap]

end Amoco.Bits
