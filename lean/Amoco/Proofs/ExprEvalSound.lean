/-
  Amoco.Proofs.ExprEvalSound — on two constants `callOp` returns the constant of `binSem` at the width `resSize`
  dictates (`callOp_cst_sound`); with it, `eval` under a total constant environment returns `cst (ideal ρ e)` of
  width `e.size` (`eval_const`, behind C01 `eval_sound`).
-/
import Amoco.Proofs.ExprTableSem

namespace Amoco

open Expr Bits

/-- the reading of a `w`-bit value with declared signedness `s`.  It is `cstValue v w s` (`cstValue_reading`), under
    a name of its own to keep the signedness a parent node declares apart from the flag a constant happens to carry:
    the two may differ when the top bit is clear (`cst_leaf_reading`). -/
def reading (s : Bool) (w v : Nat) : Int := if s then toInt w v else (v : Int)

theorem cstValue_reading (v s : Nat) (sg : Bool) : cstValue v s sg = reading sg s v := by
  cases sg
  · simp [cstValue, reading]
  · simp [cstValue, reading, toInt]

theorem cstValue_neg_iff (v s : Nat) (f : Bool) (hv : v < 2 ^ s) :
    cstValue v s f < 0 ↔ (f = true ∧ v.testBit (s - 1) = true) := by
  unfold cstValue
  have hlt : (v : Int) < ((2 ^ s : Nat) : Int) := by exact_mod_cast hv
  cases f <;> cases hb : v.testBit (s - 1) <;> simp only [Bool.and_true, Bool.and_false,
    Bool.false_eq_true, if_false, if_true, and_true, and_false, iff_false, iff_true] <;> omega

/-- re-creating a constant from its Python value (`cst(self.value, self.size)`) keeps the value it reads as -/
theorem cstValue_reeval (v s : Nat) (f : Bool) (hv : v < 2 ^ s) :
    cstValue v s (decide (cstValue v s f < 0)) = cstValue v s f := by
  have hlt : (v : Int) < ((2 ^ s : Nat) : Int) := by exact_mod_cast hv
  by_cases h : cstValue v s f < 0
  · have := (cstValue_neg_iff v s f hv).mp h
    rw [decide_eq_true h, this.1]
  · have hn : ¬ (f = true ∧ v.testBit (s - 1) = true) := fun hh => h ((cstValue_neg_iff v s f hv).mpr hh)
    rw [decide_eq_false h]
    unfold cstValue
    cases f <;> cases hb : v.testBit (s - 1) <;> simp_all

theorem cst_leaf_reading (v sz : Nat) (f s : Bool) (h : f = s ∨ v.testBit (sz - 1) = false) :
    cstValue v sz f = reading s sz v := by
  rcases h with rfl | h
  · exact cstValue_reading v sz f
  · simp [cstValue, reading, toInt, h]

theorem cstApi_congr (o : Op) (lv ls : Nat) (lf lf' : Bool) (rv rs : Nat) (rf rf' : Bool)
    (h1 : cstValue lv ls lf = cstValue lv ls lf') (h2 : cstValue rv rs rf = cstValue rv rs rf') :
    cstApi o lv ls lf rv rs rf = cstApi o lv ls lf' rv rs rf' := by
  unfold cstApi
  dsimp only
  rw [h1, h2]

theorem cstOut_ok {x : R Expr} {v s : Nat} (h : cstOut x = some (v, s)) : ∃ f, x = .ok (.cst v s f) := by
  unfold cstOut at h
  split at h
  · rename_i v' s' f'
    simp only [Option.some.injEq, Prod.mk.injEq] at h
    exact ⟨f', by rw [h.1, h.2]⟩
  · cases h

variable (cfg : Cfg)

theorem api_cst (fuel : Nat) (o : Op) (lv ls : Nat) (lf : Bool) (rv rs : Nat) (rf : Bool) :
    api cfg (fuel + 1) o (.cst lv ls lf) (.cst rv rs rf) =
      if (hasSizeCheck o && !sizesOK ls rs) = true then .error .value
      else cstApi o lv ls (if (o == Op.lsr) = true then false else if (o == Op.asr) = true then true else lf) rv rs rf := by
  rw [api.eq_def]; rfl

/-- the constant table computes the reference meaning of the operator: `lf` is the flag the table sees
    (`api` has cleared it for `>>`, set it for `//`), `sg` the reading both operands carry when the operator
    depends on it -/
theorem cstApi_sound (o : Op) (lv ls : Nat) (lf : Bool) (rv rs : Nat) (rf : Bool) (sg : Bool) (res : Expr)
    (hl : lv < 2 ^ ls) (hr : rv < 2 ^ rs) (hsz : o.type ≠ 8 → ls = rs)
    (hsd : signDep o = true → cstValue lv ls lf = reading sg ls lv ∧ cstValue rv rs rf = reading sg rs rv)
    (hlsr : o = Op.lsr → lf = false) (hasr : o = Op.asr → lf = true)
    (h : cstApi o lv ls lf rv rs rf = .ok res) (lf0 : Bool) :
    ∃ f, res = .cst (binSem o sg ls lv rv) (resSize o (.cst lv ls lf0)) f := by
  -- a sign-dependent operator may as well be given operands flagged `sg`
  have flags : signDep o = true → cstApi o lv ls lf rv rs rf = cstApi o lv ls sg rv rs sg := fun hd =>
    cstApi_congr o lv ls lf sg rv rs rf sg (by rw [(hsd hd).1, cstValue_reading]) (by rw [(hsd hd).2, cstValue_reading])
  have out : ∀ {v s : Nat}, cstOut (cstApi o lv ls lf rv rs rf) = some (v, s) → ∃ f, res = .cst v s f := by
    intro v s hc
    obtain ⟨f, hf⟩ := cstOut_ok hc
    rw [hf] at h; cases h; exact ⟨f, rfl⟩
  cases o
  case add => obtain rfl := hsz (by decide); exact out (cst_add lv ls lf rv rf sg hl hr)
  case sub => obtain rfl := hsz (by decide); exact out (cst_sub lv ls lf rv rf sg hl hr)
  case mul => obtain rfl := hsz (by decide); exact out (cst_mul lv ls lf rv rf sg hl hr)
  case mul2 => obtain rfl := hsz (by decide); rw [flags rfl] at out; exact out (cst_mul2 lv ls rv sg)
  case div =>
    obtain rfl := hsz (by decide)
    rw [flags rfl] at out h
    by_cases h0 : cstValue rv ls sg = 0
    · simp [cstApi, h0] at h
    · exact out (cst_div lv ls rv sg h0)
  case mod =>
    obtain rfl := hsz (by decide)
    rw [flags rfl] at out h
    by_cases h0 : cstValue rv ls sg = 0
    · simp [cstApi, h0] at h
    · exact out (cst_mod lv ls rv sg h0)
  case and => obtain rfl := hsz (by decide); exact out (cst_and lv ls lf rv rf sg hl)
  case or => obtain rfl := hsz (by decide); exact out (cst_or lv ls lf rv rf sg hl hr)
  case xor => obtain rfl := hsz (by decide); exact out (cst_xor lv ls lf rv rf sg hl hr)
  case eq => obtain rfl := hsz (by decide); exact out (cst_eq lv ls lf rv rf sg)
  case neq => obtain rfl := hsz (by decide); exact out (cst_neq lv ls lf rv rf sg)
  case le => obtain rfl := hsz (by decide); rw [flags rfl] at out; exact out (cst_cmp Op.le (.inr (.inl rfl)) lv ls rv sg)
  case ge => obtain rfl := hsz (by decide); rw [flags rfl] at out; exact out (cst_cmp Op.ge (.inr (.inr (.inl rfl))) lv ls rv sg)
  case lt => obtain rfl := hsz (by decide); rw [flags rfl] at out; exact out (cst_cmp Op.lt (.inl rfl) lv ls rv sg)
  case gt => obtain rfl := hsz (by decide); rw [flags rfl] at out; exact out (cst_cmp Op.gt (.inr (.inr (.inr rfl))) lv ls rv sg)
  case lsl => exact out (cst_lsl lv ls lf rv rs rf sg hl)
  case lsr => obtain rfl := hlsr rfl; exact out (cst_lsr lv ls rv rs rf sg hl)
  case asr => obtain rfl := hasr rfl; exact out (cst_asr lv ls rv rs rf sg)
  -- `~ <. >=. >>> <<<` have no row in `cstApi`: it answers `unmodelled`
  all_goals cases h

/-- `lf0`: the width does not depend on a flag -/
theorem api_cst_sound (fuel : Nat) (o : Op) (lv ls : Nat) (lf : Bool) (rv rs : Nat) (rf : Bool) (sg : Bool) (res : Expr)
    (hl : lv < 2 ^ ls) (hr : rv < 2 ^ rs) (hsz : o.type ≠ 8 → ls = rs)
    (hsd : signDep o = true → cstValue lv ls lf = reading sg ls lv ∧ cstValue rv rs rf = reading sg rs rv)
    (h : api cfg fuel o (.cst lv ls lf) (.cst rv rs rf) = .ok res) (lf0 : Bool) :
    ∃ f, res = .cst (binSem o sg ls lv rv) (resSize o (.cst lv ls lf0)) f := by
  cases fuel with
  | zero => rw [api.eq_def] at h; cases h
  | succ fuel =>
  rw [api_cst] at h
  split at h
  · cases h
  · refine cstApi_sound o lv ls _ rv rs rf sg res hl hr hsz ?_ ?_ ?_ h lf0
    · intro hd
      have h1 : ¬ o = Op.lsr := by rintro rfl; cases hd
      have h2 : ¬ o = Op.asr := by rintro rfl; cases hd
      rw [if_neg (mt beq_iff_eq.mp h1), if_neg (mt beq_iff_eq.mp h2)]
      exact hsd hd
    · rintro rfl; rfl
    · rintro rfl; rfl

theorem callOp_cst_sound (fuel : Nat) (o : Op) (lv ls : Nat) (lf : Bool) (rv rs : Nat) (rf : Bool) (sg : Bool) (res : Expr)
    (hl : lv < 2 ^ ls) (hr : rv < 2 ^ rs) (hls : 0 < ls) (hsz : o.type ≠ 8 → ls = rs)
    (hsd : signDep o = true → cstValue lv ls lf = reading sg ls lv ∧ cstValue rv rs rf = reading sg rs rv)
    (h : callOp cfg fuel o (.cst lv ls lf) (.cst rv rs rf) = .ok res) :
    ∃ f, res = .cst (binSem o sg ls lv rv) (resSize o (.cst lv ls lf)) f := by
  cases fuel with
  | zero => rw [callOp.eq_def] at h; cases h
  | succ fuel =>
  rw [callOp.eq_def] at h; dsimp only at h
  -- rotations of a constant by a constant: two shifts by constants and an `|`
  have rot : ∀ (o' : Op), (o' = Op.ror ∨ o' = Op.rol) →
      helperRot cfg fuel o' (.cst lv ls lf) (.cst rv rs rf) = .ok res →
      ∃ f, res = .cst (binSem o' sg ls lv rv) ls f := by
    intro o' ho' hh
    cases fuel with
    | zero => rw [helperRot.eq_def] at hh; cases hh
    | succ fuel =>
    rw [helperRot.eq_def] at hh; dsimp only at hh
    simp only [isCst, Bool.and_self, if_true, size_cst, setSf, mkCst_v] at hh
    have hm : rv % ls < 2 ^ ls := Nat.lt_of_lt_of_le (Nat.mod_lt _ hls) (Nat.le_of_lt Nat.lt_two_pow_self)
    have hk : ls - rv % ls < 2 ^ ls := Nat.lt_of_le_of_lt (Nat.sub_le _ _) Nat.lt_two_pow_self
    rw [wrap_of_lt _ _ hm, wrap_of_lt _ _ hk] at hh
    have shr : ∀ k, binSem Op.lsr sg ls lv k < 2 ^ ls := fun k => Nat.lt_of_le_of_lt (Nat.shiftRight_le _ _) hl
    have shl : ∀ k, binSem Op.lsl sg ls lv k < 2 ^ ls := fun k => by
      simp only [binSem]; split
      · exact Nat.two_pow_pos _
      · exact Nat.mod_lt _ (Nat.two_pow_pos _)
    rcases ho' with rfl | rfl
    · simp only [beq_self_eq_true, if_true] at hh
      obtain ⟨t1, h1, hh⟩ := bind_ok hh
      obtain ⟨t2, h2, hh⟩ := bind_ok hh
      obtain ⟨f1, rfl⟩ := api_cst_sound cfg fuel Op.lsr lv ls lf _ ls _ sg t1 hl hm (fun h => nomatch h) (fun h => nomatch h) h1 lf
      obtain ⟨f2, rfl⟩ := api_cst_sound cfg fuel Op.lsl lv ls false _ ls _ sg t2 hl hk (fun h => nomatch h) (fun h => nomatch h) h2 lf
      obtain ⟨f3, rfl⟩ := api_cst_sound cfg fuel Op.or _ ls f1 _ ls f2 sg res (shr _) (shl _) (fun _ => rfl) (fun h => nomatch h) hh lf
      refine ⟨f3, ?_⟩
      congr 1
      have hrf := ror_formula lv ls rv hl
      simp only [binSem] at hrf ⊢
      rw [← hrf]
      -- for `rv % ls = 0` the left shift is by the whole width: `binSem Op.lsl` is 0 by its first branch, the
      -- formula by `shl_ge_width`
      by_cases h0 : rv % ls = 0
      · simp only [h0, Nat.sub_zero]
        rw [shl_ge_width lv ls ls (Nat.le_refl _)]
        simp
      · have : ¬ (ls - rv % ls ≥ ls) := by omega
        simp only [this, if_false]
    · simp only [beq_iff_eq, reduceCtorEq, if_false] at hh
      obtain ⟨t1, h1, hh⟩ := bind_ok hh
      obtain ⟨t2, h2, hh⟩ := bind_ok hh
      obtain ⟨f1, rfl⟩ := api_cst_sound cfg fuel Op.lsl lv ls lf _ ls _ sg t1 hl hm (fun h => nomatch h) (fun h => nomatch h) h1 lf
      obtain ⟨f2, rfl⟩ := api_cst_sound cfg fuel Op.lsr lv ls lf _ ls _ sg t2 hl hk (fun h => nomatch h) (fun h => nomatch h) h2 lf
      obtain ⟨f3, rfl⟩ := api_cst_sound cfg fuel Op.or _ ls f1 _ ls f2 sg res (shl _) (shr _) (fun _ => rfl) (fun h => nomatch h) hh lf
      refine ⟨f3, ?_⟩
      congr 1
      have hrf := rol_formula lv ls rv hl
      simp only [binSem] at hrf ⊢
      rw [← hrf]
      have : ¬ (rv % ls ≥ ls) := by have := Nat.mod_lt rv hls; omega
      simp only [this, if_false]
  -- unsigned comparisons: `ltu`/`geu` clear both flags, then compare
  have ucmp : ∀ (o' : Op), (o' = Op.ltu ∨ o' = Op.geu) → ls = rs →
      helperCmp cfg fuel o' (.cst lv ls lf) (.cst rv rs rf) = .ok res →
      ∃ f, res = .cst (binSem o' sg ls lv rv) 1 f := by
    intro o' ho' e hh
    subst e
    cases fuel with
    | zero => rw [helperCmp.eq_def] at hh; cases hh
    | succ fuel =>
    rw [helperCmp.eq_def] at hh; dsimp only at hh
    simp only [isCst, Bool.and_self, if_true, setSf] at hh
    have unsgn : ∀ v, cstValue v ls false = reading false ls v := fun v => cstValue_reading v ls false
    -- `binSem Op.lt false` and `binSem Op.ltu sg` reduce to the same comparison (likewise `ge`/`geu`), and
    -- `resSize` of a comparison to 1: `exact` closes the goals up to this reduction
    rcases ho' with rfl | rfl
    · exact api_cst_sound cfg fuel Op.lt lv ls false rv ls false false res hl hr (fun _ => rfl) (fun _ => ⟨unsgn _, unsgn _⟩) hh false
    · exact api_cst_sound cfg fuel Op.ge lv ls false rv ls false false res hl hr (fun _ => rfl) (fun _ => ⟨unsgn _, unsgn _⟩) hh false
  split at h
  · exact ucmp _ (.inl rfl) (hsz (by decide)) h
  · exact ucmp _ (.inr rfl) (hsz (by decide)) h
  · exact rot _ (.inl rfl) h
  · exact rot _ (.inr rfl) h
  · cases h
  · exact api_cst_sound cfg fuel o lv ls lf rv rs rf sg res hl hr hsz hsd h lf

theorem callUop_cst_sound (fuel : Nat) (o : Op) (v s : Nat) (f : Bool) (res : Expr) (hv : v < 2 ^ s)
    (h : callUop cfg fuel o (.cst v s f) = .ok res) : ∃ f', res = .cst (unSem o s v) s f' := by
  cases fuel with
  | zero => rw [callUop.eq_def] at h; cases h
  | succ fuel =>
  rw [callUop.eq_def] at h; dsimp only at h
  cases o <;> simp only at h <;> try (cases h; done)
  · -- add
    cases h; exact ⟨f, by simp [unSem]⟩
  · -- sub
    cases fuel with
    | zero => rw [apiNeg.eq_def] at h; cases h
    | succ fuel =>
      rw [apiNeg.eq_def] at h; dsimp only at h
      cases h
      exact ⟨_, by rw [mkCst_v, cst_neg v s f hv]⟩
  · -- not
    cases fuel with
    | zero => rw [apiNot.eq_def] at h; cases h
    | succ fuel =>
      rw [apiNot.eq_def] at h; dsimp only at h
      cases h
      exact ⟨_, by rw [mkCst_v, cst_not v s]⟩

theorem getitem_cst (fuel : Nat) (v s : Nat) (f : Bool) (a b : Int) :
    getitem cfg (fuel + 1) (.cst v s f) a b =
      (checkSlice s a b >>= fun _ => pure (mkCst ((v >>> a.toNat : Nat) : Int) (b.toNat - a.toNat))) := by
  rw [getitem.eq_def]; rfl

theorem mapM_parts_const (ρ : Val) (f : Expr → R Expr) :
    ∀ (ps ps' : List Part),
      (∀ p ∈ ps, ∀ r, f p.2.2 = .ok r → ∃ fl, r = .cst (ideal ρ p.2.2) p.2.2.size fl ∧ ideal ρ p.2.2 < 2 ^ p.2.2.size) →
      (∀ p ∈ ps, p.2.2.size = p.2.1 - p.1) →
      ps.mapM (fun (p : Part) => do let v ← f p.2.2; pure ((p.1, p.2.1, v) : Part)) = .ok ps' →
      AllCst ps' ∧ idealParts ρ ps' = idealParts ρ ps ∧ ps'.length = ps.length := by
  intro ps
  induction ps with
  | nil =>
    intro ps' _ _ h
    simp only [List.mapM_nil, pure, Except.pure] at h
    cases h
    exact ⟨(by intro p hp; cases hp), rfl, rfl⟩
  | cons q tl ih =>
    intro ps' hf hsz h
    rw [List.mapM_cons] at h
    obtain ⟨q', hq', h⟩ := bind_ok h
    obtain ⟨v, hq, hq'⟩ := bind_ok hq'
    obtain ⟨tl', ht, h⟩ := bind_ok h
    cases h; cases hq'
    obtain ⟨hfq, hftl⟩ := List.forall_mem_cons.mp hf
    obtain ⟨h1, h2, h3⟩ := ih tl' hftl (List.forall_mem_cons.mp hsz).2 ht
    obtain ⟨fl, rfl, hlt⟩ := hfq v hq
    refine ⟨List.forall_mem_cons.mpr ⟨rfl, h1⟩, ?_, by simp [h3]⟩
    rw [idealParts_cons, idealParts_cons, h2]
    congr 1
    simp only [contrib, ideal]
    rw [Nat.mod_eq_of_lt hlt]

theorem checkSlice_of {n : Nat} {a b : Int} (h0 : 0 ≤ a) (hab : a < b) (hbn : b ≤ n) : checkSlice n a b = .ok () := by
  unfold checkSlice
  have h1 : ¬ ((decide (a < 0) || decide (b > (n : Int))) = true) := by
    simp only [Bool.or_eq_true, decide_eq_true_eq]; omega
  have h2 : ¬ (b ≤ a) := by omega
  rw [if_neg h1, if_neg h2]

theorem ideal_lt_of_WF_cst {ρ : Val} {v s : Nat} {f : Bool} (h : WF (.cst v s f)) : ideal ρ (.cst v s f) = v := by
  simp only [ideal]; exact Nat.mod_eq_of_lt h.2

theorem groundParts_iff (env : Env) (ps : List Part) : GroundParts env ps ↔ ∀ p ∈ ps, Ground env p.2.2 := by
  induction ps with
  | nil => simp [GroundParts]
  | cons q tl ih => obtain ⟨a, b, e⟩ := q; simp only [GroundParts, ih, List.mem_cons, forall_eq_or_imp]

theorem signOKParts_iff (ps : List Part) : SignOKParts ps ↔ ∀ p ∈ ps, SignOK p.2.2 := by
  induction ps with
  | nil => simp [SignOKParts]
  | cons q tl ih => obtain ⟨a, b, e⟩ := q; simp only [SignOKParts, ih, List.mem_cons, forall_eq_or_imp]

/-- a node that evaluates to `cst v w f` with its own flag `f`, the flag its parent reads it with -/
theorem own_flag {v w : Nat} {f : Bool} {P : Bool → Prop} (hP : ∀ s, P s → f = s) (hv : v < 2 ^ w) :
    ∃ f', Expr.cst v w f = .cst v w f' ∧ v < 2 ^ w ∧ ∀ s, P s → cstValue v w f' = reading s w v :=
  ⟨f, rfl, hv, fun s hs => hP s hs ▸ cstValue_reading v w f⟩

/-- behind C01 `eval_sound`: under a total constant environment `eval` returns the constant of the ideal value, of the
    width of the expression, carrying a sign flag under which it reads as the expression is declared. -/
theorem eval_const (env : Env) (henv : EnvOK env) :
    ∀ (fuel : Nat) (e r : Expr), WF e → Ground env e → SignOK e → eval cfg fuel env e = .ok r →
      ∃ f, r = .cst (ideal (envVal env) e) e.size f ∧ ideal (envVal env) e < 2 ^ e.size ∧
        ∀ s, SfIs s e → cstValue (ideal (envVal env) e) e.size f = reading s e.size (ideal (envVal env) e) := by
  intro fuel
  induction fuel with
  | zero => intro e r _ _ _ h; rw [eval.eq_def] at h; cases h
  | succ fuel ih =>
    intro e r he hg hs h
    have hwr := eval_width cfg env henv (fuel + 1) e he r h
    rw [eval.eq_def] at h; dsimp only at h
    cases e with
    | cst v s f =>
      cases h
      have hv := he.2
      refine ⟨decide (cstValue v s f < 0), ?_, (by simp only [ideal, size_cst]; rw [Nat.mod_eq_of_lt hv]; exact hv), ?_⟩
      · rw [mkCst_v, wrap_cstValue v s f hv]; simp only [ideal, size_cst, Nat.mod_eq_of_lt hv]
      · intro s' hs'
        simp only [ideal, size_cst, Nat.mod_eq_of_lt hv]
        rw [cstValue_reeval v s f hv]
        exact cst_leaf_reading v s f s' hs'
    | reg n s f =>
      dsimp only at h
      obtain ⟨v, f0, hlk, hv⟩ := hg
      rw [hlk] at h
      cases h
      have hi : ideal (envVal env) (.reg n s f) = v := by
        simp only [ideal, envVal, hlk]; exact Nat.mod_eq_of_lt hv
      rw [hi]
      exact own_flag (fun _ hs => hs) hv
    | ext n s f =>
      dsimp only at h
      obtain ⟨v, f0, hlk, hv⟩ := hg
      rw [hlk] at h
      cases h
      have hi : ideal (envVal env) (.ext n s f) = v := by
        simp only [ideal, envVal, hlk]; exact Nat.mod_eq_of_lt hv
      rw [hi]
      exact own_flag (fun _ hs => hs) hv
    | slc x pos size sf ref ety =>
      dsimp only at h
      simp only [WF] at he
      simp only [Ground] at hg
      simp only [SignOK] at hs
      obtain ⟨n, hx, h⟩ := bind_ok h
      obtain ⟨fx, rfl, hxlt, _⟩ := ih x n he.1 hg hs hx
      cases fuel with
      | zero => rw [getitem.eq_def] at h; cases h
      | succ fuel =>
      rw [getitem_cst] at h
      have hck' : checkSlice x.size (↑pos) (↑pos + ↑size) = .ok () :=
        checkSlice_of (by omega) (by omega) (by omega)
      rw [hck'] at h
      simp only [bind, Except.bind, pure, Except.pure] at h
      cases h
      have e1 : ((pos : Int) + (size : Int)).toNat - (pos : Int).toNat = size := by omega
      have e2 : (pos : Int).toNat = pos := by omega
      have hval : ideal (envVal env) (.slc x pos size sf ref ety) = (ideal (envVal env) x >>> pos) % 2 ^ size := by
        simp only [ideal]
      refine ⟨sf, ?_, (by rw [hval]; exact Nat.mod_lt _ (Nat.two_pow_pos _)), ?_⟩
      · rw [mkCst_v, e1, e2, wrap_of_nat, hval]; rfl
      · exact fun s' (hs' : sf = s') => hs' ▸ cstValue_reading _ _ _
    | comp size sf parts =>
      dsimp only at h
      simp only [WF] at he
      obtain ⟨hpos, ht, hwp⟩ := he
      have hwp' := (WFParts_iff parts).mp hwp
      simp only [Ground] at hg
      simp only [SignOK] at hs
      have hg' := (groundParts_iff env parts).mp hg
      have hs' := (signOKParts_iff parts).mp hs
      obtain ⟨parts', hp, h⟩ := bind_ok h
      obtain ⟨hall, hval, hlen⟩ := mapM_parts_const (envVal env) (eval cfg fuel env) parts parts'
        (by
          intro p hpm r hr
          obtain ⟨f, hf, hlt, _⟩ := ih p.2.2 r (hwp' p hpm) (hg' p hpm) (hs' p hpm) hr
          exact ⟨f, hf, hlt⟩)
        (fun p hpm => (ht.1 p hpm).2.2) hp
      obtain ⟨h1, h2, h3⟩ := mapM_parts_spec (eval cfg fuel env)
        (fun e r he h => eval_width cfg env henv fuel e he r h) parts parts' hwp' hp
      have ht' : Tiles size parts' := ⟨h2 size ht.1, fun b hb => by show cnt b parts' = 1; rw [h3 b]; exact ht.2 b hb⟩
      have hne : parts'.length ≠ 0 := by
        intro h0
        have := ht'.2 0 hpos
        have e0 : parts' = [] := List.length_eq_zero_iff.mp h0
        rw [e0] at this
        simp at this
      obtain ⟨k, hk⟩ : ∃ k, parts'.length = k + 1 := ⟨parts'.length - 1, by omega⟩
      obtain ⟨v, f, hr, hv, hvv⟩ := restruct_allcst (envVal env) size k parts' hk ht' h1 hall hpos
      have hrs : restruct parts' = [(0, size, .cst v size f)] := by unfold restruct; rw [hk]; exact hr
      rw [hrs] at h
      simp only [findKey, beq_self_eq_true, Bool.and_self, if_true] at h
      cases h
      have hid : ideal (envVal env) (.comp size sf parts) = v := by
        simp only [ideal]
        rw [← hval, ← hvv]; exact Nat.mod_eq_of_lt hv
      rw [hid]
      exact own_flag (fun _ hs => hs) hv
    | tst t l r' size sf =>
      dsimp only at h
      simp only [WF] at he
      obtain ⟨hpos, htw, hlw, hrw, ht1, hls, hrs⟩ := he
      simp only [Ground] at hg
      simp only [SignOK] at hs
      obtain ⟨c, hc, h⟩ := bind_ok h
      obtain ⟨l', hl, h⟩ := bind_ok h
      obtain ⟨r'', hr, h⟩ := bind_ok h
      obtain ⟨fc, rfl, hclt, _⟩ := ih t c htw hg.1 hs.1 hc
      obtain ⟨fl, rfl, hllt, hlrd⟩ := ih l l' hlw hg.2.1 hs.2.1 hl
      obtain ⟨fr, rfl, hrlt, hrrd⟩ := ih r' r'' hrw hg.2.2 hs.2.2 hr
      simp only [pure, Except.pure] at h
      have hc2 : ideal (envVal env) t < 2 := by rw [ht1] at hclt; simpa using hclt
      by_cases hv1 : ideal (envVal env) t = 1
      · simp only [hv1, beq_self_eq_true, if_true] at h
        cases h
        have hid : ideal (envVal env) (.tst t l r' size sf) = ideal (envVal env) l := by
          simp only [ideal, hv1]; simp
        refine ⟨fl, (by rw [hid, hls]; rfl), (by rw [hid]; simpa [hls] using hllt), ?_⟩
        intro s' hs'
        simp only [SfIs] at hs'
        have := hlrd s' hs'.1
        rw [hid]; simpa [hls] using this
      · have hv0 : ideal (envVal env) t = 0 := by omega
        have hne : ¬ ((ideal (envVal env) t == 1) = true) := by simp [hv0]
        simp only [hne] at h
        cases h
        have hid : ideal (envVal env) (.tst t l r' size sf) = ideal (envVal env) r' := by
          simp only [ideal, hv0]; simp
        refine ⟨fr, (by rw [hid, hrs]; rfl), (by rw [hid]; simpa [hrs] using hrlt), ?_⟩
        intro s' hs'
        simp only [SfIs] at hs'
        have := hrrd s' hs'.2
        rw [hid]; simpa [hrs] using this
    | op o l r' size sf prop =>
      dsimp only at h
      obtain ⟨hpos, hp, hlw, hrw, hsz, heq⟩ := (WF_op_iff _ _ _ _ _ _).mp he
      simp only [Ground] at hg
      simp only [SignOK] at hs
      obtain ⟨l', hl, h⟩ := bind_ok h
      obtain ⟨r'', hr, h⟩ := bind_ok h
      obtain ⟨fl, rfl, hllt, hlrd⟩ := ih l l' hlw hg.1 hs.1 hl
      obtain ⟨fr, rfl, hrlt, hrrd⟩ := ih r' r'' hrw hg.2 hs.2.1 hr
      obtain ⟨res, hcall, h⟩ := bind_ok h
      cases h
      obtain ⟨f, hres⟩ := callOp_cst_sound cfg fuel o _ _ fl _ _ fr l.sf res hllt hrlt (WF_size_pos l hlw) heq
        (by intro hsd; have := hs.2.2 hsd; exact ⟨hlrd _ this.1, hrrd _ this.2⟩) hcall
      subst hres
      have hrs : resSize o (.cst (ideal (envVal env) l) l.size fl) = size := by
        rw [hsz]; exact resSize_congr o rfl
      have hid : ideal (envVal env) (.op o l r' size sf prop) = binSem o l.sf l.size (ideal (envVal env) l) (ideal (envVal env) r') := by
        simp only [ideal]
      -- the bound on the folded value is read off `WF` of the constant returned (`hwr`, from `eval_width`)
      have hw2 := hwr.1
      simp only [setSf, WF] at hw2
      subst hrs
      rw [hid]
      exact own_flag (fun _ hs => hs) hw2.2
    | uop o r' size sf prop =>
      dsimp only at h
      simp only [WF] at he
      simp only [Ground] at hg
      simp only [SignOK] at hs
      obtain ⟨r'', hr, h⟩ := bind_ok h
      obtain ⟨fr, rfl, hrlt, _⟩ := ih r' r'' he.2.1 hg hs hr
      obtain ⟨res, hcall, h⟩ := bind_ok h
      cases h
      obtain ⟨f, hres⟩ := callUop_cst_sound cfg fuel o _ _ fr res hrlt hcall
      subst hres
      have hid : ideal (envVal env) (.uop o r' size sf prop) = unSem o r'.size (ideal (envVal env) r') := by
        simp only [ideal]
      have hw2 := hwr.1
      simp only [setSf, WF] at hw2
      obtain ⟨_, _, rfl⟩ := he
      rw [hid]
      exact own_flag (fun _ hs => hs) hw2.2
    | ptr b sg d s f => exact absurd hg (by simp [Ground])
    | mem a s f en ms => exact absurd hg (by simp [Ground])
    | vec l s f => exact absurd hg (by simp [Ground])
    | vecw l s f => exact absurd hg (by simp [Ground])
    | top s f => exact absurd hg (by simp [Ground])

end Amoco
