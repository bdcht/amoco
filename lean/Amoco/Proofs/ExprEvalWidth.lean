/-
  Amoco.Proofs.ExprEvalWidth — `eval` returns well-formed results of the width of its argument (for
  concrete, partial and symbolic environments), and the executable `compWF` checker is sound for `Tiles`.
-/
import Amoco.Proofs.ExprWidth

namespace Amoco

open Expr

def EnvOK (env : Env) : Prop := ∀ n s v, env.lookup n s = some v → WF v ∧ v.size = s

variable (cfg : Cfg)

theorem eval_width (env : Env) (henv : EnvOK env) :
    ∀ (fuel : Nat) (e : Expr), WF e → Post e.size (eval cfg fuel env e) := by
  intro fuel
  induction fuel with
  | zero => intro e _; rw [eval.eq_def]; exact Post_error _ _
  | succ fuel ih =>
    have W := widthIH_all cfg fuel
    intro e he
    rw [eval.eq_def]; dsimp only
    cases e with
    | cst v s f => exact Post_ok (WF_mkCst _ _ he.1) rfl
    | reg n s f | ext n s f =>
      dsimp only
      split
      · rename_i v hv
        have := henv _ s v hv
        exact Post_ok ((WF_setSf _ _).mpr this.1) (by rw [size_setSf]; exact this.2)
      · exact Post_ok he rfl
    | slc x pos size sf ref ety =>
      dsimp only
      simp only [WF] at he
      apply Post_bind; intro n hn
      obtain ⟨hnw, hns⟩ := ih x he.1 n hn
      exact Post_setSf sf (Post_of_eq (W.getitem n _ _ hnw) (by simp only [size_slc]; omega))
    | comp size sf parts =>
      dsimp only
      simp only [WF] at he
      obtain ⟨hpos, ht, hwp⟩ := he
      apply Post_bind; intro parts' hp'
      obtain ⟨htr, r2⟩ := restruct_mapM_parts (eval cfg fuel env)
        (fun e r he h => ih e he r h) ht ((WFParts_iff _).mp hwp) hp'
      split
      · rename_i v s f hf
        have hw := r2 _ (findKey_some_mem hf)
        have hs := htr.whole_key hf
        exact Post_ok (by simp only [WF] at hw ⊢; exact hw) (by simpa using hs)
      · rename_i p _ hf
        exact Post_ok (r2 _ (findKey_some_mem hf)) (htr.whole_key hf)
      · exact Post_ok (by simp only [WF]; exact ⟨hpos, htr, (WFParts_iff _).mpr r2⟩) rfl
    | tst t l r size sf =>
      dsimp only
      simp only [WF] at he
      obtain ⟨hpos, ht, hl, hr, ht1, hls, hrs⟩ := he
      apply Post_bind; intro c hc
      obtain ⟨hcw, hcs⟩ := ih t ht c hc
      apply Post_bind; intro l' hl'
      obtain ⟨hlw, hls'⟩ := ih l hl l' hl'
      apply Post_bind; intro r' hr'
      obtain ⟨hrw, hrs'⟩ := ih r hr r' hr'
      simp only [size_tst]
      split
      · split
        · exact Post_ok hlw (by omega)
        · exact Post_ok hrw (by omega)
      · intro e h
        unfold mkTst at h
        split at h
        · cases h
        · cases h
          exact ⟨by simp only [WF]; exact ⟨by omega, hcw, hlw, hrw, by omega, trivial, by omega⟩, by simp only [size_tst]; omega⟩
    | op o l r size sf prop =>
      dsimp only
      obtain ⟨hpos, hp, hl, hr, hs, heq⟩ := (WF_op_iff _ _ _ _ _ _).mp he
      apply Post_bind; intro l' hl'
      obtain ⟨hlw, hls⟩ := ih l hl l' hl'
      apply Post_bind; intro r' hr'
      obtain ⟨hrw, hrs⟩ := ih r hr r' hr'
      exact Post_setSf sf (Post_of_eq (W.callOp o l' r' hlw hrw fun h => by rw [hls, hrs]; exact heq (by omega))
        ((resSize_congr o hls).trans hs.symm))
    | uop o r size sf prop =>
      dsimp only
      simp only [WF] at he
      apply Post_bind; intro r' hr'
      obtain ⟨hrw, hrs⟩ := ih r he.2.1 r' hr'
      exact Post_setSf sf (Post_of_eq (W.callUop o r' hrw) (by rw [hrs]; simp only [size_uop]; omega))
    | top s f => exact Post_ok (WF_mkTop he) rfl
    | vec l s f =>
      dsimp only
      simp only [WF] at he
      apply Post_bind; intro l' hl'
      exact fun v hv => mapM_mkVec_spec _ l l' s s v he.1 he.2.1 he.2.2
        (fun y r hy h => ⟨(ih y hy.1 r h).1, (ih y hy.1 r h).2.trans hy.2⟩) hl' hv
    | vecw l s f =>
      dsimp only
      simp only [WF] at he
      apply Post_bind; intro l' hl'
      apply Post_bind; intro v hv
      have hvs := mapM_mkVec_spec _ l l' s s v he.1 he.2.1 he.2.2
        (fun y r hy h => ⟨(ih y hy.1 r h).1, (ih y hy.1 r h).2.trans hy.2⟩) hl' hv
      split
      · rename_i l'' s'' f''
        have hw := hvs.1
        simp only [WF] at hw
        exact Post_ok (by simp only [WF]; exact hw) (by simpa using hvs.2)
      · exact Post_error _ _
    | mem a s f en ms => exact Post_error _ _
    | ptr b sg d s f => exact Post_error _ _

namespace Expr

theorem partsTile_spec : ∀ (l : List Part) (pos n : Nat), partsTile pos l = some n →
    pos ≤ n ∧ (∀ p ∈ l, pos ≤ p.1 ∧ p.1 < p.2.1 ∧ p.2.1 ≤ n ∧ p.2.2.size = p.2.1 - p.1) ∧
      ∀ b, cnt b l = if pos ≤ b ∧ b < n then 1 else 0 := by
  intro l
  induction l with
  | nil =>
    intro pos n h
    simp only [partsTile] at h
    cases h
    exact ⟨Nat.le_refl _, (by intro p hp; cases hp), (by intro b; simp [cnt])⟩
  | cons q tl ih =>
    obtain ⟨lo, hi, e⟩ := q
    intro pos n h
    simp only [partsTile] at h
    split at h
    · rename_i hc
      obtain ⟨rfl, hlt, hsz⟩ := hc
      obtain ⟨h1, h2, h3⟩ := ih hi n h
      refine ⟨by omega, ?_, ?_⟩
      · intro p hp
        rcases List.mem_cons.mp hp with rfl | hp
        · exact ⟨Nat.le_refl _, hlt, h1, hsz⟩
        · have := h2 p hp; exact ⟨by omega, this.2⟩
      · intro b
        rw [cnt_cons, h3 b]
        unfold ind
        simp only
        split_ifs <;> omega
    · cases h

theorem compWF_sound (n : Nat) (ps : List Part) (h : compWF n ps = true) : 0 < n ∧ Tiles n ps := by
  unfold compWF at h
  simp only [Bool.and_eq_true, decide_eq_true_eq, beq_iff_eq] at h
  obtain ⟨hn, ht⟩ := h
  obtain ⟨_, h2, h3⟩ := partsTile_spec _ 0 n ht
  have hperm := perm_sortParts ps
  refine ⟨hn, ?_, ?_⟩
  · intro p hp
    have := h2 p (hperm.symm.subset hp)
    exact ⟨this.2.1, this.2.2.1, this.2.2.2⟩
  · intro b hb
    have := h3 b
    rw [if_pos ⟨Nat.zero_le _, hb⟩] at this
    show cnt b ps = 1
    rw [← this]
    exact (hperm.countP_eq _).symm

end Expr
end Amoco
