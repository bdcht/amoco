/-
  Amoco.Proofs.ExprSound — value soundness of the rewrite system, with the complexity threshold off: the statements
  of the induction on the fuel, next to the width induction.  They are written out for `Plain` and for the fragment
  with rotations (`Rot`), which the theorems of Props/C01.lean and Props/C01Ext.lean are stated with; the proofs work
  in `Frag`, for any operator set in between, and `SoundIH.agn`, `SoundIH.rot` carry the result over.
-/
import Amoco.Proofs.ExprTablePres
import Amoco.Proofs.ExprEvalSound

namespace Amoco

open Expr Bits

/-- the simplifier decides `x op x`, the comparison shortcuts and `tst` branch equality by comparing
    renderings (`str(l) == str(r)`, `hash(l) == hash(r)`).  `EqOK ρ`: whenever it does so on two well-formed
    `Plain` expressions of one size, they have the same value under `ρ` (`NoRenderClash`). -/
def EqOK (ρ : Val) : Prop := ∀ a b : Expr, WF a → WF b → Plain a → Plain b → a.size = b.size →
  (render a = render b ∨ hashEq a b = true) → ideal ρ a = ideal ρ b

/-- the options covered by the value-soundness theorem: `simplify()` and `simplify(bitslice=True)` — not
    `widening` (which produces the non-deterministic `vecw`) -/
def OptsOK (o : Opts) : Prop := o.widening = false

theorem OptsOK_default : OptsOK {} := rfl

def SPost (ρ : Val) (v : Nat) (r : R Expr) : Prop := ∀ e, r = .ok e → Plain e ∧ ideal ρ e = v

def SPostO (ρ : Val) (v : Nat) (r : R (Option Expr)) : Prop := ∀ e, r = .ok (some e) → Plain e ∧ ideal ρ e = v

theorem SPostO_error (ρ : Val) (v : Nat) (k : Err) : SPostO ρ v (.error k) := by intro e h; cases h

/-- value of `composer(parts)`: the parts one after the other from bit 0 -/
def catVal (ρ : Val) : List Expr → Nat
  | [] => 0
  | x :: tl => cat (ideal ρ x) x.size (catVal ρ tl)

/-- value of `x.extend(sign, size)` for `size > x.size` -/
def extVal (sign : Bool) (w size a : Nat) : Nat := if sign then wrap size (toInt w a) else a

theorem Post.and_sound {P : Expr → Prop} {ρ : Val} {s v : Nat} {r : R Expr} {e : Expr} (hw : Post s r)
    (hs : ∀ e, r = .ok e → P e ∧ ideal ρ e = v) (h : r = .ok e) : WF e ∧ e.size = s ∧ P e ∧ ideal ρ e = v :=
  ⟨(hw e h).1, (hw e h).2, hs e h⟩

variable (cfg : Cfg) (ρ : Val)

structure SoundIH (fuel : Nat) : Prop where
  simplify : ∀ o e, WF e → Plain e → OptsOK o → SPost ρ (ideal ρ e) (simplify cfg fuel o e)
  eqn1 : ∀ o r size sf prop, WF r → Plain r → size = r.size → (o = Op.sub ∨ o = Op.not) →
      SPost ρ (unSem o r.size (ideal ρ r)) (eqn1 cfg fuel o r size sf prop)
  eqn2 : ∀ opts o l r size sf prop, WF (.op o l r size sf prop) → Plain (.op o l r size sf prop) → OptsOK opts →
      SPost ρ (ideal ρ (.op o l r size sf prop)) (eqn2 cfg fuel opts o l r size sf prop)
  eqn2norm : ∀ o l r size sf prop, WF (.op o l r size sf prop) → Plain (.op o l r size sf prop) →
      ∀ t, eqn2norm cfg fuel o l r = .ok t → Plain (.op t.1 t.2.1 t.2.2 size sf prop) ∧
        ideal ρ (.op t.1 t.2.1 t.2.2 size sf prop) = ideal ρ (.op o l r size sf prop)
  normL : ∀ o l r size sf prop, WF (.op o l r size sf prop) → Plain (.op o l r size sf prop) →
      ∀ t, normL cfg fuel o l r = .ok t → Plain (.op t.1 t.2.1 t.2.2 size sf prop) ∧
        ideal ρ (.op t.1 t.2.1 t.2.2 size sf prop) = ideal ρ (.op o l r size sf prop)
  normR : ∀ o l r size sf prop, WF (.op o l r size sf prop) → Plain (.op o l r size sf prop) →
      ∀ t, normR cfg fuel o l r = .ok t → Plain (.op t.1 t.2.1 t.2.2 size sf prop) ∧
        ideal ρ (.op t.1 t.2.1 t.2.2 size sf prop) = ideal ρ (.op o l r size sf prop)
  eqn2cst : ∀ opts o l rv rs rf size sf prop, WF (.op o l (.cst rv rs rf) size sf prop) →
      Plain (.op o l (.cst rv rs rf) size sf prop) → OptsOK opts →
      ∀ res, eqn2cst cfg fuel opts o l rv rs rf size sf = .ok (some res) →
        Plain res ∧ ideal ρ res = ideal ρ (.op o l (.cst rv rs rf) size sf prop)
  eqn2snd : ∀ opts o l rv rs rf size sf prop, WF (.op o l (.cst rv rs rf) size sf prop) →
      Plain (.op o l (.cst rv rs rf) size sf prop) → OptsOK opts →
      SPost ρ (ideal ρ (.op o l (.cst rv rs rf) size sf prop)) (eqn2snd cfg fuel opts o l rv rs rf size sf prop)
  eqn2tail : ∀ opts o l r size sf prop, WF (.op o l r size sf prop) → Plain (.op o l r size sf prop) →
      SPost ρ (ideal ρ (.op o l r size sf prop)) (eqn2tail cfg fuel opts o l r size sf prop)
  oper : ∀ o l r, WF l → WF r → Plain l → Plain r → agnOp o = true → (o.type ≠ 8 → l.size = r.size) →
      SPost ρ (binSem o false l.size (ideal ρ l) (ideal ρ r)) (oper cfg fuel o l r)
  operU : ∀ o r, WF r → Plain r → r.isCst = false → (o = Op.sub ∨ o = Op.not) → SPost ρ (unSem o r.size (ideal ρ r)) (operU cfg fuel o r)
  apiNeg : ∀ x, WF x → Plain x → SPost ρ (unSem Op.sub x.size (ideal ρ x)) (apiNeg cfg fuel x)
  apiNot : ∀ x, WF x → Plain x → SPost ρ (unSem Op.not x.size (ideal ρ x)) (apiNot cfg fuel x)
  api : ∀ o l r, WF l → WF r → Plain l → Plain r → agnOp o = true → (o.type ≠ 8 → l.size = r.size) →
      SPost ρ (binSem o false l.size (ideal ρ l) (ideal ρ r)) (api cfg fuel o l r)
  apiExp : ∀ o l r, WF l → WF r → Plain l → Plain r → agnOp o = true → (o.type ≠ 8 → l.size = r.size) →
      SPost ρ (binSem o false l.size (ideal ρ l) (ideal ρ r)) (apiExp cfg fuel o l r)
  callOp : ∀ o l r, WF l → WF r → Plain l → Plain r → agnOp o = true → (o.type ≠ 8 → l.size = r.size) →
      SPost ρ (binSem o false l.size (ideal ρ l) (ideal ρ r)) (callOp cfg fuel o l r)
  callUop : ∀ o r, WF r → Plain r → (o = Op.sub ∨ o = Op.not) → SPost ρ (unSem o r.size (ideal ρ r)) (callUop cfg fuel o r)
  helperCmp : ∀ o x y, WF x → WF y → Plain x → Plain y → x.size = y.size → (o = Op.ltu ∨ o = Op.geu) →
      SPost ρ (binSem o false x.size (ideal ρ x) (ideal ρ y)) (helperCmp cfg fuel o x y)
  getitem : ∀ x a b, WF x → Plain x → SPost ρ (bitsOf (ideal ρ x) a.toNat (b.toNat - a.toNat)) (getitem cfg fuel x a b)
  slicer : ∀ x pos size, WF x → Plain x → 0 < size → pos + size ≤ x.size →
      SPost ρ (bitsOf (ideal ρ x) pos size) (slicer cfg fuel x pos size)
  mkSlc : ∀ x pos size, WF x → Plain x → 0 < size → pos + size ≤ x.size →
      SPost ρ (bitsOf (ideal ρ x) pos size) (mkSlc cfg fuel x pos size)
  setitem : ∀ n sf ps (a b : Int) v r, Disj n ps → (∀ p ∈ ps, WF p.2.2) → (∀ p ∈ ps, Plain p.2.2) → WF v → Plain v →
      setitem cfg fuel (.comp n sf ps) a b v = .ok r →
      ∃ ps', r = .comp n sf ps' ∧ (∀ p ∈ ps', Plain p.2.2) ∧
        ∀ j : Nat, tbit ρ ps' j = if a ≤ (j : Int) ∧ (j : Int) < b then (ideal ρ v).testBit (j - a.toNat) else tbit ρ ps j
  composer : ∀ parts, (∀ x ∈ parts, WF x) → (∀ x ∈ parts, Plain x) → SPost ρ (catVal ρ parts) (composer cfg fuel parts)
  extendExp : ∀ sign x size, WF x → Plain x → x.size < size →
      SPost ρ (extVal sign x.size size (ideal ρ x)) (extendExp cfg fuel sign x size)

end Amoco

namespace Amoco.Rot

open Expr Bits

def EqOK (ρ : Val) : Prop := ∀ a b : Expr, WF a → WF b → Plain a → Plain b → a.size = b.size →
  (render a = render b ∨ hashEq a b = true) → ideal ρ a = ideal ρ b

def OptsOK (o : Opts) : Prop := o.widening = false

def SPost (ρ : Val) (v : Nat) (r : R Expr) : Prop := ∀ e, r = .ok e → Plain e ∧ ideal ρ e = v

def SPostO (ρ : Val) (v : Nat) (r : R (Option Expr)) : Prop := ∀ e, r = .ok (some e) → Plain e ∧ ideal ρ e = v

theorem SPostO_error (ρ : Val) (v : Nat) (k : Err) : SPostO ρ v (.error k) := by intro e h; cases h

def catVal (ρ : Val) : List Expr → Nat
  | [] => 0
  | x :: tl => cat (ideal ρ x) x.size (catVal ρ tl)

def extVal (sign : Bool) (w size a : Nat) : Nat := if sign then wrap size (toInt w a) else a

variable (cfg : Cfg) (ρ : Val)

structure SoundIH (fuel : Nat) : Prop where
  simplify : ∀ o e, WF e → Plain e → OptsOK o → SPost ρ (ideal ρ e) (simplify cfg fuel o e)
  eqn1 : ∀ o r size sf prop, WF r → Plain r → size = r.size → (o = Op.sub ∨ o = Op.not) →
      SPost ρ (unSem o r.size (ideal ρ r)) (eqn1 cfg fuel o r size sf prop)
  eqn2 : ∀ opts o l r size sf prop, WF (.op o l r size sf prop) → Plain (.op o l r size sf prop) → OptsOK opts →
      SPost ρ (ideal ρ (.op o l r size sf prop)) (eqn2 cfg fuel opts o l r size sf prop)
  eqn2norm : ∀ o l r size sf prop, WF (.op o l r size sf prop) → Plain (.op o l r size sf prop) →
      ∀ t, eqn2norm cfg fuel o l r = .ok t → Plain (.op t.1 t.2.1 t.2.2 size sf prop) ∧
        ideal ρ (.op t.1 t.2.1 t.2.2 size sf prop) = ideal ρ (.op o l r size sf prop)
  normL : ∀ o l r size sf prop, WF (.op o l r size sf prop) → Plain (.op o l r size sf prop) →
      ∀ t, normL cfg fuel o l r = .ok t → Plain (.op t.1 t.2.1 t.2.2 size sf prop) ∧
        ideal ρ (.op t.1 t.2.1 t.2.2 size sf prop) = ideal ρ (.op o l r size sf prop)
  normR : ∀ o l r size sf prop, WF (.op o l r size sf prop) → Plain (.op o l r size sf prop) →
      ∀ t, normR cfg fuel o l r = .ok t → Plain (.op t.1 t.2.1 t.2.2 size sf prop) ∧
        ideal ρ (.op t.1 t.2.1 t.2.2 size sf prop) = ideal ρ (.op o l r size sf prop)
  eqn2cst : ∀ opts o l rv rs rf size sf prop, WF (.op o l (.cst rv rs rf) size sf prop) →
      Plain (.op o l (.cst rv rs rf) size sf prop) → OptsOK opts →
      ∀ res, eqn2cst cfg fuel opts o l rv rs rf size sf = .ok (some res) →
        Plain res ∧ ideal ρ res = ideal ρ (.op o l (.cst rv rs rf) size sf prop)
  eqn2snd : ∀ opts o l rv rs rf size sf prop, WF (.op o l (.cst rv rs rf) size sf prop) →
      Plain (.op o l (.cst rv rs rf) size sf prop) → OptsOK opts →
      SPost ρ (ideal ρ (.op o l (.cst rv rs rf) size sf prop)) (eqn2snd cfg fuel opts o l rv rs rf size sf prop)
  eqn2tail : ∀ opts o l r size sf prop, WF (.op o l r size sf prop) → Plain (.op o l r size sf prop) →
      SPost ρ (ideal ρ (.op o l r size sf prop)) (eqn2tail cfg fuel opts o l r size sf prop)
  oper : ∀ o l r, WF l → WF r → Plain l → Plain r → agnOp o = true → (o.type ≠ 8 → l.size = r.size) →
      SPost ρ (binSem o false l.size (ideal ρ l) (ideal ρ r)) (oper cfg fuel o l r)
  operU : ∀ o r, WF r → Plain r → r.isCst = false → (o = Op.sub ∨ o = Op.not) → SPost ρ (unSem o r.size (ideal ρ r)) (operU cfg fuel o r)
  apiNeg : ∀ x, WF x → Plain x → SPost ρ (unSem Op.sub x.size (ideal ρ x)) (apiNeg cfg fuel x)
  apiNot : ∀ x, WF x → Plain x → SPost ρ (unSem Op.not x.size (ideal ρ x)) (apiNot cfg fuel x)
  api : ∀ o l r, WF l → WF r → Plain l → Plain r → agnOp o = true → (o.type ≠ 8 → l.size = r.size) →
      SPost ρ (binSem o false l.size (ideal ρ l) (ideal ρ r)) (api cfg fuel o l r)
  apiExp : ∀ o l r, WF l → WF r → Plain l → Plain r → agnOp o = true → (o.type ≠ 8 → l.size = r.size) →
      SPost ρ (binSem o false l.size (ideal ρ l) (ideal ρ r)) (apiExp cfg fuel o l r)
  callOp : ∀ o l r, WF l → WF r → Plain l → Plain r → agnOp o = true → (o.type ≠ 8 → l.size = r.size) →
      SPost ρ (binSem o false l.size (ideal ρ l) (ideal ρ r)) (callOp cfg fuel o l r)
  callUop : ∀ o r, WF r → Plain r → (o = Op.sub ∨ o = Op.not) → SPost ρ (unSem o r.size (ideal ρ r)) (callUop cfg fuel o r)
  helperCmp : ∀ o x y, WF x → WF y → Plain x → Plain y → x.size = y.size → (o = Op.ltu ∨ o = Op.geu) →
      SPost ρ (binSem o false x.size (ideal ρ x) (ideal ρ y)) (helperCmp cfg fuel o x y)
  getitem : ∀ x a b, WF x → Plain x → SPost ρ (bitsOf (ideal ρ x) a.toNat (b.toNat - a.toNat)) (getitem cfg fuel x a b)
  slicer : ∀ x pos size, WF x → Plain x → 0 < size → pos + size ≤ x.size →
      SPost ρ (bitsOf (ideal ρ x) pos size) (slicer cfg fuel x pos size)
  mkSlc : ∀ x pos size, WF x → Plain x → 0 < size → pos + size ≤ x.size →
      SPost ρ (bitsOf (ideal ρ x) pos size) (mkSlc cfg fuel x pos size)
  setitem : ∀ n sf ps (a b : Int) v r, Disj n ps → (∀ p ∈ ps, WF p.2.2) → (∀ p ∈ ps, Plain p.2.2) → WF v → Plain v →
      setitem cfg fuel (.comp n sf ps) a b v = .ok r →
      ∃ ps', r = .comp n sf ps' ∧ (∀ p ∈ ps', Plain p.2.2) ∧
        ∀ j : Nat, tbit ρ ps' j = if a ≤ (j : Int) ∧ (j : Int) < b then (ideal ρ v).testBit (j - a.toNat) else tbit ρ ps j
  composer : ∀ parts, (∀ x ∈ parts, WF x) → (∀ x ∈ parts, Plain x) → SPost ρ (catVal ρ parts) (composer cfg fuel parts)
  extendExp : ∀ sign x size, WF x → Plain x → x.size < size →
      SPost ρ (extVal sign x.size size (ideal ρ x)) (extendExp cfg fuel sign x size)

end Amoco.Rot

namespace Amoco.Frag

open Expr Bits

variable {ag : Op → Bool}

def EqOK (ag : Op → Bool) (ρ : Val) : Prop := ∀ a b : Expr, WF a → WF b → Plain ag a → Plain ag b → a.size = b.size →
  (render a = render b ∨ hashEq a b = true) → ideal ρ a = ideal ρ b

def SPost (ag : Op → Bool) (ρ : Val) (v : Nat) (r : R Expr) : Prop := ∀ e, r = .ok e → Plain ag e ∧ ideal ρ e = v

theorem SPost_error {ρ : Val} {v : Nat} {k : Err} : SPost ag ρ v (.error k) := by intro e h; cases h
theorem SPost_ok {ρ : Val} {v : Nat} {e : Expr} (h1 : Plain ag e) (h2 : ideal ρ e = v) : SPost ag ρ v (.ok e) := by
  intro e' h; cases h; exact ⟨h1, h2⟩
theorem SPost_bind {α : Type} {ρ : Val} {v : Nat} (x : R α) (f : α → R Expr) (h : ∀ a, x = .ok a → SPost ag ρ v (f a)) :
    SPost ag ρ v (x >>= f) := by
  intro e he
  obtain ⟨a, ha, hf⟩ := Expr.bind_ok he
  exact h a ha e hf
theorem SPost_of_eq {ρ : Val} {v w : Nat} {r : R Expr} (h : SPost ag ρ v r) (e : v = w) : SPost ag ρ w r := e ▸ h

def SPostO (ag : Op → Bool) (ρ : Val) (v : Nat) (r : R (Option Expr)) : Prop := ∀ e, r = .ok (some e) → Plain ag e ∧ ideal ρ e = v

theorem SPostO_none {ρ : Val} {v : Nat} : SPostO ag ρ v (pure none) := by intro e h; cases h
theorem SPostO_some {ρ : Val} {v : Nat} {e : Expr} (h1 : Plain ag e) (h2 : ideal ρ e = v) : SPostO ag ρ v (pure (some e)) := by
  intro e' h; cases h; exact ⟨h1, h2⟩
theorem SPostO_of_eq {ρ : Val} {v w : Nat} {r : R (Option Expr)} (h : SPostO ag ρ v r) (e : v = w) : SPostO ag ρ w r := e ▸ h
theorem SPostO_bind {α : Type} {ρ : Val} {v : Nat} (x : R α) (f : α → R (Option Expr)) (h : ∀ a, x = .ok a → SPostO ag ρ v (f a)) :
    SPostO ag ρ v (x >>= f) := by
  intro e he
  obtain ⟨a, ha, hf⟩ := Expr.bind_ok he
  exact h a ha e hf

def BinSpec (ag : Op → Bool) (ρ : Val) (f : Op → Expr → Expr → R Expr) : Prop :=
  ∀ o l r, WF l → WF r → Plain ag l → Plain ag r → ag o = true → (o.type ≠ 8 → l.size = r.size) →
    SPost ag ρ (binSem o false l.size (ideal ρ l) (ideal ρ r)) (f o l r)

def SliceSpec (ag : Op → Bool) (ρ : Val) (f : Expr → Nat → Nat → R Expr) : Prop :=
  ∀ x pos size, WF x → Plain ag x → 0 < size → pos + size ≤ x.size → SPost ag ρ (bitsOf (ideal ρ x) pos size) (f x pos size)

def SameT (ag : Op → Bool) (ρ : Val) (o : Op) (l r : Expr) (size : Nat) (sf : Bool) (prop : Nat) (t : Op × Expr × Expr) : Prop :=
  Plain ag (.op t.1 t.2.1 t.2.2 size sf prop) ∧ ideal ρ (.op t.1 t.2.1 t.2.2 size sf prop) = ideal ρ (.op o l r size sf prop)

def NormSpec (ag : Op → Bool) (ρ : Val) (f : Op → Expr → Expr → R (Op × Expr × Expr)) : Prop :=
  ∀ o l r size sf prop, WF (.op o l r size sf prop) → Plain ag (.op o l r size sf prop) →
    PostT (SameT ag ρ o l r size sf prop) (f o l r)

variable (ag) (cfg : Cfg) (ρ : Val)

structure SoundIH (fuel : Nat) : Prop where
  simplify : ∀ o e, WF e → Plain ag e → OptsOK o → SPost ag ρ (ideal ρ e) (simplify cfg fuel o e)
  eqn1 : ∀ o r size sf prop, WF r → Plain ag r → size = r.size → (o = Op.sub ∨ o = Op.not) →
      SPost ag ρ (unSem o r.size (ideal ρ r)) (eqn1 cfg fuel o r size sf prop)
  eqn2 : ∀ opts o l r size sf prop, WF (.op o l r size sf prop) → Plain ag (.op o l r size sf prop) → OptsOK opts →
      SPost ag ρ (ideal ρ (.op o l r size sf prop)) (eqn2 cfg fuel opts o l r size sf prop)
  eqn2norm : NormSpec ag ρ (eqn2norm cfg fuel)
  normL : NormSpec ag ρ (normL cfg fuel)
  normR : NormSpec ag ρ (normR cfg fuel)
  eqn2cst : ∀ opts o l rv rs rf size sf prop, WF (.op o l (.cst rv rs rf) size sf prop) →
      Plain ag (.op o l (.cst rv rs rf) size sf prop) → OptsOK opts →
      ∀ res, eqn2cst cfg fuel opts o l rv rs rf size sf = .ok (some res) →
        Plain ag res ∧ ideal ρ res = ideal ρ (.op o l (.cst rv rs rf) size sf prop)
  eqn2snd : ∀ opts o l rv rs rf size sf prop, WF (.op o l (.cst rv rs rf) size sf prop) →
      Plain ag (.op o l (.cst rv rs rf) size sf prop) → OptsOK opts →
      SPost ag ρ (ideal ρ (.op o l (.cst rv rs rf) size sf prop)) (eqn2snd cfg fuel opts o l rv rs rf size sf prop)
  eqn2tail : ∀ opts o l r size sf prop, WF (.op o l r size sf prop) → Plain ag (.op o l r size sf prop) →
      SPost ag ρ (ideal ρ (.op o l r size sf prop)) (eqn2tail cfg fuel opts o l r size sf prop)
  oper : BinSpec ag ρ (oper cfg fuel)
  operU : ∀ o r, WF r → Plain ag r → r.isCst = false → (o = Op.sub ∨ o = Op.not) → SPost ag ρ (unSem o r.size (ideal ρ r)) (operU cfg fuel o r)
  apiNeg : ∀ x, WF x → Plain ag x → SPost ag ρ (unSem Op.sub x.size (ideal ρ x)) (apiNeg cfg fuel x)
  apiNot : ∀ x, WF x → Plain ag x → SPost ag ρ (unSem Op.not x.size (ideal ρ x)) (apiNot cfg fuel x)
  api : BinSpec ag ρ (api cfg fuel)
  apiExp : BinSpec ag ρ (apiExp cfg fuel)
  callOp : BinSpec ag ρ (callOp cfg fuel)
  callUop : ∀ o r, WF r → Plain ag r → (o = Op.sub ∨ o = Op.not) → SPost ag ρ (unSem o r.size (ideal ρ r)) (callUop cfg fuel o r)
  helperCmp : ∀ o x y, WF x → WF y → Plain ag x → Plain ag y → x.size = y.size → (o = Op.ltu ∨ o = Op.geu) →
      SPost ag ρ (binSem o false x.size (ideal ρ x) (ideal ρ y)) (helperCmp cfg fuel o x y)
  getitem : ∀ x a b, WF x → Plain ag x → SPost ag ρ (bitsOf (ideal ρ x) a.toNat (b.toNat - a.toNat)) (getitem cfg fuel x a b)
  slicer : SliceSpec ag ρ (slicer cfg fuel)
  mkSlc : SliceSpec ag ρ (mkSlc cfg fuel)
  setitem : ∀ n sf ps (a b : Int) v r, Disj n ps → (∀ p ∈ ps, WF p.2.2) → (∀ p ∈ ps, Plain ag p.2.2) → WF v → Plain ag v →
      setitem cfg fuel (.comp n sf ps) a b v = .ok r →
      ∃ ps', r = .comp n sf ps' ∧ (∀ p ∈ ps', Plain ag p.2.2) ∧
        ∀ j : Nat, tbit ρ ps' j = if a ≤ (j : Int) ∧ (j : Int) < b then (ideal ρ v).testBit (j - a.toNat) else tbit ρ ps j
  composer : ∀ parts, (∀ x ∈ parts, WF x) → (∀ x ∈ parts, Plain ag x) → SPost ag ρ (catVal ρ parts) (composer cfg fuel parts)
  extendExp : ∀ sign x size, WF x → Plain ag x → x.size < size →
      SPost ag ρ (extVal sign x.size size (ideal ρ x)) (extendExp cfg fuel sign x size)

theorem soundIH_zero : SoundIH ag cfg ρ 0 where
  simplify := by intros; rw [simplify.eq_def]; exact SPost_error
  eqn1 := by intros; rw [eqn1.eq_def]; exact SPost_error
  eqn2 := by intros; rw [eqn2.eq_def]; exact SPost_error
  eqn2norm := by intro _ _ _ _ _ _ _ _ _ h; rw [eqn2norm.eq_def] at h; cases h
  normL := by intro _ _ _ _ _ _ _ _ _ h; rw [normL.eq_def] at h; cases h
  normR := by intro _ _ _ _ _ _ _ _ _ h; rw [normR.eq_def] at h; cases h
  eqn2cst := by intros; rename_i h; rw [eqn2cst.eq_def] at h; cases h
  eqn2snd := by intros; rw [eqn2snd.eq_def]; exact SPost_error
  eqn2tail := by intros; rw [eqn2tail.eq_def]; exact SPost_error
  oper := by intro _ _ _; intros; rw [oper.eq_def]; exact SPost_error
  operU := by intros; rw [operU.eq_def]; exact SPost_error
  apiNeg := by intros; rw [apiNeg.eq_def]; exact SPost_error
  apiNot := by intros; rw [apiNot.eq_def]; exact SPost_error
  api := by intro _ _ _; intros; rw [api.eq_def]; exact SPost_error
  apiExp := by intro _ _ _; intros; rw [apiExp.eq_def]; exact SPost_error
  callOp := by intro _ _ _; intros; rw [callOp.eq_def]; exact SPost_error
  callUop := by intros; rw [callUop.eq_def]; exact SPost_error
  helperCmp := by intros; rw [helperCmp.eq_def]; exact SPost_error
  getitem := by intros; rw [getitem.eq_def]; exact SPost_error
  slicer := by intro _ _ _; intros; rw [slicer.eq_def]; exact SPost_error
  mkSlc := by intro _ _ _; intros; rw [mkSlc.eq_def]; exact SPost_error
  setitem := by intros; rename_i h; rw [setitem.eq_def] at h; cases h
  composer := by intros; rw [composer.eq_def]; exact SPost_error
  extendExp := by intros; rw [extendExp.eq_def]; exact SPost_error

/-! At `agnOp` and `Rot.agnOp` the definitions above are the written-out ones.  For `SoundIH.agn`/`SoundIH.rot`:
    after the rewriting each written-out field is the `Frag` field with `BinSpec`, `SliceSpec`, `NormSpec`,
    `PostT`, `SameT` unfolded, which `assumption` sees through. -/

variable {ag cfg ρ}

theorem eqOK_agn : EqOK Expr.agnOp ρ ↔ Amoco.EqOK ρ := by simp only [EqOK, Amoco.EqOK, plain_agn]
theorem eqOK_rot : EqOK Rot.agnOp ρ ↔ Rot.EqOK ρ := by simp only [EqOK, Rot.EqOK, plain_rot]

theorem sPost_agn {v : Nat} {r : R Expr} : SPost Expr.agnOp ρ v r ↔ Amoco.SPost ρ v r := by
  simp only [SPost, Amoco.SPost, plain_agn]
theorem sPost_rot {v : Nat} {r : R Expr} : SPost Rot.agnOp ρ v r ↔ Rot.SPost ρ v r := by
  simp only [SPost, Rot.SPost, plain_rot]

theorem catVal_rot (parts : List Expr) : Rot.catVal ρ parts = catVal ρ parts := by
  induction parts with
  | nil => rfl
  | cons x tl ih => simp only [Rot.catVal, catVal, ih]

theorem SoundIH.agn {fuel : Nat} (h : SoundIH Expr.agnOp cfg ρ fuel) : Amoco.SoundIH cfg ρ fuel := by
  cases h
  constructor <;> (simp only [← plain_agn, ← sPost_agn]; assumption)

theorem SoundIH.rot {fuel : Nat} (h : SoundIH Rot.agnOp cfg ρ fuel) : Rot.SoundIH cfg ρ fuel := by
  cases h
  constructor <;> (simp only [← plain_rot, ← sPost_rot, catVal_rot]; assumption)

end Amoco.Frag
