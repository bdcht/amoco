/-
  Amoco.Proofs.ExprSoundBitslice — the `bitslice=True` rules of `eqn2_helpers`: a list of 1-bit expressions
  handed to `composer` is the number whose bits they are.
-/
import Amoco.Proofs.ExprSoundSlice

namespace Amoco

open Expr Bits

theorem testBit_b2n (b : Bool) (j : Nat) : (b2n b).testBit j = (decide (j = 0) && b) := by
  cases b
  · simp [b2n]
  · cases j with
    | zero => simp [b2n]
    | succ k => simp [b2n, Nat.testBit_succ]

end Amoco

namespace Amoco.Rot

open Expr Bits

theorem testBit_b2n (b : Bool) (j : Nat) : (b2n b).testBit j = (decide (j = 0) && b) := Amoco.testBit_b2n b j

end Amoco.Rot

namespace Amoco.Frag

open Expr Bits

variable {ag : Op → Bool}

theorem mapM_get {α β : Type} (f : α → R β) :
    ∀ (l : List α) (l' : List β), l.mapM f = .ok l' →
      l'.length = l.length ∧ ∀ (i : Nat) (h : i < l.length) (h' : i < l'.length), f l[i] = .ok l'[i] := by
  intro l
  induction l with
  | nil => intro l' h; cases h; exact ⟨rfl, fun _ hi => absurd hi (Nat.not_lt_zero _)⟩
  | cons x tl ih =>
    intro l' h
    rw [List.mapM_cons] at h
    obtain ⟨y, hx, h⟩ := bind_ok h
    obtain ⟨ys, ht, h⟩ := bind_ok h
    cases h
    obtain ⟨h1, h2⟩ := ih ys ht
    refine ⟨congrArg (· + 1) h1, fun i hi hi' => ?_⟩
    cases i with
    | zero => exact hx
    | succ k => exact h2 k (Nat.lt_of_succ_lt_succ hi) (Nat.lt_of_succ_lt_succ hi')

theorem catVal_bits (ρ : Val) : ∀ (bits : List Expr) (g : Nat → Bool),
    (∀ (i : Nat) (h : i < bits.length), bits[i].size = 1 ∧ ideal ρ bits[i] = b2n (g i)) →
    ∀ j, (catVal ρ bits).testBit j = (decide (j < bits.length) && g j) := by
  intro bits
  induction bits with
  | nil => intro g _ j; simp [catVal]
  | cons x tl ih =>
    intro g h j
    have h0 : x.size = 1 ∧ ideal ρ x = b2n (g 0) := h 0 (Nat.zero_lt_succ _)
    show (cat (ideal ρ x) x.size (catVal ρ tl)).testBit j = _
    rw [h0.1, h0.2, testBit_cat _ _ _ _ (b2n_lt _)]
    cases j with
    | zero => rw [if_pos Nat.zero_lt_one, testBit_b2n]; simp
    | succ j =>
      rw [if_neg (by omega), Nat.add_sub_cancel, ih (fun i => g (i + 1)) (fun i hi => h (i + 1) (Nat.succ_lt_succ hi)) j]
      simp

theorem getElem_pyRange (a b : Int) (i : Nat) (h : i < (pyRange a b).length) : (pyRange a b)[i] = a + (i : Int) := by
  simp [pyRange]

/-- what the list that a `bitslice` rule hands to `composer` must look like: its `i`-th entry is the bit `g i` -/
def BitsOK (ag : Op → Bool) (ρ : Val) (g : Nat → Bool) (bits : List Expr) : Prop :=
  ∀ (i : Nat) (h : i < bits.length), WF bits[i] ∧ Plain ag bits[i] ∧ bits[i].size = 1 ∧ ideal ρ bits[i] = b2n (g i)

theorem BitsOK_append {ρ : Val} {g1 g2 : Nat → Bool} {l1 l2 : List Expr} (h1 : BitsOK ag ρ g1 l1) (h2 : BitsOK ag ρ g2 l2) :
    BitsOK ag ρ (fun i => if i < l1.length then g1 i else g2 (i - l1.length)) (l1 ++ l2) := by
  intro i hi
  by_cases h : i < l1.length
  · rw [List.getElem_append_left h]
    simp only [h, if_true]
    exact h1 i h
  · rw [List.getElem_append_right (by omega)]
    simp only [h, if_false]
    exact h2 (i - l1.length) (by simp at hi; omega)

theorem BitsOK_bit0s (ρ : Val) (n : Nat) : BitsOK ag ρ (fun _ => false) (bit0s n) := by
  intro i hi
  simp only [bit0s, List.getElem_replicate]
  exact ⟨WF_bit0, Plain_cst, rfl, by simp [ideal_bit0, b2n]⟩

section steps
variable {cfg : Cfg} {ρ : Val} {fuel : Nat} (ih : SoundIH ag cfg ρ fuel)
include ih

/-- `[l[i:i+1] for i in range(a, b)]`: the bits `[a, b)` of `l`, taken one by one -/
theorem bits_of_sem (l : Expr) (hl : WF l) (hq : Plain ag l) (a b : Int) (bits : List Expr)
    (h : (pyRange a b).mapM (fun i => getitem cfg fuel l i (i + 1)) = .ok bits) :
    bits.length = (b - a).toNat ∧ (0 < bits.length → 0 ≤ a) ∧
      BitsOK ag ρ (fun i => (ideal ρ l).testBit (a.toNat + i)) bits := by
  obtain ⟨h1, h2⟩ := mapM_get _ _ _ h
  have hlen : bits.length = (b - a).toNat := by rw [h1, length_pyRange]
  have key : ∀ (i : Nat) (hi : i < bits.length), 0 ≤ a + (i : Int) ∧
      WF bits[i] ∧ Plain ag bits[i] ∧ bits[i].size = 1 ∧ ideal ρ bits[i] = b2n ((ideal ρ l).testBit ((a + (i : Int)).toNat)) := by
    intro i hi
    have := h2 i (by rw [← h1]; exact hi) hi
    rw [getElem_pyRange] at this
    have hw := (widthIH_all cfg fuel).getitem l _ _ hl _ this
    have hv := ih.getitem l _ _ hl hq _ this
    have hpos : 0 ≤ a + (i : Int) := (getitem_bounds this).1
    refine ⟨hpos, hw.1, hv.1, by rw [hw.2]; omega, ?_⟩
    rw [hv.2]
    have e : (a + (i : Int) + 1).toNat - (a + (i : Int)).toNat = 1 := by omega
    rw [e, bitsOf_one]
  have h0 : 0 < bits.length → 0 ≤ a := fun hp => by simpa using (key 0 hp).1
  refine ⟨hlen, h0, fun i hi => ?_⟩
  obtain ⟨-, k1, k2, k3, k4⟩ := key i hi
  have := h0 (by omega)
  exact ⟨k1, k2, k3, by rw [k4, show (a + (i : Int)).toNat = a.toNat + i by omega]⟩

/-- `composer(bits)` (then `c.sf = e.sf` when a `comp` comes out) for 1-bit expressions -/
theorem composeBits_sem (bits : List Expr) (sf : Bool) (g : Nat → Bool) (V : Nat) (hb : BitsOK ag ρ g bits)
    (hV : ∀ j, V.testBit j = (decide (j < bits.length) && g j)) : SPostO ag ρ V (composeBits cfg fuel sf bits) := by
  apply SPostO_bind; intro c hc
  have := ih.composer bits (fun x hx => by obtain ⟨i, hi, rfl⟩ := List.getElem_of_mem hx; exact (hb i hi).1)
    (fun x hx => by obtain ⟨i, hi, rfl⟩ := List.getElem_of_mem hx; exact (hb i hi).2.1) c hc
  have hval : ideal ρ c = V := by
    rw [this.2]
    apply Nat.eq_of_testBit_eq; intro j
    rw [hV j, catVal_bits ρ bits g (fun i hi => (hb i hi).2.2) j]
  refine if_cases (P := fun e => SPostO ag ρ V (pure (some e))) (fun _ => ?_) (fun _ => SPostO_some this.1 hval)
  exact SPostO_some ((Plain_setSf _ _).mpr this.1) (by rw [ideal_setSf]; exact hval)

/-- the `bitslice` rule for `& | ^` with a constant: bit `i` of the result list is bit `i` of the meaning -/
theorem bitslice_logic_bits [Frag ag] (o : Op) (ho : o = Op.and ∨ o = Op.or ∨ o = Op.xor) (l : Expr) (rv rs : Nat) (rf : Bool)
    (size w : Nat) (hl : WF l) (hq : Plain ag l) (hr : WF (.cst rv rs rf)) (bits : List Expr)
    (h : (pyRange 0 size).mapM (fun i => do
            let a ← getitem cfg fuel l i (i + 1)
            let b ← getitem cfg fuel (.cst rv rs rf) i (i + 1)
            callOp cfg fuel o a b) = .ok bits) :
    bits.length = size ∧ BitsOK ag ρ (fun i => (binSem o false w (ideal ρ l) rv).testBit i) bits := by
  have wih := widthIH_all cfg fuel
  obtain ⟨h1, h2⟩ := mapM_get _ _ _ h
  have hlen : bits.length = size := by rw [h1, length_pyRange]; simp
  refine ⟨hlen, ?_⟩
  intro i hi
  have := h2 i (by rw [← h1]; exact hi) hi
  rw [getElem_pyRange] at this
  simp only [Int.zero_add] at this
  obtain ⟨a, ha, this⟩ := bind_ok this
  obtain ⟨b, hbb, this⟩ := bind_ok this
  obtain ⟨wa, sa, pa, va⟩ := (wih.getitem l _ _ hl).and_sound (ih.getitem l _ _ hl hq) ha
  obtain ⟨wb, sb, pb, vb⟩ := (wih.getitem _ _ _ hr).and_sound (ih.getitem _ _ _ hr (Plain_cst)) hbb
  have hag : ag o = true := by rcases ho with rfl | rfl | rfl <;> exact Frag.lo _ rfl
  have s1 : a.size = 1 := by rw [sa]; omega
  have s2 : b.size = 1 := by rw [sb]; omega
  obtain ⟨wc, sc, pc, vc⟩ := (wih.callOp o a b wa wb (fun _ => s1.trans s2.symm)).and_sound
    (ih.callOp o a b wa wb pa pb hag (fun _ => s1.trans s2.symm)) this
  refine ⟨wc, pc, ?_, ?_⟩
  · rw [sc]
    rcases ho with rfl | rfl | rfl <;> exact s1
  · rw [vc, va, vb, ideal_lt_of_WF_cst hr, s1, show (i : Int).toNat = i by omega,
      show ((i : Int) + 1).toNat - i = 1 by omega]
    show _ = b2n ((binSem o false w (ideal ρ l) rv).testBit i)
    rw [← bitsOf_one]
    rcases ho with rfl | rfl | rfl
    · exact (slice_and _ _ _ 1).symm
    · exact (slice_or _ _ _ 1).symm
    · exact (slice_xor _ _ _ 1).symm

end steps
end Amoco.Frag
