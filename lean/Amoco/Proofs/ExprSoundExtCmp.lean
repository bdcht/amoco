/-
  Amoco.Proofs.ExprSoundExtCmp — the ordered comparisons `< <= > >=` as ROOT of a tree whose operands are in the
  fragment with rotations: `eqn2_helpers` does no re-association and applies no constant-operand rule, folds two
  constants by the `cst` table and answers `x op x`; each step keeps the value when both operands carry ONE declared
  signedness.
-/
import Amoco.Proofs.ExprSoundSimp

namespace Amoco.Rot

open Expr Bits

/-- the ordered comparisons (their meaning depends on the declared signedness) -/
def ordOp : Op → Bool
  | .lt | .le | .gt | .ge => true
  | _ => false

theorem ord_cases {o : Op} (h : ordOp o = true) : o = .lt ∨ o = .le ∨ o = .gt ∨ o = .ge := by
  cases o <;> first | exact absurd h Bool.false_ne_true | decide

theorem ord_type {o : Op} (h : ordOp o = true) : o.type = 4 := by
  rcases ord_cases h with rfl | rfl | rfl | rfl <;> rfl

theorem pm_ord {o : Op} (h : ordOp o = true) (x : Op) : Op.pm o x = none := by
  rcases ord_cases h with rfl | rfl | rfl | rfl <;> cases x <;> rfl

def VPost (ρ : Val) (v : Nat) (r : R Expr) : Prop := ∀ e, r = .ok e → ideal ρ e = v

theorem VPost_error {ρ : Val} {v : Nat} {k : Err} : VPost ρ v (.error k) := by intro e h; cases h
theorem VPost_ok {ρ : Val} {v : Nat} {e : Expr} (h : ideal ρ e = v) : VPost ρ v (.ok e) := by intro e' he; cases he; exact h

variable (cfg : Cfg)

theorem normL_ord {o : Op} (h : ordOp o = true) (l r : Expr) :
    ∀ fuel t, normL cfg fuel o l r = .ok t → t = (o, l, r) := by
  intro fuel t ht
  cases fuel with
  | zero => rw [normL.eq_def] at ht; cases ht
  | succ f =>
    refine normL_cases (P := fun res => res = .ok t → t = (o, l, r)) ?_ ?_ ht
    · intro _ _ _ _ _ _ x _ _ hx; rw [pm_ord h] at hx; cases hx
    · intro ht; cases ht; rfl

theorem normR_ord {o : Op} (h : ordOp o = true) (l r : Expr) :
    ∀ fuel t, normR cfg fuel o l r = .ok t → t = (o, l, r) := by
  intro fuel t ht
  cases fuel with
  | zero => rw [normR.eq_def] at ht; cases ht
  | succ f =>
    refine normR_cases (P := fun res => res = .ok t → t = (o, l, r)) ?_ ?_ ?_ ht
    · intro _ _ _ _ _ _ x _ _ hx; rw [pm_ord h] at hx; cases hx
    · intro _ _ _ _ _ x _ _ hx; rw [pm_ord h] at hx; cases hx
    · intro ht; cases ht; rfl

theorem normNeg_ord {o : Op} (h : ordOp o = true) (r : Expr) : normNeg o r = (o, r) := by
  rcases ord_cases h with rfl | rfl | rfl | rfl <;> cases r <;> rfl

theorem eqn2norm_ord {o : Op} (h : ordOp o = true) (l r : Expr) :
    ∀ fuel t, eqn2norm cfg fuel o l r = .ok t → t = (o, l, r) := by
  intro fuel t ht
  cases fuel with
  | zero => rw [eqn2norm.eq_def] at ht; cases ht
  | succ f =>
    rw [eqn2norm.eq_def] at ht
    obtain ⟨t1, h1, ht⟩ := bind_ok ht
    obtain rfl := normL_ord cfg h l r f t1 h1
    rw [normNeg_ord h] at ht
    exact normR_ord cfg h l r f t ht

theorem eqn2cst_ord {o : Op} (h : ordOp o = true) (opts : Opts) (l : Expr) (rv rs : Nat) (rf : Bool) (size : Nat) (sf : Bool) :
    ∀ fuel y, eqn2cst cfg fuel opts o l rv rs rf size sf = .ok y → y = none := by
  intro fuel y hy
  cases fuel with
  | zero => rw [eqn2cst.eq_def] at hy; cases hy
  | succ f =>
    rw [eqn2cst.eq_def] at hy; dsimp only at hy
    rcases ord_cases h with rfl | rfl | rfl | rfl <;> simp [pure, Except.pure] at hy <;> (cases hy; rfl)

/-- the end of `eqn2_helpers` on an ordered comparison: `x < x ⇒ 0`, `x <= x ⇒ 1` (decided by rendering), else the node -/
theorem eqn2tail_ord {ρ : Val} (eqok : EqOK ρ) {o : Op} (h : ordOp o = true) (opts : Opts) (l r : Expr) (size : Nat) (sf : Bool)
    (prop : Nat) (hl : WF l) (hr : WF r) (hql : Plain l) (hqr : Plain r) (hsz : l.size = r.size) :
    ∀ fuel, VPost ρ (binSem o l.sf l.size (ideal ρ l) (ideal ρ r)) (eqn2tail cfg fuel opts o l r size sf prop) := by
  intro fuel
  cases fuel with
  | zero => rw [eqn2tail.eq_def]; exact VPost_error
  | succ f =>
    have same : render l = render r → ideal ρ r = ideal ρ l := fun hrd => (eqok l r hl hr hql hqr hsz (Or.inl hrd)).symm
    apply eqn2tail_cases
    case vecL => rintro _ _ _ rfl; exact hql.elim
    case vecR => rintro _ _ _ rfl; exact hqr.elim
    case keep => exact VPost_ok rfl
    case same0 => exact fun hrd ho => VPost_ok (by rw [same hrd, x_cmp_x_false o ho]; rfl)
    case same1 => exact fun hrd ho => VPost_ok (by rw [same hrd, x_cmp_x_true o ho]; cases sf <;> rfl)
    case sameZ => exact fun _ ho => by rcases ho with rfl | rfl <;> exact absurd h Bool.false_ne_true
    case sameL => exact fun _ ho => by rcases ho with rfl | rfl <;> exact absurd h Bool.false_ne_true

/-- the rules of `eqn2_helpers` for an ordered comparison with a constant right operand: two constants fold by the
    `cst` table (both read with their common flag), anything else goes to the end of the rule chain -/
theorem eqn2snd_ord {ρ : Val} (eqok : EqOK ρ) {o : Op} (h : ordOp o = true) (opts : Opts) (l : Expr) (rv rs : Nat) (rf : Bool)
    (size : Nat) (sf : Bool) (prop : Nat) (hl : WF l) (hr : WF (.cst rv rs rf)) (hql : Plain l) (hsz : l.size = rs)
    (hsf : l.sf = rf) :
    ∀ fuel, VPost ρ (binSem o l.sf l.size (ideal ρ l) (ideal ρ (.cst rv rs rf)))
      (eqn2snd cfg fuel opts o l rv rs rf size sf prop) := by
  intro fuel
  cases fuel with
  | zero => rw [eqn2snd.eq_def]; exact VPost_error
  | succ f =>
    apply eqn2snd_cases
    case tail => exact eqn2tail_ord cfg eqok h opts l (.cst rv rs rf) size sf prop hl hr hql trivial hsz f
    case keep => exact VPost_ok rfl
    case opPm => intro _ _ _ _ _ _ x _ hx; rw [pm_ord h] at hx; cases hx
    case uopPm => intro _ _ _ _ _ x _ hx; rw [pm_ord h] at hx; cases hx
    case isL => exact fun _ ho => by rcases ho with ⟨rfl, _⟩ | ⟨rfl, _⟩ <;> exact absurd h Bool.false_ne_true
    case notL => exact fun _ ho => by rcases ho with ⟨rfl, _⟩ | ⟨rfl, _⟩ <;> exact absurd h Bool.false_ne_true
    case ofPtr => rintro _ _ _ _ _ rfl; exact hql.elim
    case ofComp => exact fun _ _ _ _ ho => by rcases ho with rfl | rfl | rfl <;> exact absurd h Bool.false_ne_true
    case ofCst =>
      rintro lv ls lf rfl
      obtain rfl : lf = rf := hsf
      obtain rfl : ls = rs := hsz
      intro e he
      obtain ⟨res, hc, he⟩ := bind_ok he
      cases he
      obtain ⟨g, rfl⟩ := callOp_cst_sound cfg f o lv ls lf rv ls lf lf res hl.2 hr.2 hl.1 (fun _ => rfl)
        (fun _ => ⟨cstValue_reading _ _ _, cstValue_reading _ _ _⟩) hc
      rw [ideal_lt_of_WF_cst hl, ideal_lt_of_WF_cst hr]
      exact Nat.mod_eq_of_lt (binSem_lt o lf ls lv rv hl.2 (fun _ => hr.2))

theorem eqn2_ord {ρ : Val} (eqok : EqOK ρ) (hcp : ∀ e, cfg.cplx e = false) {o : Op} (h : ordOp o = true) (opts : Opts)
    (l r : Expr) (size : Nat) (sf : Bool) (prop : Nat) (hl : WF l) (hr : WF r) (hql : Plain l) (hqr : Plain r)
    (hsz : l.size = r.size) (hsf : l.sf = r.sf) :
    ∀ fuel, VPost ρ (binSem o l.sf l.size (ideal ρ l) (ideal ρ r)) (eqn2 cfg fuel opts o l r size sf prop) := by
  intro fuel
  cases fuel with
  | zero => rw [eqn2.eq_def]; exact VPost_error
  | succ f =>
    rw [eqn2.eq_def]; dsimp only
    rw [hcp l, hcp r]
    simp only [Bool.false_eq_true, if_false]
    rw [Frag.Plain_notTop ((Frag.plain_rot l).mpr hql), Frag.Plain_notTop ((Frag.plain_rot r).mpr hqr)]
    simp only [Bool.or_self, Bool.false_eq_true, if_false]
    intro e he
    obtain ⟨t, hn, he⟩ := bind_ok he
    obtain rfl := eqn2norm_ord cfg h l r f t hn
    dsimp only at he
    split at he
    · obtain ⟨y, hc, he⟩ := bind_ok he
      obtain rfl := eqn2cst_ord cfg h opts l _ _ _ size sf f y hc
      exact eqn2snd_ord cfg eqok h opts l _ _ _ size sf prop hl hr hql hsz hsf f e he
    · exact eqn2tail_ord cfg eqok h opts l r size sf prop hl hr hql hqr hsz f e he

/-- `simplify` on an ordered comparison whose operands are in the fragment: the operands are simplified (value kept, by
    the induction over the rewrite system), then `eqn2_helpers` — provided the simplified operands still carry the
    declared signedness of the left operand (`hsf`) -/
theorem simplify_ord {ρ : Val} (eqok : EqOK ρ) (hcp : ∀ e, cfg.cplx e = false) {o : Op} (h : ordOp o = true) (opts : Opts)
    (hopt : OptsOK opts) (l r : Expr) (size : Nat) (sf : Bool) (prop : Nat) (hw : WF (.op o l r size sf prop))
    (hql : Plain l) (hqr : Plain r) (fuel : Nat)
    (hsf : ∀ l' r', simplify cfg fuel opts l = .ok l' → simplify cfg fuel opts r = .ok r' → l'.sf = l.sf ∧ r'.sf = l.sf) :
    VPost ρ (ideal ρ (.op o l r size sf prop)) (simplify cfg (fuel + 1) opts (.op o l r size sf prop)) := by
  obtain ⟨hpos, hp, hl, hr, hs, heq⟩ := (WF_op_iff ..).mp hw
  have ht := ord_type h
  rw [simplify.eq_def]; dsimp only
  intro e he
  obtain ⟨l', h1, he⟩ := bind_ok he
  obtain ⟨r', h2, he⟩ := bind_ok he
  have hp4 : ¬ prop < 4 := by omega
  simp only [hp4, decide_false, Bool.false_and, Bool.false_eq_true, if_false] at he
  obtain ⟨hwl, hsl, hpl', hvl⟩ := ((widthIH_all cfg fuel).simplify opts l hl).and_sound
    ((soundIH_all cfg hcp ρ eqok fuel).simplify opts l hl hql hopt) h1
  obtain ⟨hwr, hsr, hpr', hvr⟩ := ((widthIH_all cfg fuel).simplify opts r hr).and_sound
    ((soundIH_all cfg hcp ρ eqok fuel).simplify opts r hr hqr hopt) h2
  obtain ⟨s1, s2⟩ := hsf l' r' h1 h2
  rw [eqn2_ord cfg eqok hcp h opts l' r' size sf prop hwl hwr hpl' hpr'
    (by rw [hsl, hsr]; exact heq (by omega)) (by rw [s1, s2]) fuel e he, s1, hsl, hvl, hvr]
  rfl

end Amoco.Rot
