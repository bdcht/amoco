/-
  Amoco.Proofs.ExprSoundExtRot — stand-alone all-width facts about the rotations `>>>` / `<<<` (bit characterisation,
  composition, `rol` as `ror`, slices of rotations), and the inclusion of the C01 fragment `Plain` in the fragment
  with rotations (`Amoco.Rot.Plain`).
-/
import Amoco.Proofs.ExprSoundBase

namespace Amoco.Rot

open Expr Bits

theorem plain_of_plain (e : Expr) (h : Amoco.Expr.Plain e) : Plain e :=
  (Frag.plain_rot e).mp (Frag.Plain.mono Frag.lo e ((Frag.plain_agn e).mpr h))

theorem plainParts_of_plainParts : ∀ ps : List Part, Amoco.Expr.PlainParts ps → PlainParts ps :=
  fun ps h => (Frag.plainParts_rot ps).mp (Frag.PlainParts.mono Frag.lo ps ((Frag.plainParts_agn ps).mpr h))

theorem ror_testBit (sg : Bool) (w a n j : Nat) (ha : a < 2 ^ w) (hj : j < w) :
    (binSem Op.ror sg w a n).testBit j = a.testBit ((j + n) % w) := by
  have hw : 0 < w := by omega
  have hm : n % w < w := Nat.mod_lt _ hw
  rw [← Nat.add_mod_mod]
  simp only [binSem]
  generalize n % w = m at hm ⊢
  rw [Nat.testBit_mod_two_pow, Nat.testBit_or, Nat.testBit_shiftRight, Nat.testBit_shiftLeft]
  simp only [hj, decide_true, Bool.true_and]
  by_cases h : j + m < w
  · rw [Nat.mod_eq_of_lt h]
    have : ¬ (j ≥ w - m) := by omega
    simp [this, Nat.add_comm]
  · have h1 : a.testBit (m + j) = false := testBit_of_lt a w _ ha (by omega)
    have h2 : (j + m) % w = j - (w - m) := by
      rw [Nat.mod_eq_sub_mod (by omega), Nat.mod_eq_of_lt (by omega)]; omega
    have : j ≥ w - m := by omega
    simp [h1, h2, this]

theorem rot_lt (o : Op) (ho : o = Op.ror ∨ o = Op.rol) (sg : Bool) (w a n : Nat) : binSem o sg w a n < 2 ^ w := by
  rcases ho with rfl | rfl <;> simp only [binSem] <;> exact Nat.mod_lt _ (Nat.two_pow_pos _)

theorem rol_testBit (sg : Bool) (w a n j : Nat) (ha : a < 2 ^ w) (hj : j < w) :
    (binSem Op.rol sg w a n).testBit j = a.testBit ((j + (w - n % w)) % w) := by
  have hw : 0 < w := by omega
  have hm : n % w < w := Nat.mod_lt _ hw
  simp only [binSem]
  generalize n % w = m at hm ⊢
  rw [Nat.testBit_mod_two_pow, Nat.testBit_or, Nat.testBit_shiftRight, Nat.testBit_shiftLeft]
  simp only [hj, decide_true, Bool.true_and]
  by_cases h : m ≤ j
  · have h1 : a.testBit (w - m + j) = false := testBit_of_lt a w _ ha (by omega)
    have h2 : (j + (w - m)) % w = j - m := by
      rw [Nat.mod_eq_sub_mod (by omega), Nat.mod_eq_of_lt (by omega)]; omega
    simp [h, h1, h2]
  · have h2 : (j + (w - m)) % w = w - m + j := by
      rw [Nat.mod_eq_of_lt (by omega)]; omega
    simp [h, h2]

theorem eq_of_low_bits (w x y : Nat) (hx : x < 2 ^ w) (hy : y < 2 ^ w) (h : ∀ j, j < w → x.testBit j = y.testBit j) : x = y := by
  apply Nat.eq_of_testBit_eq; intro j
  by_cases hj : j < w
  · exact h j hj
  · rw [testBit_of_lt x w j hx (by omega), testBit_of_lt y w j hy (by omega)]

theorem rol_as_ror (sg1 sg2 : Bool) (w a n : Nat) (ha : a < 2 ^ w) :
    binSem Op.rol sg1 w a n = binSem Op.ror sg2 w a (w - n % w) := by
  apply eq_of_low_bits w _ _ (rot_lt _ (Or.inr rfl) _ _ _ _) (rot_lt _ (Or.inl rfl) _ _ _ _)
  intro j hj
  rw [rol_testBit sg1 w a n j ha hj, ror_testBit sg2 w a _ j ha hj]

theorem ror_ror (sg1 sg2 sg3 : Bool) (w a n k : Nat) (ha : a < 2 ^ w) (hw : 0 < w) :
    binSem Op.ror sg1 w (binSem Op.ror sg2 w a n) k = binSem Op.ror sg3 w a (n + k) := by
  apply eq_of_low_bits w _ _ (rot_lt _ (Or.inl rfl) _ _ _ _) (rot_lt _ (Or.inl rfl) _ _ _ _)
  intro j hj
  rw [ror_testBit sg1 w _ k j (rot_lt _ (Or.inl rfl) _ _ _ _) hj,
    ror_testBit sg2 w a n _ ha (Nat.mod_lt _ hw), ror_testBit sg3 w a _ j ha hj]
  congr 1
  rw [Nat.mod_add_mod]; congr 1; omega

theorem ror_mod (sg : Bool) (w a n : Nat) : binSem Op.ror sg w a (n % w) = binSem Op.ror sg w a n := by
  simp only [binSem, Nat.mod_mod]

theorem ror_width (sg : Bool) (w a : Nat) (ha : a < 2 ^ w) : binSem Op.ror sg w a w = a := by
  rw [← ror_mod, Nat.mod_self]; exact rot_zero _ (Or.inl rfl) sg w a ha

theorem rol_ror (sg1 sg2 : Bool) (w a n : Nat) (ha : a < 2 ^ w) (hw : 0 < w) :
    binSem Op.rol sg1 w (binSem Op.ror sg2 w a n) n = a := by
  rw [rol_as_ror sg1 sg2 w _ n (rot_lt _ (Or.inl rfl) _ _ _ _), ror_ror sg2 sg2 sg2 w a n _ ha hw]
  rw [← ror_mod, ← Nat.mod_add_mod, Nat.add_sub_cancel' (Nat.le_of_lt (Nat.mod_lt _ hw)), Nat.mod_self]
  exact rot_zero _ (Or.inl rfl) sg2 w a ha

theorem slice_ror_nowrap (sg : Bool) (w a n p s : Nat) (ha : a < 2 ^ w) (h : p + s + n % w ≤ w) (hs : 0 < s) :
    bitsOf (binSem Op.ror sg w a n) p s = bitsOf a (p + n % w) s := by
  have hw : 0 < w := by omega
  apply eq_of_low_bits s _ _ (by unfold bitsOf; exact Nat.mod_lt _ (Nat.two_pow_pos _)) (by unfold bitsOf; exact Nat.mod_lt _ (Nat.two_pow_pos _))
  intro j hj
  unfold bitsOf
  rw [Nat.testBit_mod_two_pow, Nat.testBit_mod_two_pow, Nat.testBit_shiftRight, Nat.testBit_shiftRight]
  rw [ror_testBit sg w a n (p + j) ha (by omega), ← Nat.add_mod_mod, Nat.mod_eq_of_lt (by omega)]
  congr 2; omega

end Amoco.Rot
