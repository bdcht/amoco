/-
  Amoco.Proofs.ExprSoundSlice — value-soundness steps for slicing and composition
  (`mkSlc slicer getitem setitem composer extendExp`).
-/
import Amoco.Proofs.ExprSoundOps

namespace Amoco.Frag

open Expr Bits

variable {ag : Op → Bool}

/-! ### Facts on `cat`, `wrap` and `bitsOf` -/

theorem cat_assoc (V p a w c : Nat) : cat (cat V p a) (p + w) c = cat V p (cat a w c) := by
  unfold cat
  rw [Nat.shiftLeft_or_distrib, ← Nat.shiftLeft_add, Nat.or_assoc, Nat.add_comm w p]

theorem wrap_neg_one (w : Nat) : wrap w (-1) = 2 ^ w - 1 := by
  unfold wrap
  have hp : (0 : Int) < ((2 ^ w : Nat) : Int) := by exact_mod_cast Nat.two_pow_pos w
  have : (-1 : Int) % ((2 ^ w : Nat) : Int) = ((2 ^ w : Nat) : Int) - 1 := by
    rw [← Int.add_emod_right]
    exact Int.emod_eq_of_lt (by omega) (by omega)
  rw [this]; omega

theorem wrap_zero (w : Nat) : wrap w 0 = 0 := by simp [wrap]

theorem bitsOf_one (x i : Nat) : bitsOf x i 1 = b2n (x.testBit i) := by
  unfold bitsOf b2n
  rw [Nat.shiftRight_eq_div_pow, Nat.pow_one, ← Nat.toNat_testBit]
  cases x.testBit i <;> rfl

/-! ### Value of a `comp` and of one of its parts -/

theorem ideal_comp_testBit {ρ : Val} {n : Nat} {sf : Bool} {ps : List Part} (hd : Disj n ps) (j : Nat) :
    (ideal ρ (.comp n sf ps)).testBit j = tbit ρ ps j := by
  simp only [ideal]
  rw [Nat.mod_eq_of_lt (idealParts_lt ρ n ps hd.1)]
  exact idealParts_testBit ρ n ps hd j

theorem ideal_part (ρ : Val) {n : Nat} (sf : Bool) {ps : List Part} (hd : Disj n ps) {lo hi : Nat} {e : Expr}
    (hm : (lo, hi, e) ∈ ps) (hw : WF e) : ideal ρ e = bitsOf (ideal ρ (.comp n sf ps)) lo (hi - lo) := by
  have hs : lo < hi ∧ hi ≤ n ∧ e.size = hi - lo := hd.1 _ hm
  apply Nat.eq_of_testBit_eq; intro j
  rw [testBit_bitsOf, ideal_comp_testBit hd]
  by_cases hj : j < hi - lo
  · rw [tbit_of_mem ρ hd hm ⟨Nat.le_add_right lo j, by show lo + j < hi; omega⟩]
    simp only [hj, decide_true, Bool.true_and, Nat.add_sub_cancel_left]
  · rw [testBit_of_lt _ _ _ (ideal_lt ρ e hw) (by omega)]
    simp only [hj, decide_false, Bool.false_and]

theorem ideal_whole_part (ρ : Val) {n : Nat} (sf : Bool) {ps : List Part} (hd : Disj n ps) {e : Expr}
    (hm : (0, n, e) ∈ ps) (hw : WF e) : ideal ρ e = ideal ρ (.comp n sf ps) := by
  rw [ideal_part ρ sf hd hm hw]
  exact slice_whole _ _ (Nat.mod_lt _ (Nat.two_pow_pos n))

/-! ### Reading: `mkSlc`, `slicer`, `getitem` -/

/-- the property `Q` of parts at which the table lemmas (`compGetLoop_sem`, `setPart_sem`, `setPart_pres`) are used -/
def WP (ag : Op → Bool) (e : Expr) : Prop := WF e ∧ Plain ag e

section steps
variable {cfg : Cfg} {ρ : Val} {fuel : Nat} (ih : SoundIH ag cfg ρ fuel)
include ih

theorem gi_WP (x : Expr) (a b : Nat) (r : Expr) (h : WP ag x) (hg : getitem cfg fuel x (a : Int) (b : Int) = .ok r) : WP ag r :=
  ⟨((widthIH_all cfg fuel).getitem x a b h.1 r hg).1, (ih.getitem x a b h.1 h.2 r hg).1⟩

theorem giSem_of_ih : GiSem ρ (WP ag) (fun y a b => getitem cfg fuel y (a : Int) (b : Int)) := by
  intro x a b r hx hq hab hb h
  have := (ih.getitem x a b hx hq.2 r h).2
  simpa using this

theorem siSem_of_ih : SiSem ρ (WP ag) (fun c a b v => setitem cfg fuel c (a : Int) (b : Int) v) := by
  intro n sf ps a b v r hd hw hq hv hqv h
  obtain ⟨ps', h1, h2, h3⟩ := ih.setitem n sf ps a b v r hd hw (fun p hp => (hq p hp).2) hv hqv.2 h
  obtain ⟨ps'', h1', _, hw', _⟩ := (widthIH_all cfg fuel).setitem n sf ps a b v r hd hw hv h
  rw [h1] at h1'; cases h1'
  refine ⟨ps', h1, fun p hp => ⟨hw' p hp, h2 p hp⟩, ?_⟩
  intro j
  rw [h3 j]
  simp only [Int.toNat_natCast, Nat.cast_le, Nat.cast_lt]

theorem mkSlc_sstep : SliceSpec ag ρ (mkSlc cfg (fuel + 1)) := by
  intro x pos size hx hp hs hps
  rw [mkSlc.eq_def]; dsimp only
  have hself : SPost ag ρ (bitsOf (ideal ρ x) pos size) (.ok (.slc x pos size x.sf none (slcEty x))) :=
    SPost_ok ⟨Plain_slcEty hp, hp⟩ rfl
  split
  · apply SPost_bind; intro res hres
    obtain ⟨-, hs', hq', hv⟩ := ((widthIH_all cfg fuel).getitem _ _ _ hx).and_sound (ih.getitem _ _ _ hx hp) hres
    split
    · rename_i x2 p2 s2 f2 r2 k2
      obtain rfl : s2 = size := by rw [← size_slc x2 p2 s2 f2 r2 k2, hs']; omega
      refine SPost_ok ⟨Plain_slcEty hq'.2, hq'.2⟩ (hv.trans ?_)
      congr 1; omega
    · exact hself
  · exact hself

theorem slicer_sstep : SliceSpec ag ρ (slicer cfg (fuel + 1)) := by
  intro x pos size hx hp hs hps
  rw [slicer.eq_def]; dsimp only
  rw [Plain_isDef hp]
  refine if_cases (fun h => nomatch h) (fun _ => if_cases (fun h => ?_) (fun _ => if_cases (fun _ => ?_) (fun _ => ?_)))
  · simp only [Bool.and_eq_true, beq_iff_eq] at h
    refine SPost_ok hp ?_
    rw [h.1, h.2]
    exact (slice_whole _ _ (ideal_lt ρ x hx)).symm
  · apply SPost_bind; intro res hres
    have hv := ih.getitem _ _ _ hx hp res hres
    refine SPost_ok ((Plain_setSf _ _).mpr hv.1) ?_
    rw [ideal_setSf, hv.2]
    congr 1; omega
  · exact ih.mkSlc x pos size hx hp hs hps

theorem getitem_sstep (x : Expr) (a b : Int) (hx : WF x) (hp : Plain ag x) :
    SPost ag ρ (bitsOf (ideal ρ x) a.toNat (b.toNat - a.toNat)) (getitem cfg (fuel + 1) x a b) := by
  have wih := widthIH_all cfg fuel
  cases hcs : checkSlice x.size a b
  · rw [getitem_bad hcs]; exact SPost_error
  obtain ⟨h0, hab, hbn⟩ := checkSlice_ok hcs
  have hpos : 0 < b.toNat - a.toNat := by omega
  have whole : a.toNat = 0 → b.toNat = x.size → SPost ag ρ (bitsOf (ideal ρ x) a.toNat (b.toNat - a.toNat)) (pure x) := by
    intro h1 h2
    refine SPost_ok hp ?_
    rw [h1, h2]
    exact (slice_whole _ _ (ideal_lt ρ x hx)).symm
  apply getitem_cases hcs
  case ofCst =>
    rintro v s f rfl
    refine SPost_ok Plain_cst ?_
    rw [ideal_mkCst, wrap_of_nat, ideal_lt_of_WF_cst hx]; rfl
  case key =>
    rintro size sf parts p rfl hf
    obtain ⟨_, ht, hwp⟩ := hx
    have hm := findKey_some_mem hf
    exact SPost_ok (Plain_comp.mp hp _ hm) (ideal_part ρ sf ht.disj hm ((WFParts_iff parts).mp hwp _ hm))
  case whole => rintro size sf parts rfl h1 h2; exact whole h1 h2
  case same => rintro x' p s f r k rfl h1 h2; exact whole h1 h2
  case ofComp =>
    rintro size sf parts rfl _
    obtain ⟨_, ht, hwp⟩ := hx
    have hwp' := (WFParts_iff parts).mp hwp
    have hpp := Plain_comp.mp hp
    have hbn : b.toNat ≤ size := by simpa only [size_comp] using (show b.toNat ≤ (comp size sf parts).size by omega)
    have hl : b.toNat = a.toNat + (b.toNat - a.toNat) := by omega
    -- the loop starts at `b = 0` with an empty result table; `hnil` is its coverage invariant there
    have hnil : ∀ x, cnt x [] = if x < 0 then 1 else 0 := fun x => by simp [cnt]
    apply SPost_bind; intro res hres
    obtain ⟨rps, rfl, htl, hqr, hbits⟩ := compGetLoop_sem ρ (WP ag) _ _ (giSpec_of_ih wih) (siSpec_of_ih wih)
      (giSem_of_ih ih) (siSem_of_ih ih) (fun x a b r _ h hg => gi_WP ih x a b r h hg) size parts ht hwp' (fun p hp => ⟨hwp' p hp, hpp p hp⟩)
      (stop := b.toNat) (l := b.toNat - a.toNat) (sta := a.toNat) hl hbn sf (k := b.toNat - a.toNat) (b := 0) (rps := []) (res := _)
      (Nat.sub_le _ _) (Nat.zero_le _) (Disj_nil _) (fun _ hp => nomatch hp) (fun _ hp => nomatch hp) hnil
      (fun _ hx => absurd hx (Nat.not_lt_zero _)) hres
    have hwr : ∀ p ∈ rps, WF p.2.2 := fun p hp => (hqr p hp).1
    dsimp only
    obtain ⟨r1, r2, r3⟩ := restruct_spec _ rps htl.disj hwr
    have htr : Tiles (b.toNat - a.toNat) (restruct rps) :=
      tiles_of_disj_cnt r1 (fun x hx => by rw [r3 x]; exact htl.2 x hx)
    obtain ⟨s1, _⟩ := restruct_sem ρ _ rps htl.disj hwr (fun p hp => Plain_isDef (hqr p hp).2)
    have hplain := restruct_pres (Plain ag) (fun _ _ => Plain_cst) (fun e he => Plain_isDef he) _ rps htl.disj hwr (fun p hp => (hqr p hp).2)
    have hval : ideal ρ (comp (b.toNat - a.toNat) sf (restruct rps)) =
        bitsOf (ideal ρ (comp size sf parts)) a.toNat (b.toNat - a.toNat) := by
      apply Nat.eq_of_testBit_eq; intro j
      rw [ideal_comp_testBit htr.disj, s1 j, testBit_bitsOf, ideal_comp_testBit ht.disj]
      by_cases hj : j < b.toNat - a.toNat
      · simp [hj, hbits j hj]
      · simp only [hj, decide_false, Bool.false_and]
        exact tbit_uncovered ρ (cnt_zero_of_sized htl.1 (by omega))
    split
    · exact SPost_error
    · rename_i lo hi p heq
      rw [heq] at htr r2 hplain hval
      obtain ⟨rfl, rfl⟩ := Tiles.single_key hpos htr
      refine SPost_ok (hplain _ List.mem_cons_self) ?_
      rw [ideal_whole_part ρ sf htr.disj List.mem_cons_self (r2 _ List.mem_cons_self), hval]
    · exact SPost_ok (Plain_comp.mpr hplain) hval
  case ofSlc =>
    rintro x' p s f r k rfl
    obtain ⟨hx', _, hps⟩ := hx
    have hbn : b.toNat ≤ s := by simpa only [size_slc] using (show b.toNat ≤ (slc x' p s f r k).size by omega)
    refine SPost_of_eq (ih.slicer x' (p + a.toNat) (b.toNat - a.toNat) hx' hp.2 hpos (by omega)) ?_
    exact (slice_of_slice _ _ _ _ _ (by omega)).symm
  case ofMem => rintro _ _ _ _ _ rfl; exact hp.elim
  case ofVec => rintro _ _ _ rfl; exact hp.elim
  case ofVecw => rintro _ _ _ rfl; exact hp.elim
  case other => exact ih.slicer x _ _ hx hp hpos (by omega)

end steps

/-! ### Writing: `setitem`, `composer`, `extendExp` -/

/-- the bits written by a fold of `setitem`s: part `p` of `L` writes `val p` at `[sta+p.lo, sta+p.hi)`, the last
    writer wins -/
def foldBits (sta : Nat) (val : Part → Nat) (L : List Part) (base : Bool) (j : Nat) : Bool :=
  L.foldl (fun acc p => if sta + p.1 ≤ j ∧ j < sta + p.2.1 then (val p).testBit (j - (sta + p.1)) else acc) base

theorem foldBits_cons (sta : Nat) (val : Part → Nat) (q : Part) (tl : List Part) (base : Bool) (j : Nat) :
    foldBits sta val (q :: tl) base j =
      foldBits sta val tl (if sta + q.1 ≤ j ∧ j < sta + q.2.1 then (val q).testBit (j - (sta + q.1)) else base) j := rfl

/-- on disjoint keys the last writer is the only writer -/
theorem foldBits_cover (sta : Nat) (val : Part → Nat) (m : Nat) (j : Nat) :
    ∀ (L : List Part) (base : Bool), Disj m L →
      foldBits sta val L base j =
        if sta ≤ j then (match cover (j - sta) L with
                         | some p => (val p).testBit (j - sta - p.1)
                         | none => base)
        else base := by
  intro L
  induction L with
  | nil => intro base _; simp [foldBits, cover]
  | cons q tl ihl =>
    intro base hd
    obtain ⟨lo, hi, e⟩ := q
    rw [foldBits_cons, ihl _ hd.tail]
    by_cases hj : sta ≤ j
    · simp only [hj, if_true, cover]
      by_cases hq : lo ≤ j - sta ∧ j - sta < hi
      · have hq' : sta + lo ≤ j ∧ j < sta + hi := by omega
        have hc : (decide (lo ≤ j - sta) && decide (j - sta < hi)) = true := by simp [hq]
        rw [if_pos hc, if_pos hq']
        have h0 : cnt (j - sta) tl = 0 := by
          have := hd.2 (j - sta)
          change cnt (j - sta) ((lo, hi, e) :: tl) ≤ 1 at this
          rw [cnt_cons] at this
          unfold ind at this
          simp only at this
          rw [if_pos hq] at this
          omega
        rw [cover_none_of_cnt h0]
        simp only
        congr 1; omega
      · have hq' : ¬ (sta + lo ≤ j ∧ j < sta + hi) := by omega
        have hc : ¬ ((decide (lo ≤ j - sta) && decide (j - sta < hi)) = true) := by simp; omega
        rw [if_neg hc, if_neg hq']
    · have hq' : ¬ (sta + lo ≤ j ∧ j < sta + hi) := by omega
      simp only [hj, if_false, hq']

section steps
variable {cfg : Cfg} {ρ : Val} {fuel : Nat} (ih : SoundIH ag cfg ρ fuel)
include ih

theorem setitem_foldSem (n : Nat) (sf : Bool) (sta : Nat) (step : Expr → Part → R Expr) (val : Part → Nat) :
    ∀ (L : List Part),
      (∀ c p r, p ∈ L → step c p = .ok r → ∃ v, WF v ∧ Plain ag v ∧ ideal ρ v = val p ∧
          setitem cfg fuel c ((sta + p.1 : Nat) : Int) ((sta + p.2.1 : Nat) : Int) v = .ok r) →
      ∀ (ps : List Part) (r : Expr), Disj n ps → (∀ p ∈ ps, WF p.2.2) → (∀ p ∈ ps, Plain ag p.2.2) →
      L.foldlM step (Expr.comp n sf ps) = .ok r →
      ∃ ps', r = .comp n sf ps' ∧ Disj n ps' ∧ (∀ p ∈ ps', WF p.2.2) ∧ (∀ p ∈ ps', Plain ag p.2.2) ∧
        ∀ j, tbit ρ ps' j = foldBits sta val L (tbit ρ ps j) j := by
  intro L
  induction L with
  | nil =>
    intro _ ps r hd hw hq h
    simp only [List.foldlM_nil, pure, Except.pure] at h
    cases h
    exact ⟨ps, rfl, hd, hw, hq, fun j => rfl⟩
  | cons q tl ihl =>
    intro hstep ps r hd hw hq h
    rw [List.foldlM_cons] at h
    obtain ⟨c1, h1, h⟩ := bind_ok h
    obtain ⟨v, hv, hpv, hval, hset⟩ := hstep _ q c1 List.mem_cons_self h1
    obtain ⟨ps1, rfl, hd1, hw1, _, _, _, _⟩ := (widthIH_all cfg fuel).setitem n sf ps _ _ _ c1 hd hw hv hset
    obtain ⟨ps1', e1, hq1, hb1⟩ := ih.setitem n sf ps _ _ _ _ hd hw hq hv hpv hset
    cases e1
    obtain ⟨ps', hr, hd', hw', hq', hb'⟩ := ihl (fun c p r hp => hstep c p r (List.mem_cons_of_mem _ hp)) ps1 r hd1 hw1 hq1 h
    refine ⟨ps', hr, hd', hw', hq', ?_⟩
    intro j
    rw [hb' j, foldBits_cons, hb1 j, hval]
    congr 1
    simp only [Int.toNat_natCast, Nat.cast_le, Nat.cast_lt]

theorem setitem_sstep (n : Nat) (sf : Bool) (ps : List Part) (a b : Int) (v r : Expr) (hd : Disj n ps)
    (hw : ∀ p ∈ ps, WF p.2.2) (hq : ∀ p ∈ ps, Plain ag p.2.2) (hv : WF v) (hpv : Plain ag v)
    (h : setitem cfg (fuel + 1) (.comp n sf ps) a b v = .ok r) :
    ∃ ps', r = .comp n sf ps' ∧ (∀ p ∈ ps', Plain ag p.2.2) ∧
      ∀ j : Nat, tbit ρ ps' j = if a ≤ (j : Int) ∧ (j : Int) < b then (ideal ρ v).testBit (j - a.toNat) else tbit ρ ps j := by
  have wih := widthIH_all cfg fuel
  refine setitem_cases (P := fun res => res = .ok r → _) ?bad ?badSize ?flat ?part ?partErr h
  case bad => exact fun _ _ h => nomatch h
  case badSize => exact fun _ _ h => nomatch h
  case partErr => exact fun _ _ h => nomatch h
  case flat =>
    rintro vs vsf vparts rfl hcs hsz h
    obtain ⟨h0, hab, hbn⟩ := checkSlice_ok hcs
    obtain ⟨_, hvt, hvw⟩ := hv
    have hvw' := (WFParts_iff _).mp hvw
    have hvq := Plain_comp.mp hpv
    simp only [size_comp] at hsz
    obtain ⟨ps', hr, _, _, hq', hb'⟩ := setitem_foldSem ih n sf a.toNat
      (fun c p => setitem cfg fuel c ((a.toNat + p.1 : Nat) : Int) ((a.toNat + p.2.1 : Nat) : Int) p.2.2)
      (fun p => ideal ρ p.2.2) vparts
      (by intro c p r hp hs; exact ⟨p.2.2, hvw' p hp, hvq p hp, rfl, hs⟩) ps r hd hw hq h
    refine ⟨ps', hr, hq', ?_⟩
    intro j
    rw [hb' j, foldBits_cover _ _ vs j vparts _ hvt.disj]
    by_cases hj : a ≤ (j : Int) ∧ (j : Int) < b
    · have h1 : a.toNat ≤ j := by omega
      rw [if_pos h1, if_pos hj, ideal_comp_testBit hvt.disj]
      obtain ⟨⟨lo, hi, e⟩, hcv, _⟩ := exists_cover (b := j - a.toNat) (ps := vparts)
        (Nat.le_of_eq (hvt.2 (j - a.toNat) (by omega)).symm)
      unfold tbit
      rw [hcv]
    · rw [if_neg hj]
      by_cases h1 : a.toNat ≤ j
      · rw [if_pos h1, cover_none_of_cnt (cnt_zero_of_sized hvt.1 (by omega))]
      · rw [if_neg h1]
  case part =>
    intro ps' hcs hsz hsp h
    obtain ⟨h0, hab, hbn⟩ := checkSlice_ok hcs
    cases h
    have hb := setPart_sem ρ (WP ag) _ (giSpec_of_ih wih) (giSem_of_ih ih) n a.toNat b.toNat v ps ps' hd hw
      (fun p hp => ⟨hw p hp, hq p hp⟩) hv hsz (by omega) (by omega) hsp
    have hq' := setPart_pres (WP ag) _ (fun x a b r hx hg => gi_WP ih x a b r hx hg) a.toNat b.toNat v ps ps'
      ⟨hv, hpv⟩ (fun p hp => ⟨hw p hp, hq p hp⟩) hsp
    refine ⟨ps', rfl, fun p hp => (hq' p hp).2, ?_⟩
    intro j
    rw [hb j]
    have : (a.toNat ≤ j ∧ j < b.toNat) ↔ (a ≤ (j : Int) ∧ (j : Int) < b) := by omega
    simp only [this]

/-- the loop of `composer`: the value laid down so far is `V`, below `2^pos` -/
theorem composer_foldSem (s : Nat) (sf : Bool) :
    ∀ (L : List Expr) (ps : List Part) (pos : Nat) (c : Expr) (pos' V : Nat), Disj s ps → (∀ p ∈ ps, WF p.2.2) →
      (∀ p ∈ ps, Plain ag p.2.2) → (∀ x ∈ L, WF x) → (∀ x ∈ L, Plain ag x) → V < 2 ^ pos →
      (∀ j, tbit ρ ps j = V.testBit j) →
      L.foldlM (fun (st : Expr × Nat) (x : Expr) => do
          let c ← setitem cfg fuel st.1 (st.2 : Int) ((st.2 + x.size : Nat) : Int) x
          pure (c, st.2 + x.size)) (Expr.comp s sf ps, pos) = .ok (c, pos') →
      ∃ ps', c = .comp s sf ps' ∧ (∀ p ∈ ps', Plain ag p.2.2) ∧
        ∀ j, tbit ρ ps' j = (cat V pos (catVal ρ L)).testBit j := by
  intro L
  induction L with
  | nil =>
    intro ps pos c pos' V _ _ hq _ _ _ hb h
    simp only [List.foldlM_nil, pure, Except.pure] at h
    cases h
    refine ⟨ps, rfl, hq, ?_⟩
    intro j; rw [hb j]; simp [catVal, cat]
  | cons y tl ihl =>
    intro ps pos c pos' V hd hw hq hL hLq hV hb h
    rw [List.foldlM_cons] at h
    obtain ⟨st1, hst1, h⟩ := bind_ok h
    obtain ⟨c1, h1, e⟩ := bind_ok hst1
    cases e
    have hy := hL y List.mem_cons_self
    obtain ⟨ps1, rfl, hd1, hw1, _, _, _, _⟩ := (widthIH_all cfg fuel).setitem s sf ps _ _ _ c1 hd hw hy h1
    obtain ⟨ps1', e1, hq1, hb1⟩ := ih.setitem s sf ps _ _ _ _ hd hw hq hy (hLq y List.mem_cons_self) h1
    cases e1
    have hyl := ideal_lt ρ y hy
    have hb1' : ∀ j, tbit ρ ps1 j = (cat V pos (ideal ρ y)).testBit j := by
      intro j
      rw [hb1 j, testBit_cat _ _ _ _ hV, hb j]
      simp only [Int.toNat_natCast, Nat.cast_le, Nat.cast_lt]
      by_cases h1 : j < pos
      · rw [if_neg (by omega), if_pos h1]
      · rw [if_neg h1]
        by_cases h2 : j < pos + y.size
        · rw [if_pos ⟨by omega, h2⟩]
        · rw [if_neg (by omega), testBit_of_lt _ _ _ hV (by omega), testBit_of_lt _ _ _ hyl (by omega)]
    obtain ⟨ps', hr, hq', hb'⟩ := ihl ps1 (pos + y.size) c pos' (cat V pos (ideal ρ y)) hd1 hw1 hq1
      (fun x hx => hL x (List.mem_cons_of_mem _ hx)) (fun x hx => hLq x (List.mem_cons_of_mem _ hx))
      (cat_lt _ _ _ _ hV hyl) hb1' h
    refine ⟨ps', hr, hq', fun j => ?_⟩
    rw [hb' j, cat_assoc]
    rfl

theorem composer_sstep (parts : List Expr) (hp : ∀ x ∈ parts, WF x) (hq : ∀ x ∈ parts, Plain ag x) :
    SPost ag ρ (catVal ρ parts) (composer cfg (fuel + 1) parts) := by
  rw [composer.eq_def]; dsimp only
  split
  · exact SPost_error
  · rename_i x
    exact SPost_ok (hq x List.mem_cons_self) (by simp only [catVal]; exact (zext_value _ _).symm)
  · rename_i hne1 hne2
    apply SPost_bind; intro st hst
    obtain ⟨c, pos'⟩ := st
    obtain ⟨ps', rfl, hd', hw', hp', hc', hle'⟩ := composer_fold (widthIH_all cfg fuel) _ _ parts [] 0 c pos' (Disj_nil _)
      (fun _ h => nomatch h) hp (by intro x; simp [cnt]) (by simpa using hst)
    obtain ⟨ps'', e', hq', hb'⟩ := composer_foldSem ih _ _ parts [] 0 _ pos' 0 (Disj_nil _)
      (fun _ h => nomatch h) (fun _ h => nomatch h) hp hq (Nat.two_pow_pos 0) (fun j => (Nat.zero_testBit j).symm) (by simpa using hst)
    cases e'
    simp only [Nat.zero_add] at hp'
    have hpos := foldl_size_pos (fun h => hne1 h) hp
    refine SPost_of_eq (ih.simplify {} _ (WF_comp_of_cnt _ hpos hd' hw' fun x hx => by rw [hc' x, hp']; simp [hx])
      (Plain_comp.mpr hq') OptsOK_default) ?_
    apply Nat.eq_of_testBit_eq; intro j
    rw [ideal_comp_testBit hd', hb' j]
    simp [cat]

theorem extendExp_sstep (sign : Bool) (x : Expr) (size : Nat) (hx : WF x) (hq : Plain ag x) (hlt : x.size < size) :
    SPost ag ρ (extVal sign x.size size (ideal ρ x)) (extendExp cfg (fuel + 1) sign x size) := by
  rw [extendExp.eq_def]; dsimp only
  have hxp := WF_size_pos x hx
  rw [if_neg (by omega)]
  apply SPost_bind; intro sb hsb
  obtain ⟨hsw, hs, hsq, hv⟩ := ((widthIH_all cfg fuel).getitem x _ _ hx).and_sound (ih.getitem x _ _ hx hq) hsb
  have hs1 : sb.size = 1 := by rw [hs]; omega
  have hxt : 0 < size - x.size := by omega
  have hxl := ideal_lt ρ x hx
  have hfw : WF (extFill sign sb (size - x.size)) ∧ Plain ag (extFill sign sb (size - x.size)) := by
    unfold extFill
    split
    · exact ⟨⟨hxt, hsw, WF_mkCst _ _ hxt, WF_mkCst _ _ hxt, hs1, rfl, rfl⟩, hsq, Plain_cst, Plain_cst⟩
    · exact ⟨⟨hxt, Nat.two_pow_pos _⟩, Plain_cst⟩
  have := ih.composer [x, extFill sign sb (size - x.size)]
    (List.forall_mem_cons.mpr ⟨hx, List.forall_mem_cons.mpr ⟨hfw.1, fun _ h => nomatch h⟩⟩)
    (List.forall_mem_cons.mpr ⟨hq, List.forall_mem_cons.mpr ⟨hfw.2, fun _ h => nomatch h⟩⟩)
  refine SPost_of_eq this ?_
  simp only [catVal]
  rw [zext_value]
  unfold extVal extFill
  cases sign
  · simp only [Bool.false_eq_true, if_false, ideal]
    rw [Nat.zero_mod, zext_value]
  · -- the fill is the top bit of `x`, repeated
    have htop : ideal ρ sb = b2n ((ideal ρ x).testBit (x.size - 1)) := by
      rw [hv, ← bitsOf_one]
      congr 1; omega
    have e := sext_value (ideal ρ x) x.size (size - x.size) hxl
    rw [show x.size + (size - x.size) = size by omega] at e
    rw [← e]
    simp only [if_true, ideal, ideal_mkCst, wrap_neg_one, wrap_zero, htop]
    cases (ideal ρ x).testBit (x.size - 1) <;> rfl

end steps
end Amoco.Frag
