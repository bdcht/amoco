/-
  Amoco.Proofs.ExprTablePres — a property `Q` of the expressions in a part table is kept by `setPart`
  (assignment + cut) if slicing keeps it, and by `restruct` if every constant has it and it excludes
  undefined parts.  The value-soundness induction uses this with `Plain` and `WP`.
-/
import Amoco.Proofs.ExprSoundBase

namespace Amoco.Expr

variable (Q : Expr → Prop)

theorem cutLoop_pres (gi : Expr → Nat → Nat → R Expr) (hgi : ∀ x a b r, Q x → gi x a b = .ok r → Q r) (sta sto : Nat) :
    ∀ (todo ps ps' : List Part), (∀ p ∈ todo, Q p.2.2) → (∀ p ∈ ps, Q p.2.2) →
      cutLoop gi sta sto todo ps = .ok ps' → ∀ p ∈ ps', Q p.2.2 := by
  intro todo
  induction todo with
  | nil => intro ps ps' _ hp h; simp only [cutLoop] at h; cases h; exact hp
  | cons q tl ih =>
    intro ps ps' ht hp h
    obtain ⟨lo, hi, nv⟩ := q
    have hnv : Q nv := ht (lo, hi, nv) List.mem_cons_self
    obtain ⟨ps2, ps3, h2, h3, h⟩ := cutLoop_cons_ok h
    have piece : ∀ {a b c d : Nat} {x : Expr} {qs : List Part}, gi nv a b = .ok x → (∀ p ∈ qs, Q p.2.2) →
        ∀ p ∈ assignKey c d x qs, Q p.2.2 := by
      intro a b c d x qs hg hqs p hm
      rcases mem_assignKey hm with hm | rfl
      · exact hqs p hm
      · exact hgi _ _ _ _ hnv hg
    have hq2 : ∀ p ∈ ps2, Q p.2.2 := by
      rcases cutHead_ok h2 with ⟨_, hd, hg, rfl⟩ | ⟨_, rfl⟩
      · exact piece hg fun p hm => hp p (mem_popKey hm)
      · exact fun p hm => hp p (mem_popKey hm)
    have hq3 : ∀ p ∈ ps3, Q p.2.2 := by
      rcases cutTail_ok h3 with ⟨_, t, hg, rfl⟩ | ⟨_, rfl⟩
      · exact piece hg hq2
      · exact hq2
    exact ih ps3 ps' (fun p hm => ht p (List.mem_cons_of_mem _ hm)) hq3 h

theorem setPart_pres (gi : Expr → Nat → Nat → R Expr) (hgi : ∀ x a b r, Q x → gi x a b = .ok r → Q r)
    (sta sto : Nat) (v : Expr) (parts ps' : List Part) (hv : Q v) (hp : ∀ p ∈ parts, Q p.2.2)
    (h : setPart gi sta sto v parts = .ok ps') : ∀ p ∈ ps', Q p.2.2 := by
  unfold setPart at h
  split at h
  · cases h
    intro p hm
    rcases mem_assignKey hm with hm | rfl
    · exact hp p hm
    · exact hv
  · refine cutLoop_pres Q gi hgi sta sto _ _ ps' ?_ ?_ h
    · intro p hm; exact hp p (mem_overlapping hm).1
    · exact List.forall_mem_append.mpr ⟨hp, List.forall_mem_singleton.mpr hv⟩

theorem restructN_pres (hc : ∀ x s, Q (mkCst x s)) (hdef : ∀ e, Q e → e.isDef = true) (n : Nat) :
    ∀ (k : Nat) (ps : List Part), Disj n ps → (∀ p ∈ ps, WF p.2.2) → (∀ p ∈ ps, Q p.2.2) →
      ∀ p ∈ restructN k ps, Q p.2.2 := by
  intro k
  induction k with
  | zero => intro ps _ _ hq; exact hq
  | succ k ih =>
    intro ps hd hw hq
    simp only [restructN]
    cases hf : restructFind (sortParts ps) with
    | none => exact hq
    | some t =>
      obtain ⟨A, B, m⟩ := t
      obtain ⟨alo, ahi, a⟩ := A
      obtain ⟨blo, bhi, b⟩ := B
      simp only
      obtain ⟨hd3, hw3, _, hm3, _, hA, _⟩ := restruct_step n ps alo ahi blo bhi a b m hd hw hf
      apply ih _ hd3 hw3
      intro p hp
      rcases hm3 p hp with h | rfl
      · exact hq p h
      · rcases restructFind_cases _ _ _ _ hf with ⟨av, as_, fa, bv, bs, fb, _, _, hm⟩ | ⟨hu, _⟩
        · subst hm; exact hc _ _
        · have := hdef _ (hq _ hA)
          simp only at hu this
          rw [hu] at this; cases this

theorem restruct_pres (hc : ∀ x s, Q (mkCst x s)) (hdef : ∀ e, Q e → e.isDef = true) (n : Nat) (ps : List Part)
    (hd : Disj n ps) (hw : ∀ p ∈ ps, WF p.2.2) (hq : ∀ p ∈ ps, Q p.2.2) : ∀ p ∈ restruct ps, Q p.2.2 :=
  restructN_pres Q hc hdef n ps.length ps hd hw hq

end Amoco.Expr
