/-
  Amoco.Proofs.ExprTableSem — bit-level VALUE of a part table and how `parts[k] = v; cut`, `restruct` and the
  `__getitem__` loop act on it (the semantic counterpart of Amoco.Proofs.ExprComp).
-/
import Amoco.Proofs.ExprCompSem

namespace Amoco.Expr

open Amoco.Bits

def tbit (ρ : Val) (ps : List Part) (j : Nat) : Bool :=
  match cover j ps with
  | some (lo, _, e) => (ideal ρ e).testBit (j - lo)
  | none => false

theorem contrib_testBit (ρ : Val) (p : Part) (j : Nat) :
    (contrib ρ p).testBit j = (decide (p.1 ≤ j) && decide (j - p.1 < p.2.1 - p.1) && (ideal ρ p.2.2).testBit (j - p.1)) := by
  unfold contrib
  rw [Nat.testBit_shiftLeft, Nat.testBit_mod_two_pow]
  by_cases h : p.1 ≤ j <;> simp [h]

theorem cover_none_of_cnt {b : Nat} {ps : List Part} (h : cnt b ps = 0) : cover b ps = none := by
  cases hc : cover b ps with
  | none => rfl
  | some p =>
    obtain ⟨hm, h1, h2⟩ := cover_spec hc
    have := cnt_pos_of_mem hm (b := b) ⟨h1, h2⟩
    omega

theorem cover_eq_of_mem {n : Nat} {ps : List Part} (hd : Disj n ps) {p : Part} {j : Nat} (hm : p ∈ ps)
    (hc : p.1 ≤ j ∧ j < p.2.1) : cover j ps = some p := by
  obtain ⟨q, hcv, hq, h1, h2⟩ := exists_cover (cnt_pos_of_mem hm hc)
  rw [hcv, hd.unique hm hq hc ⟨h1, h2⟩]

theorem tbit_of_mem (ρ : Val) {n : Nat} {ps : List Part} (hd : Disj n ps) {p : Part} {j : Nat} (hm : p ∈ ps)
    (hc : p.1 ≤ j ∧ j < p.2.1) : tbit ρ ps j = (ideal ρ p.2.2).testBit (j - p.1) := by
  unfold tbit
  rw [cover_eq_of_mem hd hm hc]

theorem tbit_uncovered (ρ : Val) {ps : List Part} {j : Nat} (h : cnt j ps = 0) : tbit ρ ps j = false := by
  unfold tbit; rw [cover_none_of_cnt h]

theorem idealParts_testBit (ρ : Val) (n : Nat) : ∀ (ps : List Part), Disj n ps → ∀ j,
    (idealParts ρ ps).testBit j = tbit ρ ps j := by
  intro ps
  induction ps with
  | nil => intro _ j; simp [idealParts_nil, tbit, cover]
  | cons p tl ih =>
    intro hd j
    obtain ⟨lo, hi, e⟩ := p
    rw [idealParts_cons, Nat.testBit_or, contrib_testBit, ih hd.tail j]
    have hs := hd.1 (lo, hi, e) List.mem_cons_self
    simp only at hs
    by_cases hc : lo ≤ j ∧ j < hi
    · have hcnt := hd.cnt_le j
      rw [cnt_cons] at hcnt
      have : ind (lo, hi, e).1 (lo, hi, e).2.1 j = 1 := ind_pos hc
      rw [tbit_of_mem ρ hd List.mem_cons_self hc, tbit_uncovered ρ (by omega)]
      have : j - lo < hi - lo := by omega
      simp [hc.1, this]
    · have hcv : ¬ ((decide (lo ≤ j) && decide (j < hi)) = true) := by
        simp only [Bool.and_eq_true, decide_eq_true_eq]; exact hc
      unfold tbit
      simp only [cover, hcv]
      have : (decide (lo ≤ j) && decide (j - lo < hi - lo)) = false := by
        by_cases h1 : lo ≤ j
        · have : ¬ (j - lo < hi - lo) := by omega
          simp [h1, this]
        · simp [h1]
      simp [this]

theorem mem_assignKey_of_mem {lo hi : Nat} {v : Expr} {ps : List Part} {p : Part} (h : p ∈ ps)
    (hne : ¬ (p.1 = lo ∧ p.2.1 = hi)) : p ∈ assignKey lo hi v ps := by
  induction ps with
  | nil => cases h
  | cons q tl ih =>
    obtain ⟨a, b, x⟩ := q
    simp only [assignKey]
    split
    · rename_i hk
      simp only [Bool.and_eq_true, beq_iff_eq] at hk
      rcases List.mem_cons.mp h with rfl | h
      · exact absurd ⟨hk.1, hk.2⟩ hne
      · exact List.mem_cons_of_mem _ h
    · rcases List.mem_cons.mp h with rfl | h
      · exact List.mem_cons_self
      · exact List.mem_cons_of_mem _ (ih h)

theorem mem_assignKey_new (lo hi : Nat) (v : Expr) (ps : List Part) : (lo, hi, v) ∈ assignKey lo hi v ps := by
  induction ps with
  | nil => simp [assignKey]
  | cons q tl ih =>
    obtain ⟨a, b, x⟩ := q
    simp only [assignKey]
    split
    · rename_i hk
      simp only [Bool.and_eq_true, beq_iff_eq] at hk
      obtain ⟨rfl, rfl⟩ := hk
      exact List.mem_cons_self
    · exact List.mem_cons_of_mem _ ih

theorem mem_popKey_of_mem {lo hi : Nat} {ps : List Part} {p : Part} (h : p ∈ ps)
    (hne : ¬ (p.1 = lo ∧ p.2.1 = hi)) : p ∈ popKey lo hi ps := by
  rw [popKey_eq_eraseP]
  exact (List.mem_eraseP_of_neg fun hk => hne (isKey_iff.mp hk)).mpr h

def GiSem (ρ : Val) (Q : Expr → Prop) (gi : Expr → Nat → Nat → R Expr) : Prop :=
  ∀ x a b r, WF x → Q x → a < b → b ≤ x.size → gi x a b = .ok r → ideal ρ r = bitsOf (ideal ρ x) a (b - a)

theorem cutLoop_keeps (gi : Expr → Nat → Nat → R Expr) (sta sto : Nat) :
    ∀ (todo ps ps' : List Part) (p : Part), p ∈ ps →
      (∀ q ∈ todo, ¬ (p.1 = q.1 ∧ p.2.1 = q.2.1) ∧ ¬ (p.1 = q.1 ∧ p.2.1 = sta) ∧ ¬ (p.1 = sto ∧ p.2.1 = q.2.1)) →
      cutLoop gi sta sto todo ps = .ok ps' → p ∈ ps' := by
  intro todo
  induction todo with
  | nil => intro ps ps' p hp _ h; simp only [cutLoop] at h; cases h; exact hp
  | cons q tl ih =>
    obtain ⟨lo, hi, nv⟩ := q
    intro ps ps' p hp hk h
    obtain ⟨ps2, ps3, h2, h3, h⟩ := cutLoop_cons_ok h
    have hq := hk (lo, hi, nv) List.mem_cons_self
    simp only at hq
    have h1 : p ∈ popKey lo hi ps := mem_popKey_of_mem hp hq.1
    have m2 : p ∈ ps2 := by
      rcases cutHead_ok h2 with ⟨_, hd, _, rfl⟩ | ⟨_, rfl⟩
      · exact mem_assignKey_of_mem h1 hq.2.1
      · exact h1
    have m3 : p ∈ ps3 := by
      rcases cutTail_ok h3 with ⟨_, t, _, rfl⟩ | ⟨_, rfl⟩
      · exact mem_assignKey_of_mem m2 hq.2.2
      · exact m2
    exact ih ps3 ps' p m3 (fun q' hq' => hk q' (List.mem_cons_of_mem _ hq')) h

theorem cutLoop_pieces (gi : Expr → Nat → Nat → R Expr) (sta sto : Nat) :
    ∀ (todo ps ps' : List Part), todo.Pairwise (fun p q => p.2.1 ≤ q.1) →
      (∀ p ∈ todo, p.1 < p.2.1 ∧ p.1 < sto ∧ sta < p.2.1) → sta < sto →
      cutLoop gi sta sto todo ps = .ok ps' →
      ∀ q ∈ todo, (q.1 < sta → ∃ h, gi q.2.2 0 (sta - q.1) = .ok h ∧ (q.1, sta, h) ∈ ps') ∧
                  (q.2.1 > sto → ∃ t, gi q.2.2 (sto - q.1) (q.2.1 - q.1) = .ok t ∧ (sto, q.2.1, t) ∈ ps') := by
  intro todo
  induction todo with
  | nil => intro ps ps' _ _ _ _ q hq; cases hq
  | cons q0 tl ih =>
    obtain ⟨lo, hi, nv⟩ := q0
    intro ps ps' hpw hne hr h q hq
    obtain ⟨ps2, ps3, h2, h3, h⟩ := cutLoop_cons_ok h
    have hpw' := List.pairwise_cons.mp hpw
    rcases List.mem_cons.mp hq with rfl | hq
    · -- the pieces of the head element survive the rest of the loop
      have hlt := hne (lo, hi, nv) List.mem_cons_self
      simp only at hlt
      have keep : ∀ p, p ∈ ps3 → (p.1 = lo ∧ p.2.1 = sta) ∨ (p.1 = sto ∧ p.2.1 = hi) → p ∈ ps' := by
        intro p hp hkey
        refine cutLoop_keeps gi sta sto tl ps3 ps' p hp ?_ h
        intro q' hq'
        have hord := hpw'.1 q' hq'
        have hq'lt := hne q' (List.mem_cons_of_mem _ hq')
        simp only at hord
        rcases hkey with ⟨e1, e2⟩ | ⟨e1, e2⟩
        · refine ⟨?_, ?_, ?_⟩ <;> omega
        · refine ⟨?_, ?_, ?_⟩ <;> omega
      constructor
      · intro hl
        simp only at hl
        rcases cutHead_ok h2 with ⟨_, hd, hg, rfl⟩ | ⟨hn, _⟩
        · refine ⟨hd, hg, keep _ ?_ (Or.inl ⟨rfl, rfl⟩)⟩
          have m2 : (lo, sta, hd) ∈ assignKey lo sta hd (popKey lo hi ps) := mem_assignKey_new _ _ _ _
          rcases cutTail_ok h3 with ⟨_, t, _, rfl⟩ | ⟨_, rfl⟩
          · exact mem_assignKey_of_mem m2 (by simp only; omega)
          · exact m2
        · exact absurd hl hn
      · intro hl
        simp only at hl
        rcases cutTail_ok h3 with ⟨_, t, hg, rfl⟩ | ⟨hn, _⟩
        · exact ⟨t, hg, keep _ (mem_assignKey_new _ _ _ _) (Or.inr ⟨rfl, rfl⟩)⟩
        · exact absurd hl hn
    · exact ih ps3 ps' hpw'.2 (fun p hp => hne p (List.mem_cons_of_mem _ hp)) hr h q hq

theorem setPart_sem (ρ : Val) (Q : Expr → Prop) (gi : Expr → Nat → Nat → R Expr) (hgi : GiSpec gi) (hgs : GiSem ρ Q gi)
    (n sta sto : Nat) (v : Expr) (parts ps' : List Part) (hd : Disj n parts) (hw : ∀ p ∈ parts, WF p.2.2)
    (hq : ∀ p ∈ parts, Q p.2.2) (hv : WF v)
    (hvs : v.size = sto - sta) (hr : sta < sto) (hn : sto ≤ n)
    (h : setPart gi sta sto v parts = .ok ps') :
    ∀ j, tbit ρ ps' j = if sta ≤ j ∧ j < sto then (ideal ρ v).testBit (j - sta) else tbit ρ parts j := by
  obtain ⟨hd', _, hc'⟩ := setPart_spec gi hgi n sta sto v parts ps' hd hw hv hvs hr hn h
  intro j
  unfold setPart at h
  have hnew : (sta, sto, v) ∈ ps' := by
    cases hf : findKey sta sto parts with
    | some e => rw [hf] at h; cases h; exact mem_assignKey_new _ _ _ _
    | none =>
      rw [hf] at h
      simp only at h
      refine cutLoop_keeps gi sta sto _ _ ps' (sta, sto, v) (List.mem_append_right _ List.mem_cons_self) ?_ h
      intro q hq
      obtain ⟨hm, h1, h2⟩ := mem_overlapping hq
      have hnk := findKey_none hf q hm
      simp only
      refine ⟨fun hh => hnk ⟨hh.1.symm, hh.2.symm⟩, by omega, by omega⟩
  by_cases hj : sta ≤ j ∧ j < sto
  · rw [if_pos hj]
    exact tbit_of_mem ρ hd' hnew hj
  · rw [if_neg hj]
    by_cases h0 : cnt j parts = 0
    · have : cnt j ps' = 0 := by rw [hc' j, if_neg hj]; exact h0
      rw [tbit_uncovered ρ this, tbit_uncovered ρ h0]
    · -- the old cover of j
      obtain ⟨⟨lo, hi, nv⟩, _, hqm, hq1, hq2⟩ := exists_cover (b := j) (ps := parts) (by omega)
      simp only at hq1 hq2
      have hqs := hd.1 _ hqm
      simp only at hqs
      rw [tbit_of_mem ρ hd hqm ⟨hq1, hq2⟩]
      simp only
      cases hf : findKey sta sto parts with
      | some e =>
        rw [hf] at h; cases h
        have : (lo, hi, nv) ∈ assignKey sta sto v parts := mem_assignKey_of_mem hqm (by simp only; omega)
        exact tbit_of_mem ρ hd' this ⟨hq1, hq2⟩
      | none =>
        rw [hf] at h
        simp only at h
        by_cases hov : lo < sto ∧ sta < hi
        · -- overlapping part: j lies in its head or tail piece
          have hqo : (lo, hi, nv) ∈ overlapping sta sto parts := by
            unfold overlapping
            apply (perm_sortParts _).symm.subset
            apply List.mem_filter.mpr
            exact ⟨hqm, by simp [hov]⟩
          have hall : ∀ p ∈ overlapping sta sto parts, p.1 < p.2.1 ∧ p.1 < sto ∧ sta < p.2.1 := by
            intro p hp
            obtain ⟨hm, h1, h2⟩ := mem_overlapping hp
            exact ⟨(hd.1 p hm).1, h1, h2⟩
          obtain ⟨hhead, htail⟩ := cutLoop_pieces gi sta sto _ _ ps' (overlapping_pairwise hd) hall hr h _ hqo
          simp only at hhead htail
          by_cases hjl : j < sta
          · obtain ⟨hdp, hg, hmem⟩ := hhead (by omega)
            rw [tbit_of_mem ρ hd' hmem ⟨hq1, hjl⟩]
            simp only
            rw [hgs nv 0 (sta - lo) hdp (hw _ hqm) (hq _ hqm) (by omega) (by omega) hg, testBit_bitsOf]
            have : j - lo < sta - lo := by omega
            simp [this]
          · have hjs : sto ≤ j := by omega
            obtain ⟨tp, hg, hmem⟩ := htail (by omega)
            rw [tbit_of_mem ρ hd' hmem ⟨hjs, hq2⟩]
            simp only
            rw [hgs nv (sto - lo) (hi - lo) tp (hw _ hqm) (hq _ hqm) (by omega) (by omega) hg, testBit_bitsOf]
            have h1 : j - sto < hi - lo - (sto - lo) := by omega
            have h2 : sto - lo + (j - sto) = j - lo := by omega
            simp [h1, h2]
        · -- untouched part
          have hkeep : (lo, hi, nv) ∈ ps' := by
            refine cutLoop_keeps gi sta sto _ _ ps' (lo, hi, nv) (List.mem_append_left _ hqm) ?_ h
            intro q' hq'
            obtain ⟨hm', h1', h2'⟩ := mem_overlapping hq'
            have hqs' := hd.1 q' hm'
            -- a listed part sharing a bit with this one would be this one (disjoint table), which does not overlap
            have hne : ∀ b, lo ≤ b ∧ b < hi → q'.1 ≤ b ∧ b < q'.2.1 → False := by
              intro b hb hb'
              have := hd.unique hqm hm' hb hb'
              subst this
              exact hov ⟨h1', h2'⟩
            simp only
            exact ⟨fun hh => hne lo ⟨Nat.le_refl _, hqs.1⟩ ⟨by omega, by omega⟩,
              fun hh => hne lo ⟨Nat.le_refl _, hqs.1⟩ ⟨by omega, by omega⟩,
              fun hh => hne (hi - 1) ⟨by omega, by omega⟩ ⟨by omega, by omega⟩⟩
          exact tbit_of_mem ρ hd' hkeep ⟨hq1, hq2⟩

theorem restructFind_cases (l : List Part) (A B : Part) (m : Expr) (h : restructFind l = some (A, B, m)) :
    (∃ av as_ fa bv bs fb, A.2.2 = cst av as_ fa ∧ B.2.2 = cst bv bs fb ∧
        m = mkCst (((bv <<< as_) ||| av : Nat) : Int) (as_ + bs)) ∨
    (A.2.2.isDef = false ∧ B.2.2.isDef = false) := by
  induction l with
  | nil => simp [restructFind] at h
  | cons p rest ih =>
    obtain ⟨alo, ahi, a⟩ := p
    cases rest with
    | nil => simp [restructFind] at h
    | cons q tl =>
      obtain ⟨blo, bhi, b⟩ := q
      simp only [restructFind] at h
      split at h
      · split at h
        · rename_i av as_ fa bv bs fb
          cases h
          exact Or.inl ⟨av, as_, fa, bv, bs, fb, rfl, rfl, rfl⟩
        · split at h
          · rename_i hc
            cases h
            simp only [Bool.and_eq_true, Bool.not_eq_true'] at hc
            exact Or.inr hc
          · exact ih h
      · exact ih h

theorem restructN_sem (ρ : Val) (n : Nat) : ∀ (k : Nat) (ps : List Part), Disj n ps → (∀ p ∈ ps, WF p.2.2) →
    (∀ p ∈ ps, p.2.2.isDef = true) →
    (∀ j, tbit ρ (restructN k ps) j = tbit ρ ps j) ∧ (∀ p ∈ restructN k ps, p.2.2.isDef = true) := by
  intro k
  induction k with
  | zero => intro ps _ _ hdef; exact ⟨fun _ => rfl, hdef⟩
  | succ k ih =>
    intro ps hd hw hdef
    simp only [restructN]
    cases hf : restructFind (sortParts ps) with
    | none => exact ⟨fun _ => rfl, hdef⟩
    | some t =>
      obtain ⟨A, B, m⟩ := t
      obtain ⟨alo, ahi, a⟩ := A
      obtain ⟨blo, bhi, b⟩ := B
      simp only
      obtain ⟨hd3, hw3, hc3, hm3, _, hA, hB, hadj, hlt1, hlt2⟩ :=
        restruct_step n ps alo ahi blo bhi a b m hd hw hf
      subst hadj
      have hM : (alo, bhi, m) ∈ popKey ahi bhi (popKey alo ahi (assignKey alo bhi m ps)) := by
        apply mem_popKey_of_mem _ (by simp only; omega)
        apply mem_popKey_of_mem _ (by simp only; omega)
        exact mem_assignKey_new _ _ _ _
      have hkeep : ∀ q ∈ ps, ∀ j, q.1 ≤ j → j < q.2.1 → ¬ (alo ≤ j ∧ j < bhi) →
          q ∈ popKey ahi bhi (popKey alo ahi (assignKey alo bhi m ps)) := fun q hqm j hq1 hq2 hj =>
        mem_popKey_of_mem (mem_popKey_of_mem (mem_assignKey_of_mem hqm (by omega)) (by omega)) (by omega)
      generalize popKey ahi bhi (popKey alo ahi (assignKey alo bhi m ps)) = ps3 at *
      rcases restructFind_cases _ _ _ _ hf with ⟨av, as_, fa, bv, bs, fb, ha, hb, hm⟩ | ⟨hu, _⟩
      · simp only at ha hb
        subst ha hb hm
        have sA := hd.1 _ hA
        have sB := hd.1 _ hB
        have wA := hw _ hA
        have wB := hw _ hB
        simp only [size_cst, WF] at sA sB wA wB
        have hdef3 : ∀ p ∈ ps3, p.2.2.isDef = true := by
          intro p hp
          rcases hm3 p hp with h | rfl
          · exact hdef p h
          · rfl
        obtain ⟨r1, r2⟩ := ih _ hd3 hw3 hdef3
        refine ⟨fun j => ?_, r2⟩
        rw [r1 j]
        by_cases hj : alo ≤ j ∧ j < bhi
        · rw [tbit_of_mem ρ hd3 hM hj]
          simp only [ideal, mkCst_v]
          have hcat : ((bv <<< as_) ||| av) = cat av as_ bv := rfl
          rw [hcat, wrap_of_nat, Nat.mod_eq_of_lt (cat_lt av as_ bv bs wA.2 wB.2),
            Nat.mod_eq_of_lt (cat_lt av as_ bv bs wA.2 wB.2), testBit_cat _ _ _ _ wA.2]
          by_cases hj2 : j < ahi
          · have : j - alo < as_ := by omega
            rw [if_pos this, tbit_of_mem ρ hd hA ⟨hj.1, hj2⟩]
            simp only [ideal, Nat.mod_eq_of_lt wA.2]
          · have : ¬ (j - alo < as_) := by omega
            rw [if_neg this, tbit_of_mem ρ hd hB ⟨by omega, hj.2⟩]
            simp only [ideal, Nat.mod_eq_of_lt wB.2]
            congr 1; omega
        · by_cases h0 : cnt j ps = 0
          · have : cnt j ps3 = 0 := by rw [hc3 j]; exact h0
            rw [tbit_uncovered ρ this, tbit_uncovered ρ h0]
          · obtain ⟨q, _, hqm, hq1, hq2⟩ := exists_cover (b := j) (ps := ps) (by omega)
            rw [tbit_of_mem ρ hd hqm ⟨hq1, hq2⟩]
            exact tbit_of_mem ρ hd3 (hkeep q hqm j hq1 hq2 hj) ⟨hq1, hq2⟩
      · simp only at hu
        have := hdef _ hA
        simp only at this
        rw [hu] at this
        cases this

theorem restruct_sem (ρ : Val) (n : Nat) (ps : List Part) (hd : Disj n ps) (hw : ∀ p ∈ ps, WF p.2.2)
    (hdef : ∀ p ∈ ps, p.2.2.isDef = true) :
    (∀ j, tbit ρ (restruct ps) j = tbit ρ ps j) ∧ (∀ p ∈ restruct ps, p.2.2.isDef = true) :=
  restructN_sem ρ n ps.length ps hd hw hdef

theorem restruct_allcst (ρ : Val) (n : Nat) : ∀ (k : Nat) (ps : List Part), ps.length = k + 1 → Tiles n ps →
    (∀ p ∈ ps, WF p.2.2) → AllCst ps → 0 < n →
    ∃ v f, restructN (k + 1) ps = [(0, n, cst v n f)] ∧ v < 2 ^ n ∧ v = idealParts ρ ps := by
  intro k ps hl ht hw hc hn
  obtain ⟨v, f, hr, hv⟩ := restructN_allcst n k ps hl ht hw hc hn
  refine ⟨v, f, hr, hv, ?_⟩
  have hdef : ∀ p ∈ ps, p.2.2.isDef = true := by
    intro p hp
    have := hc p hp
    cases hq : p.2.2 with
    | cst => rfl
    | _ => simp [hq, isCst] at this
  have hd' := (restructN_spec n (k + 1) ps ht.disj hw).1
  have hsem := (restructN_sem ρ n (k + 1) ps ht.disj hw hdef).1
  rw [hr] at hd' hsem
  apply Nat.eq_of_testBit_eq
  intro j
  rw [idealParts_testBit ρ n ps ht.disj, ← hsem j, ← idealParts_testBit ρ n _ hd']
  show v.testBit j = ((v % 2 ^ n % 2 ^ (n - 0)) <<< 0 ||| 0).testBit j
  rw [Nat.or_zero, Nat.shiftLeft_zero, Nat.sub_zero, Nat.mod_mod, Nat.mod_eq_of_lt hv]

def SiSem (ρ : Val) (Q : Expr → Prop) (si : Expr → Nat → Nat → Expr → R Expr) : Prop :=
  ∀ n sf ps a b v r, Disj n ps → (∀ p ∈ ps, WF p.2.2) → (∀ p ∈ ps, Q p.2.2) → WF v → Q v →
    si (.comp n sf ps) a b v = .ok r →
    ∃ ps', r = .comp n sf ps' ∧ (∀ p ∈ ps', Q p.2.2) ∧
      ∀ j, tbit ρ ps' j = if a ≤ j ∧ j < b then (ideal ρ v).testBit (j - a) else tbit ρ ps j

theorem compGetLoop_sem (ρ : Val) (Q : Expr → Prop) (gi : Expr → Nat → Nat → R Expr) (si : Expr → Nat → Nat → Expr → R Expr)
    (hgi : GiSpec gi) (hsi : SiSpec si) (hgs : GiSem ρ Q gi) (hss : SiSem ρ Q si)
    (hgq : ∀ x a b r, WF x → Q x → gi x a b = .ok r → Q r) (size : Nat) (parts : List Part)
    (ht : Tiles size parts) (hw : ∀ p ∈ parts, WF p.2.2) (hq : ∀ p ∈ parts, Q p.2.2) (stop l sta : Nat)
    (hstop : stop = sta + l) (hle : stop ≤ size) (sf : Bool) :
    ∀ (k b : Nat) (rps : List Part) (res : Expr), l - b ≤ k → b ≤ l → Disj l rps → (∀ p ∈ rps, WF p.2.2) →
      (∀ p ∈ rps, Q p.2.2) →
      (∀ x, cnt x rps = if x < b then 1 else 0) →
      (∀ x, x < b → tbit ρ rps x = tbit ρ parts (sta + x)) →
      compGetLoop gi si parts stop l k b (sta + b) (.comp l sf rps) = .ok res →
      ∃ rps', res = .comp l sf rps' ∧ Tiles l rps' ∧ (∀ p ∈ rps', Q p.2.2) ∧
        ∀ x, x < l → tbit ρ rps' x = tbit ρ parts (sta + x) := by
  intro k b rps res hk hb hd hwr hqr hc hv h
  obtain ⟨rps', e, ht', _, hq', hv'⟩ := compGetLoop_inv gi si hgi hsi size parts ht hw stop l sta hstop hle sf
    (fun b rps => (∀ p ∈ rps, Q p.2.2) ∧ ∀ x, x < b → tbit ρ rps x = tbit ρ parts (sta + x))
    (by
      -- one step: the piece carries the bits of the covering part, `si` lays them down at `[b, b + d)`
      rintro b rps lo hi s piece rps1 hbl hd hwr hm h1 h2 hg hsv ⟨hqr, hv⟩
      have hs := ht.1 _ hm
      simp only at hs
      have hp := hgi s _ _ piece (hw _ hm) (by omega) (by omega) hg
      have hpv := hgs s _ _ piece (hw _ hm) (hq _ hm) (by omega) (by omega) hg
      have hpq := hgq s _ _ piece (hw _ hm) (hq _ hm) hg
      obtain ⟨rps1', e1', hq1, hb1⟩ := hss l sf rps _ _ piece _ hd hwr hqr hp.1 hpq hsv
      cases e1'
      refine ⟨hq1, ?_⟩
      intro x hx
      rw [hb1 x]
      by_cases hxb : b ≤ x ∧ x < b + (min hi stop - lo - (sta + b - lo))
      · rw [if_pos hxb, hpv, testBit_bitsOf]
        have hcx : lo ≤ sta + x ∧ sta + x < hi := by omega
        rw [tbit_of_mem ρ ht.disj hm hcx]
        have h3 : x - b < min hi stop - lo - (sta + b - lo) := by omega
        have h4 : sta + b - lo + (x - b) = sta + x - lo := by omega
        simp [h3, h4]
      · rw [if_neg hxb]
        exact hv x (by omega))
    k b rps res hk hb hd hwr hc ⟨hqr, hv⟩ h
  exact ⟨rps', e, ht', hq', hv'⟩

end Amoco.Expr
