/-
  Amoco.Proofs.ExprWidth — every function of the rewrite system returns a well-formed expression of the
  width its construction dictates (C12), by induction on the fuel over the whole mutual block.
-/
import Amoco.Proofs.ExprComp

namespace Amoco

open Expr

/-! ### Postconditions on the three kinds of result -/

def Post (s : Nat) (r : R Expr) : Prop := ∀ e, r = .ok e → WF e ∧ e.size = s

theorem Post_error (s : Nat) (k : Err) : Post s (.error k) := by intro e h; cases h

theorem Post_ok {s : Nat} {e : Expr} (h1 : WF e) (h2 : e.size = s) : Post s (.ok e) := by
  intro e' h; cases h; exact ⟨h1, h2⟩

theorem Post_bind {α : Type} {s : Nat} (x : R α) (f : α → R Expr) (h : ∀ a, x = .ok a → Post s (f a)) :
    Post s (x >>= f) := by
  intro e he
  obtain ⟨a, ha, hf⟩ := Expr.bind_ok he
  exact h a ha e hf

theorem Post_of_eq {s t : Nat} {r : R Expr} (h : Post s r) (e : s = t) : Post t r := e ▸ h

def PostO (s : Nat) (r : R (Option Expr)) : Prop := ∀ e, r = .ok (some e) → WF e ∧ e.size = s

theorem PostO_error (s : Nat) (k : Err) : PostO s (.error k) := by intro e h; cases h
theorem PostO_none (s : Nat) : PostO s (pure none) := by intro e h; cases h
theorem PostO_some {s : Nat} {e : Expr} (h1 : WF e) (h2 : e.size = s) : PostO s (pure (some e)) := by
  intro e' h; cases h; exact ⟨h1, h2⟩
theorem PostO_bind {α : Type} {s : Nat} (x : R α) (f : α → R (Option Expr)) (h : ∀ a, x = .ok a → PostO s (f a)) :
    PostO s (x >>= f) := by
  intro e he
  obtain ⟨a, ha, hf⟩ := Expr.bind_ok he
  exact h a ha e hf

def PostT (P : Op × Expr × Expr → Prop) (x : R (Op × Expr × Expr)) : Prop := ∀ t, x = .ok t → P t

theorem PostT_pure {P : Op × Expr × Expr → Prop} {t : Op × Expr × Expr} (h : P t) : PostT P (pure t) := by
  intro t' ht; cases ht; exact h
theorem PostT_bind {α : Type} {P : Op × Expr × Expr → Prop} (x : R α) (f : α → R (Op × Expr × Expr))
    (h : ∀ a, x = .ok a → PostT P (f a)) : PostT P (x >>= f) := by
  intro t ht
  obtain ⟨a, ha, hf⟩ := Expr.bind_ok ht
  exact h a ha t hf

namespace Expr

/-! ### Width and well-formedness of the constructors -/

@[simp] theorem size_cst (v s : Nat) (f : Bool) : (cst v s f).size = s := rfl
@[simp] theorem size_reg (n : String) (s : Nat) (f : Bool) : (reg n s f).size = s := rfl
@[simp] theorem size_ext (n : String) (s : Nat) (f : Bool) : (ext n s f).size = s := rfl
@[simp] theorem size_slc (x : Expr) (p s : Nat) (f : Bool) (r : Option String) (k : Nat) : (slc x p s f r k).size = s := rfl
@[simp] theorem size_comp (s : Nat) (f : Bool) (ps : List Part) : (comp s f ps).size = s := rfl
@[simp] theorem size_tst (t l r : Expr) (s : Nat) (f : Bool) : (tst t l r s f).size = s := rfl
@[simp] theorem size_op (o : Op) (l r : Expr) (s : Nat) (f : Bool) (p : Nat) : (op o l r s f p).size = s := rfl
@[simp] theorem size_uop (o : Op) (r : Expr) (s : Nat) (f : Bool) (p : Nat) : (uop o r s f p).size = s := rfl
@[simp] theorem size_vec (l : List Expr) (s : Nat) (f : Bool) : (vec l s f).size = s := rfl
@[simp] theorem size_vecw (l : List Expr) (s : Nat) (f : Bool) : (vecw l s f).size = s := rfl
@[simp] theorem size_top (s : Nat) (f : Bool) : (top s f).size = s := rfl
@[simp] theorem size_mkTop (s : Nat) : (mkTop s).size = s := rfl
@[simp] theorem size_mkCst' (x : Int) (s : Nat) : (mkCst x s).size = s := rfl
@[simp] theorem size_bit0 : bit0.size = 1 := rfl
@[simp] theorem size_bit1 : bit1.size = 1 := rfl

theorem WF_setSf (f : Bool) (e : Expr) : WF (e.setSf f) ↔ WF e := by
  cases e <;> simp only [setSf, WF]

theorem WF_bit0 : WF bit0 := by simp [bit0, WF]
theorem WF_bit1 : WF bit1 := by simp [bit1, WF]
theorem WF_ofBool (b : Bool) : WF (ofBool b) := by cases b <;> simp [ofBool, WF]
theorem size_ofBool (b : Bool) : (ofBool b).size = 1 := rfl
theorem WF_mkTop {n : Nat} (h : 0 < n) : WF (mkTop n) := by simp [mkTop, WF, h]

theorem WF_mkCst' (x : Int) (s : Nat) (hs : 0 < s) : WF (mkCst x s) := WF_mkCst x s hs

theorem WF_size_pos (e : Expr) (h : WF e) : 0 < e.size := by
  cases e <;> simp only [WF] at h <;> first | exact h.1 | exact h | exact h.2.1

/-! ### Lists of one width, `vec` -/

theorem WFList_iff (l : List Expr) (s : Nat) : WFList l s ↔ ∀ x ∈ l, WF x ∧ x.size = s := by
  induction l with
  | nil => simp [WFList]
  | cons x tl ih => simp only [WFList, ih, List.mem_cons, forall_eq_or_imp, and_assoc]

theorem mapM_spec {α β : Type} (f : α → R β) (P : α → Prop) (Q : β → Prop)
    (hf : ∀ a b, P a → f a = .ok b → Q b) :
    ∀ (l : List α) (l' : List β), (∀ a ∈ l, P a) → l.mapM f = .ok l' → (∀ b ∈ l', Q b) ∧ l'.length = l.length := by
  intro l
  induction l with
  | nil => intro l' _ h; simp [List.mapM_nil, pure, Except.pure] at h; subst h; simp
  | cons x tl ih =>
    intro l' hP h
    rw [List.mapM_cons] at h
    obtain ⟨y, hx, h⟩ := bind_ok h
    obtain ⟨ys, ht, h⟩ := bind_ok h
    cases h
    obtain ⟨hPx, hPtl⟩ := List.forall_mem_cons.mp hP
    obtain ⟨h1, h2⟩ := ih ys hPtl ht
    exact ⟨List.forall_mem_cons.mpr ⟨hf x _ hPx hx, h1⟩, by simp [h2]⟩

theorem foldl_max_eq (l : List Expr) (s m : Nat) (h : ∀ x ∈ l, x.size = s) (hm : m ≤ s) (hne : l ≠ []) :
    l.foldl (fun m e => max m e.size) m = s := by
  induction l generalizing m with
  | nil => exact absurd rfl hne
  | cons x tl ih =>
    simp only [List.foldl_cons]
    have hx := h x List.mem_cons_self
    by_cases ht : tl = []
    · subst ht; simp only [List.foldl_nil]; omega
    · exact ih (max m x.size) (fun y hy => h y (List.mem_cons_of_mem _ hy)) (by omega) ht

theorem mkVec_spec (l : List Expr) (s : Nat) (v : Expr) (hs : 0 < s) (hne : l ≠ [])
    (h : ∀ x ∈ l, WF x ∧ x.size = s) (hv : mkVec l = .ok v) : WF v ∧ v.size = s := by
  unfold mkVec at hv
  have hsz : l.foldl (fun m e => max m e.size) 0 = s := foldl_max_eq l s 0 (fun x hx => (h x hx).2) (by omega) hne
  simp only [hsz] at hv
  split at hv
  · cases hv
  · cases hv
    simp only [WF, size_vec]
    exact ⟨⟨hs, hne, (WFList_iff l s).mpr h⟩, trivial⟩

theorem mapM_mkVec_spec (f : Expr → R Expr) (l l' : List Expr) (s t : Nat) (v : Expr) (ht : 0 < t) (hne : l ≠ [])
    (hl : WFList l s) (hf : ∀ y r, WF y ∧ y.size = s → f y = .ok r → WF r ∧ r.size = t)
    (hl' : l.mapM f = .ok l') (hv : mkVec l' = .ok v) : WF v ∧ v.size = t := by
  have := mapM_spec f (fun y => WF y ∧ y.size = s) (fun y => WF y ∧ y.size = t) hf l l' ((WFList_iff l s).mp hl) hl'
  exact mkVec_spec l' t v ht
    (by intro h; have h2 := this.2; rw [h] at h2; exact hne (List.length_eq_zero_iff.mp h2.symm)) this.1 hv

/-! ### Operator nodes -/

/-- the width an operator node is given by its constructor -/
def resSize (o : Op) (l : Expr) : Nat := if o.type = 4 then 1 else if o = Op.mul2 then 2 * l.size else l.size

theorem resSize_setSf (o : Op) (l : Expr) (f : Bool) : resSize o (l.setSf f) = resSize o l := by
  unfold resSize; rw [size_setSf]

theorem type_cases (o : Op) : o.type = 1 ∨ o.type = 2 ∨ o.type = 4 ∨ o.type = 8 := by
  cases o <;> simp [Op.type]

theorem WF_op_iff (o : Op) (l r : Expr) (s : Nat) (f : Bool) (p : Nat) :
    WF (op o l r s f p) ↔ (0 < s ∧ o.type ≤ p ∧ WF l ∧ WF r ∧ s = resSize o l ∧ (o.type ≠ 8 → l.size = r.size)) := by
  simp only [WF, resSize]
  refine and_congr_right fun _ => and_congr_right fun _ => and_congr_right fun _ => and_congr_right fun _ => ?_
  have hm : o.type ≠ 1 → o ≠ Op.mul2 := by rintro h rfl; exact h rfl
  rcases type_cases o with ht | ht | ht | ht
  · simp [ht, and_comm]
  · simp [ht, and_comm, hm (by omega)]
  · simp [ht]
  · simp [ht, hm (by omega)]

theorem mkOp_spec (o : Op) (l r e : Expr) (hl : WF l) (hr : WF r) (h4 : o.type = 4 → l.size = r.size)
    (h : mkOp o l r = .ok e) : WF e ∧ e.size = resSize o l := by
  unfold mkOp at h
  by_cases hc : (decide (o.type < 4) && l.size != r.size) = true
  · simp only [hc, if_true] at h; cases h
  · simp only [hc] at h
    simp only [Bool.and_eq_true, decide_eq_true_eq, bne_iff_ne, ne_eq, not_and, Decidable.not_not] at hc
    cases h
    have hs : (if (o.type == 4) = true then 1 else if (o == Op.mul2) = true then 2 * l.size else l.size) = resSize o l := by
      simp [resSize]
    rw [hs]
    refine ⟨(WF_op_iff ..).mpr ⟨?_, Nat.le_trans Nat.left_le_or Nat.left_le_or, hl, hr, rfl, fun h8 => ?_⟩, rfl⟩
    · have := WF_size_pos l hl
      unfold resSize; split_ifs <;> omega
    · rcases type_cases o with ht | ht | ht | ht
      · exact hc (by omega)
      · exact hc (by omega)
      · exact h4 ht
      · exact absurd ht h8

theorem resSize_congr (o : Op) {l l' : Expr} (h : l'.size = l.size) : resSize o l' = resSize o l := by
  unfold resSize; rw [h]

theorem WF_op_congr {o : Op} {l r l' r' : Expr} {s : Nat} {f : Bool} {p : Nat} (h : WF (op o l r s f p))
    (hl : WF l') (hr : WF r') (el : l'.size = l.size) (er : r'.size = r.size) : WF (op o l' r' s f p) := by
  obtain ⟨a, b, _, _, e, g⟩ := (WF_op_iff ..).mp h
  exact (WF_op_iff ..).mpr ⟨a, b, hl, hr, by rw [resSize_congr o el]; exact e, fun h8 => by rw [el, er]; exact g h8⟩

theorem WF_op_swap {o : Op} {l r : Expr} {s : Nat} {f : Bool} {p : Nat} (h8 : o.type ≠ 8) (h : WF (op o l r s f p)) :
    WF (op o r l s f p) := by
  obtain ⟨a, b, c, d, e, g⟩ := (WF_op_iff ..).mp h
  exact (WF_op_iff ..).mpr ⟨a, b, d, c, by rw [resSize_congr o (g h8).symm]; exact e, fun _ => (g h8).symm⟩

theorem cstApi_post (o : Op) (lv ls : Nat) (lf : Bool) (rv rs : Nat) (rf : Bool) (hs : 0 < ls) :
    Post (resSize o (cst lv ls lf)) (cstApi o lv ls lf rv rs rf) := by
  intro e h
  unfold cstApi at h
  -- every row of the table is a constant of the left width (twice that for `mul2`), a truth value or an error
  cases o <;> simp only [resSize, Op.type, size_cst] at h ⊢ <;>
    first
    | (cases h; exact ⟨WF_mkCst _ _ (by omega), rfl⟩)
    | (cases h; exact ⟨WF_ofBool _, rfl⟩)
    | (cases h)
    | (split at h <;> first | (cases h; done) | (cases h; exact ⟨WF_mkCst _ _ (by omega), rfl⟩))

end Expr

open Expr

theorem resSize_shift (o' : Op) (y : Expr) (h : o'.type = 8) : resSize o' y = y.size := by
  have hne : o' ≠ Op.mul2 := by rintro rfl; cases h
  simp [resSize, h, hne]

theorem resSize_type1 {o : Op} (l : Expr) (h1 : o.type = 1) (h2 : o ≠ Op.mul2) : resSize o l = l.size := by
  simp [resSize, h1, h2]

theorem pm_types {o ro x : Op} (h : Op.pm o ro = some x) :
    o.type = 1 ∧ ro.type = 1 ∧ x.type = 1 ∧ o ≠ Op.mul2 ∧ ro ≠ Op.mul2 ∧ x ≠ Op.mul2 := by
  unfold Op.pm at h
  split at h <;> cases h <;> decide

theorem WF_arith_iff {o : Op} (t : o.type = 1) (n : o ≠ Op.mul2) (l r : Expr) (s : Nat) (f : Bool) (p : Nat) :
    WF (op o l r s f p) ↔ 0 < s ∧ 1 ≤ p ∧ WF l ∧ WF r ∧ l.size = s ∧ r.size = s := by
  rw [WF_op_iff, resSize_type1 l t n, t]
  constructor
  · rintro ⟨a, b, c, d, e, g⟩; exact ⟨a, b, c, d, e.symm, (g (by decide)).symm.trans e.symm⟩
  · rintro ⟨a, b, c, d, e, g⟩; exact ⟨a, b, c, d, e.symm, fun _ => e.trans g.symm⟩

/-! ### Resetting the sign flag of a result -/

theorem Post_setSf {s : Nat} {x : R Expr} (f : Bool) (h : Post s x) : Post s (x >>= fun res => pure (res.setSf f)) :=
  Post_bind _ _ fun res hres => Post_ok ((WF_setSf _ _).mpr (h res hres).1) (by rw [size_setSf]; exact (h res hres).2)

theorem WF_setSf_if (c : Expr) (sf : Bool) (h : WF c) : WF (if c.isCmp = true then c.setSf sf else c) := by
  split
  · exact (WF_setSf _ _).mpr h
  · exact h

theorem size_setSf_if (c : Expr) (sf : Bool) : (if c.isCmp = true then c.setSf sf else c).size = c.size := by
  split <;> simp

/-! ### Memory expressions -/

theorem memGetitem_spec (x : Expr) (sta sto : Nat) (r : Expr) (hx : WF x) (h1 : sta < sto) (h2 : sto ≤ x.size)
    (h : memGetitem x sta sto = .ok r) : WF r ∧ r.size = sto - sta := by
  unfold memGetitem at h
  split at h
  · rename_i n bs bf d ps pf size sf be mods
    simp only [WF, WFOpt] at hx
    obtain ⟨⟨hps, hbs, _, hpb⟩, hsz, hm⟩ := hx
    simp only [Expr.size] at h2
    have hy : WF (Expr.mem (.ptr (.reg n bs false) none
        (d + (if be = true then ((size / 8 : Nat) : Int) - (((sto + 7) / 8 : Nat) : Int) else ((sta / 8 : Nat) : Int))) ps false)
        (((sto + 7) / 8 - sta / 8) * 8) sf be mods) := by
      simp only [WF, WFOpt]
      refine ⟨⟨hps, hbs, trivial, by simpa using hpb⟩, by omega, hm⟩
    by_cases hr : (decide (sta % 8 > 0) || decide (sto % 8 > 0)) = true
    · rw [if_pos hr] at h
      cases h
      refine ⟨?_, rfl⟩
      simp only [WF]
      exact ⟨hy, by omega, by simp only [Expr.size]; omega⟩
    · rw [if_neg hr] at h
      simp only [Bool.or_eq_true, decide_eq_true_eq, not_or, Nat.not_lt, Nat.le_zero_eq] at hr
      cases h
      exact ⟨hy, by simp only [Expr.size]; omega⟩
  · cases h

theorem memSimplify_spec (x r : Expr) (hx : WF x) (h : memSimplify x = .ok r) : WF r ∧ r.size = x.size := by
  unfold memSimplify at h
  split at h
  · cases h
    simp only [WF, WFOpt] at hx ⊢
    exact ⟨⟨⟨hx.1.1, hx.1.2.1, trivial, by simpa using hx.1.2.2.2⟩, hx.2.1, hx.2.2⟩, rfl⟩
  · cases h

theorem slcMem_spec (x : Expr) (pos size : Nat) (sf : Bool) (ref : Option String) (ety : Nat) (r : Expr) (hx : WF x)
    (hs : 0 < size) (hp : pos + size ≤ x.size) (h : slcMem x pos size sf ref ety = .ok r) : WF r ∧ r.size = size := by
  unfold slcMem at h
  split at h
  · split at h
    · cases h
      simp only [WF, WFOpt] at hx ⊢
      exact ⟨⟨⟨hx.1.1, hx.1.2.1, trivial, by simpa using hx.1.2.2.2⟩, hs, trivial⟩, rfl⟩
    · cases h
      exact ⟨by simp only [WF]; exact ⟨hx, hs, hp⟩, rfl⟩
  · cases h

/-! ### Sums of widths, part lists, compositions -/

theorem foldl_add_size (l : List Expr) (k : Nat) : l.foldl (fun a x => a + x.size) k = k + l.foldl (fun a x => a + x.size) 0 := by
  induction l generalizing k with
  | nil => simp
  | cons x tl ih => simp only [List.foldl_cons, Nat.zero_add]; rw [ih (k + x.size), ih x.size]; omega

theorem foldl_size_pos {parts : List Expr} (hne : parts ≠ []) (hp : ∀ x ∈ parts, WF x) :
    0 < parts.foldl (fun a x => a + x.size) 0 := by
  cases parts with
  | nil => exact absurd rfl hne
  | cons y tl =>
    simp only [List.foldl_cons, Nat.zero_add]
    rw [foldl_add_size]
    have := WF_size_pos y (hp y List.mem_cons_self)
    omega

theorem foldl_size_ones (l : List Expr) (h : ∀ x ∈ l, x.size = 1) : l.foldl (fun a x => a + x.size) 0 = l.length := by
  induction l with
  | nil => rfl
  | cons x tl ih =>
    simp only [List.foldl_cons, Nat.zero_add, List.length_cons]
    rw [foldl_add_size, h x List.mem_cons_self, ih (fun y hy => h y (List.mem_cons_of_mem _ hy))]
    omega

theorem length_pyRange (a b : Int) : (pyRange a b).length = (b - a).toNat := by simp [pyRange]

theorem tiles_exists {n : Nat} {ps : List Part} (ht : Tiles n ps) (x : Nat) :
    (∃ p ∈ ps, p.1 ≤ x ∧ x < p.2.1) ↔ x < n := by
  constructor
  · rintro ⟨p, hp, h1, h2⟩
    have := ht.1 p hp
    omega
  · intro hx
    obtain ⟨p, _, hm, h1, h2⟩ := exists_cover (b := x) (ps := ps) (Nat.le_of_eq (ht.2 x hx).symm)
    exact ⟨p, hm, h1, h2⟩

theorem WF_comp_of_cnt {n : Nat} {ps : List Part} (sf : Bool) (hn : 0 < n) (hd : Disj n ps) (hw : ∀ p ∈ ps, WF p.2.2)
    (hc : ∀ x, x < n → cnt x ps = 1) : WF (comp n sf ps) := by
  simp only [WF]; exact ⟨hn, tiles_of_disj_cnt hd hc, (WFParts_iff _).mpr hw⟩

theorem Disj_nil (n : Nat) : Disj n [] :=
  ⟨(by intro p hp; cases hp), (by intro b; simp)⟩

theorem checkSlice_ok {n : Nat} {a b : Int} (h : checkSlice n a b = .ok ()) : 0 ≤ a ∧ a < b ∧ b ≤ n := by
  unfold checkSlice at h
  split at h
  · cases h
  · split at h
    · cases h
    · rename_i h1 h2
      simp only [Bool.or_eq_true, decide_eq_true_eq, not_or, not_lt, not_le] at h1 h2
      omega

theorem mapM_parts_spec (f : Expr → R Expr) (hf : ∀ e r, WF e → f e = .ok r → WF r ∧ r.size = e.size) :
    ∀ (ps ps' : List Part), (∀ p ∈ ps, WF p.2.2) →
      ps.mapM (fun (p : Part) => do let v ← f p.2.2; pure ((p.1, p.2.1, v) : Part)) = .ok ps' →
      (∀ p ∈ ps', WF p.2.2) ∧ (∀ n, Sized n ps → Sized n ps') ∧ ∀ b, cnt b ps' = cnt b ps := by
  intro ps
  induction ps with
  | nil =>
    intro ps' _ h
    simp only [List.mapM_nil, pure, Except.pure] at h
    cases h
    exact ⟨(by intro p hp; cases hp), fun _ h => h, fun _ => rfl⟩
  | cons q tl ih =>
    intro ps' hw h
    rw [List.mapM_cons] at h
    obtain ⟨q', hq', h⟩ := bind_ok h
    obtain ⟨v, hq, hq'⟩ := bind_ok hq'
    obtain ⟨tl', ht, h⟩ := bind_ok h
    cases h; cases hq'
    obtain ⟨hwq, hwtl⟩ := List.forall_mem_cons.mp hw
    obtain ⟨h1, h2, h3⟩ := ih tl' hwtl ht
    have hv := hf q.2.2 v hwq hq
    refine ⟨List.forall_mem_cons.mpr ⟨hv.1, h1⟩, ?_, fun b => by rw [cnt_cons, cnt_cons, h3 b]⟩
    intro n hs
    obtain ⟨hsq, hstl⟩ := List.forall_mem_cons.mp hs
    exact List.forall_mem_cons.mpr ⟨⟨hsq.1, hsq.2.1, hv.2.trans hsq.2.2⟩, h2 n hstl⟩

theorem restruct_mapM_parts (f : Expr → R Expr) (hf : ∀ e r, WF e → f e = .ok r → WF r ∧ r.size = e.size)
    {size : Nat} {parts parts' : List Part} (ht : Tiles size parts) (hw : ∀ p ∈ parts, WF p.2.2)
    (h : parts.mapM (fun (p : Part) => do let v ← f p.2.2; pure ((p.1, p.2.1, v) : Part)) = .ok parts') :
    Tiles size (restruct parts') ∧ ∀ p ∈ restruct parts', WF p.2.2 := by
  obtain ⟨h1, h2, h3⟩ := mapM_parts_spec f hf parts parts' hw h
  have hd' : Disj size parts' := ⟨h2 size ht.1, fun b => by show cnt b parts' ≤ 1; rw [h3 b]; exact ht.disj.cnt_le b⟩
  obtain ⟨r1, r2, r3⟩ := restruct_spec size parts' hd' h1
  exact ⟨tiles_of_disj_cnt r1 (fun x hx => by rw [r3 x, h3 x]; exact ht.2 x hx), r2⟩

/-! ### The two loops of `simplify` on a `vec` -/

theorem vecFlat_spec (f : Expr → R Expr) (s : Nat) (hf : ∀ e r, WF e → f e = .ok r → WF r ∧ r.size = e.size) :
    ∀ (l acc : List Expr) (early : Option Expr) (acc' : List Expr),
      (∀ x ∈ l, WF x ∧ x.size = s) → (∀ x ∈ acc, WF x ∧ x.size = s) →
      vecFlat f l acc = .ok (early, acc') →
      (∀ ee, early = some ee → WF ee ∧ ee.size = s) ∧
      (early = none → (∀ x ∈ acc', WF x ∧ x.size = s) ∧ ((acc ≠ [] ∨ l ≠ []) → acc' ≠ [])) := by
  intro l
  induction l with
  | nil =>
    intro acc early acc' _ ha h
    simp only [vecFlat] at h
    cases h
    exact ⟨(by intro ee h; cases h), fun _ => ⟨ha, (by intro h; rcases h with h | h; exact h; exact absurd rfl h)⟩⟩
  | cons x tl ih =>
    intro acc early acc' hl ha h
    simp only [vecFlat] at h
    obtain ⟨ee, hx, h⟩ := bind_ok h
    obtain ⟨hlx, htl⟩ := List.forall_mem_cons.mp hl
    have hee := hf x ee hlx.1 hx
    have hees : ee.size = s := hee.2.trans hlx.2
    split at h
    · cases h
      exact ⟨(by intro e' h'; cases h'; exact ⟨hee.1, hees⟩), (by intro h'; cases h')⟩
    obtain ⟨more, hne, hm, h⟩ : ∃ more, more ≠ [] ∧ (∀ y ∈ more, WF y ∧ y.size = s) ∧
        vecFlat f tl (acc ++ more) = .ok (early, acc') := by
      split at h
      · have hw := hee.1
        simp only [WF] at hw
        exact ⟨_, hw.2.1, (WFList_iff _ _).mp (hees ▸ hw.2.2), h⟩
      · exact ⟨[ee], List.cons_ne_nil _ _, List.forall_mem_singleton.mpr ⟨hee.1, hees⟩, h⟩
    obtain ⟨r1, r2⟩ := ih (acc ++ more) early acc' htl (List.forall_mem_append.mpr ⟨ha, hm⟩) h
    exact ⟨r1, fun hn => ⟨(r2 hn).1, fun _ => (r2 hn).2 (.inl fun hnil => hne (List.append_eq_nil_iff.mp hnil).2)⟩⟩

theorem vecDedup_spec (eq : Expr → Expr → R Expr) (P : Expr → Prop) :
    ∀ (l acc acc' : List Expr), (∀ x ∈ l, P x) → (∀ x ∈ acc, P x) → vecDedup eq l acc = .ok acc' →
      (∀ x ∈ acc', P x) ∧ ((acc ≠ [] ∨ l ≠ []) → acc' ≠ []) := by
  intro l
  induction l with
  | nil =>
    intro acc acc' _ ha h
    simp only [vecDedup] at h
    cases h
    exact ⟨ha, (by intro h; rcases h with h | h; exact h; exact absurd rfl h)⟩
  | cons x tl ih =>
    intro acc acc' hl ha h
    simp only [vecDedup] at h
    obtain ⟨b, hin, h⟩ := bind_ok h
    obtain ⟨hlx, htl⟩ := List.forall_mem_cons.mp hl
    cases b with
    | true =>
      obtain ⟨r1, r2⟩ := ih acc acc' htl ha h
      refine ⟨r1, fun _ => r2 (.inl ?_)⟩
      -- `x in acc` can only be true for a non-empty `acc`
      rintro rfl
      cases hin
    | false =>
      obtain ⟨r1, r2⟩ := ih (acc ++ [x]) acc' htl
        (List.forall_mem_append.mpr ⟨ha, List.forall_mem_singleton.mpr hlx⟩) h
      exact ⟨r1, fun _ => r2 (.inl fun hnil => nomatch (List.append_eq_nil_iff.mp hnil).2)⟩

/-! ### The induction hypothesis -/

structure WidthIH (cfg : Cfg) (fuel : Nat) : Prop where
  simplify : ∀ o e, WF e → Post e.size (simplify cfg fuel o e)
  eqn1 : ∀ o r size sf prop, WF r → size = r.size → Post size (eqn1 cfg fuel o r size sf prop)
  eqn2 : ∀ opts o l r size sf prop, WF (.op o l r size sf prop) → Post size (eqn2 cfg fuel opts o l r size sf prop)
  eqn2norm : ∀ o l r size sf prop, WF (.op o l r size sf prop) →
      ∀ o' l' r', eqn2norm cfg fuel o l r = .ok (o', l', r') → WF (.op o' l' r' size sf prop)
  normL : ∀ o l r size sf prop, WF (.op o l r size sf prop) →
      ∀ t, normL cfg fuel o l r = .ok t → WF (.op t.1 t.2.1 t.2.2 size sf prop)
  normR : ∀ o l r size sf prop, WF (.op o l r size sf prop) →
      ∀ t, normR cfg fuel o l r = .ok t → WF (.op t.1 t.2.1 t.2.2 size sf prop)
  eqn2cst : ∀ opts o l rv rs rf size sf prop, WF (.op o l (.cst rv rs rf) size sf prop) →
      ∀ res, eqn2cst cfg fuel opts o l rv rs rf size sf = .ok (some res) → WF res ∧ res.size = size
  eqn2snd : ∀ opts o l rv rs rf size sf prop, WF (.op o l (.cst rv rs rf) size sf prop) →
      Post size (eqn2snd cfg fuel opts o l rv rs rf size sf prop)
  eqn2tail : ∀ opts o l r size sf prop, WF (.op o l r size sf prop) → Post size (eqn2tail cfg fuel opts o l r size sf prop)
  oper : ∀ o l r, WF l → WF r → (o.type = 4 → l.size = r.size) → Post (resSize o l) (oper cfg fuel o l r)
  operU : ∀ o r, WF r → Post r.size (operU cfg fuel o r)
  apiNeg : ∀ x, WF x → Post x.size (apiNeg cfg fuel x)
  apiNot : ∀ x, WF x → Post x.size (apiNot cfg fuel x)
  api : ∀ o l r, WF l → WF r → (o.type = 4 → l.size = r.size) → Post (resSize o l) (api cfg fuel o l r)
  apiExp : ∀ o l r, WF l → WF r → (o.type = 4 → l.size = r.size) → Post (resSize o l) (apiExp cfg fuel o l r)
  callOp : ∀ o l r, WF l → WF r → (o.type = 4 → l.size = r.size) → Post (resSize o l) (callOp cfg fuel o l r)
  callUop : ∀ o r, WF r → Post r.size (callUop cfg fuel o r)
  helperCmp : ∀ o x y, WF x → WF y → x.size = y.size → o.type = 4 → Post 1 (helperCmp cfg fuel o x y)
  helperRot : ∀ o x n, WF x → WF n → o.type = 8 → Post x.size (helperRot cfg fuel o x n)
  getitem : ∀ x a b, WF x → Post (b - a).toNat (getitem cfg fuel x a b)
  slicer : ∀ x pos size, WF x → 0 < size → pos + size ≤ x.size → Post size (slicer cfg fuel x pos size)
  mkSlc : ∀ x pos size, WF x → 0 < size → pos + size ≤ x.size → Post size (mkSlc cfg fuel x pos size)
  setitem : ∀ n sf ps (a b : Int) v r, Disj n ps → (∀ p ∈ ps, WF p.2.2) → WF v →
      setitem cfg fuel (.comp n sf ps) a b v = .ok r →
      ∃ ps', r = .comp n sf ps' ∧ Disj n ps' ∧ (∀ p ∈ ps', WF p.2.2) ∧ 0 ≤ a ∧ a < b ∧ b ≤ n ∧
        ∀ x : Nat, cnt x ps' = if a ≤ (x : Int) ∧ (x : Int) < b then 1 else cnt x ps
  composer : ∀ parts, (∀ x ∈ parts, WF x) → Post (parts.foldl (fun a x => a + x.size) 0) (composer cfg fuel parts)
  extendExp : ∀ sign x size, WF x → Post (max size x.size) (extendExp cfg fuel sign x size)

variable (cfg : Cfg)

theorem widthIH_zero : WidthIH cfg 0 where
  simplify := by intros; rw [simplify.eq_def]; exact Post_error _ _
  eqn1 := by intros; rw [eqn1.eq_def]; exact Post_error _ _
  eqn2 := by intros; rw [eqn2.eq_def]; exact Post_error _ _
  eqn2norm := by intros; rename_i h; rw [eqn2norm.eq_def] at h; cases h
  normL := by intros; rename_i h; rw [normL.eq_def] at h; cases h
  normR := by intros; rename_i h; rw [normR.eq_def] at h; cases h
  eqn2cst := by intros; rename_i h; rw [eqn2cst.eq_def] at h; cases h
  eqn2snd := by intros; rw [eqn2snd.eq_def]; exact Post_error _ _
  eqn2tail := by intros; rw [eqn2tail.eq_def]; exact Post_error _ _
  oper := by intros; rw [oper.eq_def]; exact Post_error _ _
  operU := by intros; rw [operU.eq_def]; exact Post_error _ _
  apiNeg := by intros; rw [apiNeg.eq_def]; exact Post_error _ _
  apiNot := by intros; rw [apiNot.eq_def]; exact Post_error _ _
  api := by intros; rw [api.eq_def]; exact Post_error _ _
  apiExp := by intros; rw [apiExp.eq_def]; exact Post_error _ _
  callOp := by intros; rw [callOp.eq_def]; exact Post_error _ _
  callUop := by intros; rw [callUop.eq_def]; exact Post_error _ _
  helperCmp := by intros; rw [helperCmp.eq_def]; exact Post_error _ _
  helperRot := by intros; rw [helperRot.eq_def]; exact Post_error _ _
  getitem := by intros; rw [getitem.eq_def]; exact Post_error _ _
  slicer := by intros; rw [slicer.eq_def]; exact Post_error _ _
  mkSlc := by intros; rw [mkSlc.eq_def]; exact Post_error _ _
  setitem := by intros; rename_i h; rw [setitem.eq_def] at h; cases h
  composer := by intros; rw [composer.eq_def]; exact Post_error _ _
  extendExp := by intros; rw [extendExp.eq_def]; exact Post_error _ _

/-! ### The rules of each function

Each `*_cases` lemma splits one function of the block into its rules for any predicate `P` on the result:
`P` is a width postcondition below and a value postcondition in the ExprSound* files. -/

theorem if_cases {α : Sort _} {P : α → Prop} {c : Prop} [Decidable c] {a b : α} (ht : c → P a) (hf : ¬c → P b) :
    P (if c then a else b) := by
  split
  · exact ht ‹_›
  · exact hf ‹_›

/-- `c = comp(n); c[0:n] = cst(0,n); c[a:b] = l[i:j]; return c.simplify()`: the block that `eqn2cst`
    (Model/Simplify.lean) writes out three times, for `l & mask` and for `l << n`, `l >> n` without `bitslice`
    (in `eqn2_helpers`, the rules commented `(l & mask)` and `(l [>> <<] r)`). -/
def zeroThenPiece (fuel n : Nat) (sf : Bool) (l : Expr) (i j a b : Int) : R (Option Expr) := do
  let c ← setitem cfg fuel (Expr.comp n sf []) 0 n (cst 0 n false)
  let piece ← getitem cfg fuel l i j
  let c ← setitem cfg fuel c a b piece
  return some (← simplify cfg fuel {} c)

/-- `c = composer(bits); if c._is_cmp: c.sf = e.sf; return c`: the common end of the three `bitslice` rules of
    `eqn2cst` (`& | ^`, `<<`, `>>`) -/
def composeBits (fuel : Nat) (sf : Bool) (bits : List Expr) : R (Option Expr) := do
  let c ← composer cfg fuel bits
  return some (if c.isCmp then c.setSf sf else c)

variable {cfg} in
/-- The rules in the order the code tests them, each with the tests that select it (and `rv < l.size` where an
    earlier rule has excluded the opposite). -/
theorem eqn2cst_cases {P : R (Option Expr) → Prop} {fuel : Nat} {opts : Opts} {o : Op} {l : Expr} {rv rs : Nat}
    {rf : Bool} {size : Nat} {sf : Bool}
    (decline : P (pure none))
    (zeroR : cstValue rv rs rf = 0 →
      o = .or ∨ o = .xor ∨ o = .add ∨ o = .sub ∨ o = .lsr ∨ o = .lsl ∨ o = .ror ∨ o = .rol → P (pure (some l)))
    (zeroA : cstValue rv rs rf = 0 → o = .and ∨ o = .mul ∨ o = .mul2 → P (pure (some (cst 0 size false))))
    (eqExt : cstValue rv rs rf = 0 → o = .eq → l.isExt = true → P (pure (some bit0)))
    (neqExt : cstValue rv rs rf = 0 → o = .neq → l.isExt = true → P (pure (some bit1)))
    (one : cstValue rv rs rf = 1 → o = .mul ∨ o = .div → P (pure (some l)))
    (one2 : cstValue rv rs rf = 1 → o = .mul2 → P (extendExp cfg fuel l.sf l size >>= fun y => pure (some y)))
    (mask : ∀ i1 i2, o = .and → maskBounds (cstValue rv rs rf) = some (i1, i2) →
      P (zeroThenPiece cfg fuel size sf l i1 (i2 + 1) i1 (i2 + 1)))
    (bitsL : opts.bitslice = true → o = .and ∨ o = .or ∨ o = .xor →
      P ((pyRange 0 size).mapM (fun i => do
          let a ← getitem cfg fuel l i (i + 1)
          let b ← getitem cfg fuel (cst rv rs rf) i (i + 1)
          callOp cfg fuel o a b) >>= composeBits cfg fuel sf))
    (out : o = .lsl ∨ o = .lsr → l.size ≤ rv → P (pure (some (cst 0 size false))))
    (bitsShl : opts.bitslice = true → o = .lsl → rv < l.size →
      P ((pyRange 0 ((size : Int) - (rv : Int))).mapM (fun i => getitem cfg fuel l i (i + 1)) >>=
        fun bits => composeBits cfg fuel sf (bit0s rv ++ bits)))
    (bitsShr : opts.bitslice = true → o = .lsr → rv < l.size →
      P ((pyRange rv size).mapM (fun i => getitem cfg fuel l i (i + 1)) >>=
        fun bits => composeBits cfg fuel sf (bits ++ bit0s rv)))
    (shl : o = .lsl → rv < l.size →
      P (zeroThenPiece cfg fuel l.size sf l 0 ((l.size : Int) - (rv : Int)) rv l.size))
    (shr : o = .lsr → rv < l.size →
      P (zeroThenPiece cfg fuel l.size sf l rv l.size 0 ((l.size : Int) - (rv : Int)))) :
    P (eqn2cst cfg (fuel + 1) opts o l rv rs rf size sf) := by
  rw [eqn2cst.eq_def]; dsimp only
  refine if_cases (fun h0 => ?_) (fun _ => ?_)
  · refine if_cases (fun h => zeroR h0 (by simpa only [Bool.or_eq_true, beq_iff_eq, or_assoc] using h)) (fun _ => ?_)
    refine if_cases (fun h => zeroA h0 (by simpa only [Bool.or_eq_true, beq_iff_eq, or_assoc] using h)) (fun _ => ?_)
    refine if_cases (fun h => ?_) (fun _ => ?_)
    · simp only [Bool.and_eq_true, beq_iff_eq] at h
      exact eqExt h0 h.1 h.2
    refine if_cases (fun h => ?_) (fun _ => decline)
    simp only [Bool.and_eq_true, beq_iff_eq] at h
    exact neqExt h0 h.1 h.2
  refine if_cases (fun h => ?_) (fun _ => ?_)
  · simp only [Bool.and_eq_true, Bool.or_eq_true, beq_iff_eq, decide_eq_true_eq] at h
    exact one h.1 h.2
  refine if_cases (fun h => ?_) (fun _ => ?_)
  · simp only [Bool.and_eq_true, beq_iff_eq, decide_eq_true_eq] at h
    exact one2 h.1 h.2
  cases hm : (if (o == Op.and) = true then maskBounds (cstValue rv rs rf) else none) with
  | some p =>
    by_cases ho : o = Op.and
    · rw [if_pos (beq_iff_eq.mpr ho)] at hm
      exact mask p.1 p.2 ho hm
    · rw [if_neg (mt beq_iff_eq.mp ho)] at hm
      cases hm
  | none =>
    dsimp only
    refine if_cases (fun h => ?_) (fun _ => ?_)
    · simp only [Bool.and_eq_true, Bool.or_eq_true, beq_iff_eq, or_assoc] at h
      exact bitsL h.1 h.2
    refine if_cases (fun h => ?_) (fun hge => ?_)
    · simp only [Bool.and_eq_true, Bool.or_eq_true, beq_iff_eq, decide_eq_true_eq] at h
      exact out h.1 h.2
    simp only [Bool.and_eq_true, Bool.or_eq_true, beq_iff_eq, decide_eq_true_eq, not_and, not_le] at hge
    refine if_cases (fun h => ?_) (fun _ => ?_)
    · simp only [Bool.and_eq_true, beq_iff_eq] at h
      exact bitsShl h.1 h.2 (hge (.inl h.2))
    refine if_cases (fun h => ?_) (fun _ => ?_)
    · simp only [Bool.and_eq_true, beq_iff_eq] at h
      exact bitsShr h.1 h.2 (hge (.inr h.2))
    refine if_cases (fun h => ?_) (fun _ => ?_)
    · simp only [beq_iff_eq] at h
      exact shl h (hge (.inl h))
    refine if_cases (fun h => ?_) (fun _ => decline)
    simp only [beq_iff_eq] at h
    exact shr h (hge (.inr h))

variable {cfg} in
theorem eqn2tail_cases {P : R Expr → Prop} {fuel : Nat} {opts : Opts} {o : Op} {l r : Expr} {size : Nat} {sf : Bool}
    {prop : Nat}
    (vecL : ∀ ll s f, l = .vec ll s f → P (do
      let xs ← ll.mapM (fun x => callOp cfg fuel o x r)
      let v ← mkVec xs
      simplify cfg fuel { widening := opts.widening } v))
    (vecR : ∀ rl s f, r = .vec rl s f → P (do
      let xs ← rl.mapM (fun x => callOp cfg fuel o l x)
      let v ← mkVec xs
      simplify cfg fuel { widening := opts.widening } v))
    (same0 : render l = render r → o = .neq ∨ o = .lt ∨ o = .gt → P (.ok bit0))
    (same1 : render l = render r → o = .eq ∨ o = .le ∨ o = .ge → P (.ok (if sf then cst 1 1 true else bit1)))
    (sameZ : render l = render r → o = .sub ∨ o = .xor → P (.ok (cst 0 size false)))
    (sameL : render l = render r → o = .and ∨ o = .or → P (.ok l))
    (keep : P (.ok (.op o l r size sf prop))) :
    P (eqn2tail cfg (fuel + 1) opts o l r size sf prop) := by
  rw [eqn2tail.eq_def]; dsimp only
  split
  · exact vecL _ _ _ rfl
  · exact vecR _ _ _ rfl
  refine if_cases (fun hr => ?_) (fun _ => keep)
  rw [beq_iff_eq] at hr
  refine if_cases (fun h => same0 hr (by simpa only [Bool.or_eq_true, beq_iff_eq, or_assoc] using h)) (fun _ => ?_)
  refine if_cases (fun h => same1 hr (by simpa only [Bool.or_eq_true, beq_iff_eq, or_assoc] using h)) (fun _ => ?_)
  refine if_cases (fun h => sameZ hr (by simpa only [Bool.or_eq_true, beq_iff_eq] using h)) (fun _ => ?_)
  exact if_cases (fun h => sameL hr (by simpa only [Bool.or_eq_true, beq_iff_eq] using h)) (fun _ => keep)

variable {cfg} in
theorem eqn2snd_cases {P : R Expr → Prop} {fuel : Nat} {opts : Opts} {o : Op} {l : Expr} {rv rs : Nat} {rf : Bool}
    {size : Nat} {sf : Bool} {prop : Nat}
    (opPm : ∀ lo ll lr s f p x, l = .op lo ll lr s f p → Op.pm o lo = some x → lr.isCst = true →
      P (api cfg fuel x lr (cst rv rs rf) >>= fun cc => pure (.op lo ll cc size sf prop)))
    (uopPm : ∀ lo lr s f p x, l = .uop lo lr s f p → Op.pm o lo = some x → lr.isCst = true →
      P (api cfg fuel x lr (cst rv rs rf) >>= fun cc => pure (.op lo l cc size sf prop)))
    (keep : P (pure (.op o l (cst rv rs rf) size sf prop)))
    (isL : rs = 1 → (o = .eq ∧ rv = 1) ∨ (o = .neq ∧ rv ≠ 1) → P (pure l))
    (notL : rs = 1 → (o = .eq ∧ rv ≠ 1) ∨ (o = .neq ∧ rv = 1) → P (apiNot cfg fuel l))
    (ofPtr : ∀ b s d sz f, l = .ptr b s d sz f → o = .sub ∨ o = .add → P (throw .unmodelled))
    (ofComp : ∀ lsize lsf lparts, l = .comp lsize lsf lparts → o = .and ∨ o = .or ∨ o = .xor →
      P (lparts.foldlM (fun (cc : Expr) (p : Part) => do
            let rp ← getitem cfg fuel (cst rv rs rf) p.1 p.2.1
            let v ← callOp cfg fuel o p.2.2 rp
            setitem cfg fuel cc p.1 p.2.1 v) (Expr.comp lsize sf []) >>=
          simplify cfg fuel { bitslice := opts.bitslice }))
    (ofCst : ∀ v s f, l = .cst v s f → P (callOp cfg fuel o l (cst rv rs rf) >>= fun res => pure (res.setSf sf)))
    (tail : P (eqn2tail cfg fuel opts o l (cst rv rs rf) size sf prop)) :
    P (eqn2snd cfg (fuel + 1) opts o l rv rs rf size sf prop) := by
  have bit : P (if (rs == 1 && o == Op.eq) = true then
        if (rv == 1) = true then pure l else apiNot cfg fuel l
      else if (rs == 1 && o == Op.neq) = true then
        if (rv == 1) = true then apiNot cfg fuel l else pure l
      else eqn2tail cfg fuel opts o l (.cst rv rs rf) size sf prop) := by
    refine if_cases (fun h => ?_) (fun _ => if_cases (fun h => ?_) (fun _ => tail))
    all_goals
      simp only [Bool.and_eq_true, beq_iff_eq] at h
      refine if_cases (fun h1 => ?_) (fun h1 => ?_) <;> rw [beq_iff_eq] at h1
    · exact isL h.1 (.inl ⟨h.2, h1⟩)
    · exact notL h.1 (.inl ⟨h.2, h1⟩)
    · exact notL h.1 (.inr ⟨h.2, h1⟩)
    · exact isL h.1 (.inr ⟨h.2, h1⟩)
  rw [eqn2snd.eq_def]; dsimp only
  split
  · split
    · exact if_cases (opPm _ _ _ _ _ _ _ rfl ‹_›) (fun _ => keep)
    · exact bit
  · split
    · exact if_cases (uopPm _ _ _ _ _ _ rfl ‹_›) (fun _ => keep)
    · exact bit
  · refine if_cases (fun h => ofPtr _ _ _ _ _ rfl (by simpa only [Bool.or_eq_true, beq_iff_eq] using h)) (fun _ => tail)
  · refine if_cases (fun h => ofComp _ _ _ rfl (by simpa only [Bool.or_eq_true, beq_iff_eq, or_assoc] using h)) (fun _ => tail)
  · exact ofCst _ _ _ rfl
  · exact tail

variable {cfg} in
theorem getitem_bad {fuel : Nat} {x : Expr} {start stop : Int} {e : Err}
    (h : checkSlice x.size start stop = .error e) : getitem cfg (fuel + 1) x start stop = .error e := by
  show (checkSlice x.size start stop >>= _) = _
  rw [h]; rfl

variable {cfg} in
theorem getitem_bounds {fuel : Nat} {x r : Expr} {a b : Int} (h : getitem cfg fuel x a b = .ok r) :
    0 ≤ a ∧ a < b ∧ b ≤ x.size := by
  cases fuel with
  | zero => rw [getitem.eq_def] at h; cases h
  | succ k =>
    cases hcs : checkSlice x.size a b with
    | error e => rw [getitem_bad hcs] at h; cases h
    | ok u => exact checkSlice_ok hcs

variable {cfg} in
theorem getitem_cases {P : R Expr → Prop} {fuel : Nat} {x : Expr} {start stop : Int}
    (hcs : checkSlice x.size start stop = .ok ())
    (ofCst : ∀ v s f, x = .cst v s f → P (pure (mkCst ((v >>> start.toNat : Nat) : Int) (stop.toNat - start.toNat))))
    (key : ∀ size sf parts p, x = .comp size sf parts → findKey start.toNat stop.toNat parts = some p → P (pure p))
    (whole : ∀ size sf parts, x = .comp size sf parts → start.toNat = 0 → stop.toNat = size → P (pure x))
    (ofComp : ∀ size sf parts, x = .comp size sf parts → findKey start.toNat stop.toNat parts = none →
      P (compGetLoop (fun y a b => getitem cfg fuel y (a : Int) (b : Int))
            (fun c a b v => setitem cfg fuel c (a : Int) (b : Int) v) parts stop.toNat
            (stop.toNat - start.toNat) (stop.toNat - start.toNat) 0 start.toNat
            (Expr.comp (stop.toNat - start.toNat) sf []) >>= fun res =>
          match res with
          | .comp rs rf rparts =>
              match restruct rparts with
              | [] => throw .unmodelled
              | [(_, _, p)] => pure p
              | _ => pure (.comp rs rf (restruct rparts))
          | _ => throw .unmodelled))
    (same : ∀ x' p s f r k, x = .slc x' p s f r k → start.toNat = 0 → stop.toNat = s → P (pure x))
    (ofSlc : ∀ x' p s f r k, x = .slc x' p s f r k →
      P (slicer cfg fuel x' (p + start.toNat) (stop.toNat - start.toNat)))
    (ofMem : ∀ a s f be m, x = .mem a s f be m → P (memGetitem x start.toNat stop.toNat))
    (ofVec : ∀ l s f, x = .vec l s f → P (l.mapM (fun y => getitem cfg fuel y start stop) >>= mkVec))
    (ofVecw : ∀ l s f, x = .vecw l s f → P (l.mapM (fun y => getitem cfg fuel y start stop) >>= fun l' =>
      mkVec l' >>= fun v => match v with
        | .vec l'' s _ => pure (.vecw l'' s false)
        | _ => throw .unmodelled))
    (other : P (slicer cfg fuel x start.toNat (stop.toNat - start.toNat))) :
    P (getitem cfg (fuel + 1) x start stop) := by
  rw [getitem.eq_def]; dsimp only
  have e : ∀ f : Unit → R Expr, (Except.ok () >>= f) = f () := fun _ => rfl
  rw [hcs, e]
  split
  · exact ofCst _ _ _ rfl
  · split
    · exact key _ _ _ _ rfl ‹_›
    · refine if_cases (fun h => ?_) (fun _ => ofComp _ _ _ rfl ‹_›)
      simp only [Bool.and_eq_true, beq_iff_eq] at h
      exact whole _ _ _ rfl h.1 h.2
  · refine if_cases (fun h => ?_) (fun _ => ofSlc _ _ _ _ _ _ rfl)
    simp only [Bool.and_eq_true, beq_iff_eq] at h
    exact same _ _ _ _ _ _ rfl h.1 h.2
  · exact ofMem _ _ _ _ _ rfl
  · exact ofVec _ _ _ rfl
  · exact ofVecw _ _ _ rfl
  · exact other

variable {cfg} in
theorem setitem_cases {P : R Expr → Prop} {fuel : Nat} {size : Nat} {sf : Bool} {parts : List Part} {start stop : Int}
    {v : Expr}
    (bad : ∀ e, checkSlice size start stop = .error e → P (.error e))
    (badSize : checkSlice size start stop = .ok () → v.size ≠ stop.toNat - start.toNat → P (throw .value))
    (flat : ∀ vs vf vparts, v = .comp vs vf vparts → checkSlice size start stop = .ok () →
      v.size = stop.toNat - start.toNat →
      P (vparts.foldlM (fun (c : Expr) (p : Part) =>
          setitem cfg fuel c (start.toNat + p.1 : Nat) (start.toNat + p.2.1 : Nat) p.2.2) (.comp size sf parts)))
    (part : ∀ ps, checkSlice size start stop = .ok () → v.size = stop.toNat - start.toNat →
      setPart (fun y a b => getitem cfg fuel y (a : Int) (b : Int)) start.toNat stop.toNat v parts = .ok ps →
      P (pure (.comp size sf ps)))
    (partErr : ∀ e, setPart (fun y a b => getitem cfg fuel y (a : Int) (b : Int)) start.toNat stop.toNat v parts = .error e →
      P (.error e)) :
    P (setitem cfg (fuel + 1) (.comp size sf parts) start stop v) := by
  rw [setitem.eq_def]; dsimp only
  cases hcs : checkSlice size start stop with
  | error e => exact bad e hcs
  | ok u =>
    have e : ∀ f : Unit → R Expr, (Except.ok u >>= f) = f u := fun _ => rfl
    rw [e]
    refine if_cases (fun h => badSize hcs (by simpa only [bne_iff_ne, ne_eq] using h)) (fun h => ?_)
    simp only [bne_iff_ne, ne_eq, Decidable.not_not] at h
    split
    · exact flat _ _ _ rfl hcs h
    · cases hsp : setPart (fun y a b => getitem cfg fuel y (a : Int) (b : Int)) start.toNat stop.toNat v parts with
      | ok ps => exact part ps hcs h hsp
      | error e => exact partErr e hsp

variable {cfg} in
theorem eqn1_cases {P : R Expr → Prop} {fuel : Nat} {o : Op} {r : Expr} {size : Nat} {sf : Bool} {prop : Nat}
    (ofCst : ∀ v s f, r = .cst v s f → P (callUop cfg fuel o r >>= fun res => pure (res.setSf sf)))
    (ofVec : ∀ l s f, r = .vec l s f → P (l.mapM (fun x => callUop cfg fuel o x) >>= mkVec))
    (signPos : ∀ ro rr s f p, r = .uop ro rr s f p → Op.pm o ro = some .add → P (.ok rr))
    (signNeg : ∀ ro rr s f p, r = .uop ro rr s f p → Op.pm o ro = some .sub → P (apiNeg cfg fuel rr))
    (negSum : ∀ ro rl rr s f p x, r = .op ro rl rr s f p → o = .sub → Op.pm o ro = some x →
      P (apiNeg cfg fuel rl >>= fun l => api cfg fuel x l rr))
    (notCmp : ∀ ro rl rr s f p, r = .op ro rl rr s f p → o = .not → ro.type = 4 →
      P (match ro with
        | .eq => api cfg fuel Op.neq rl rr
        | .neq => api cfg fuel Op.eq rl rr
        | .lt => api cfg fuel Op.ge rl rr
        | .gt => api cfg fuel Op.le rl rr
        | .le => api cfg fuel Op.gt rl rr
        | .ge => api cfg fuel Op.lt rl rr
        | .ltu => helperCmp cfg fuel Op.geu rl rr
        | .geu => helperCmp cfg fuel Op.ltu rl rr
        | _ => .ok (.uop o r size sf prop)))
    (keep : P (.ok (.uop o r size sf prop))) :
    P (eqn1 cfg (fuel + 1) o r size sf prop) := by
  rw [eqn1.eq_def]; dsimp only
  split
  · exact ofCst _ _ _ rfl
  · exact ofVec _ _ _ rfl
  · split
    · exact signPos _ _ _ _ _ rfl ‹_›
    · exact signNeg _ _ _ _ _ rfl ‹_›
    · exact keep
  · refine if_cases (fun ho => ?_) (fun _ => if_cases (fun h => ?_) (fun _ => keep))
    · split
      · exact negSum _ _ _ _ _ _ _ rfl (beq_iff_eq.mp ho) ‹_›
      · exact keep
    · simp only [Bool.and_eq_true, beq_iff_eq] at h
      exact notCmp _ _ _ _ _ _ rfl h.1 h.2
  · exact keep

variable {cfg} in
/-- `normL`: `((a lo c) o r) ⇒ ((a o r) lo c)` for a constant `c` when the signs multiply, else unchanged -/
theorem normL_cases {P : R (Op × Expr × Expr) → Prop} {fuel : Nat} {o : Op} {l r : Expr}
    (move : ∀ lo ll lr s f p x, l = .op lo ll lr s f p → lr.isCst = true → Op.pm o lo = some x →
      P (callOp cfg fuel o ll r >>= fun nl => pure (lo, nl, lr)))
    (keep : P (pure (o, l, r))) :
    P (normL cfg (fuel + 1) o l r) := by
  rw [normL.eq_def]; dsimp only
  split
  · refine if_cases (fun hc => ?_) (fun _ => keep)
    split
    · exact move _ _ _ _ _ _ _ rfl hc ‹_›
    · exact keep
  · exact keep

variable {cfg} in
/-- `normR`: `(l o (a ro c)) ⇒ ((l o a) (o·ro) c)` for a constant `c`; a signed unary constant on the right
    is an assertion failure -/
theorem normR_cases {P : R (Op × Expr × Expr) → Prop} {fuel : Nat} {o : Op} {l r : Expr}
    (move : ∀ ro rl rr s f p x, r = .op ro rl rr s f p → rr.isCst = true → Op.pm o ro = some x →
      P (callOp cfg fuel o l rl >>= fun nl => pure (x, nl, rr)))
    (unary : ∀ ro rr s f p x, r = .uop ro rr s f p → rr.isCst = true → Op.pm o ro = some x → P (throw .assert))
    (keep : P (pure (o, l, r))) :
    P (normR cfg (fuel + 1) o l r) := by
  rw [normR.eq_def]; dsimp only
  split
  · refine if_cases (fun hc => ?_) (fun _ => keep)
    split
    · exact move _ _ _ _ _ _ _ rfl hc ‹_›
    · exact keep
  · refine if_cases (fun hc => ?_) (fun _ => keep)
    split
    · exact unary _ _ _ _ _ _ rfl hc ‹_›
    · exact keep
  · exact keep

/-! ### The steps of the induction -/

section steps
variable {cfg} {fuel : Nat} (ih : WidthIH cfg fuel)
include ih

theorem callUop_step (o : Op) (r : Expr) (hr : WF r) : Post r.size (callUop cfg (fuel + 1) o r) := by
  rw [callUop.eq_def]; dsimp only
  split
  · exact ih.apiNeg r hr
  · exact ih.apiNot r hr
  · exact Post_ok hr rfl
  · exact Post_error _ _

theorem operU_step (o : Op) (r : Expr) (hr : WF r) : Post r.size (operU cfg (fuel + 1) o r) := by
  rw [operU.eq_def]; dsimp only
  have : WF (mkUop o r) := by
    simp only [mkUop, WF]; exact ⟨WF_size_pos r hr, hr, trivial⟩
  exact ih.simplify {} (mkUop o r) this

theorem apiNeg_step (x : Expr) (hx : WF x) : Post x.size (apiNeg cfg (fuel + 1) x) := by
  rw [apiNeg.eq_def]; dsimp only
  split
  · exact Post_ok (WF_mkCst _ _ (WF_size_pos _ hx)) rfl
  · exact ih.operU _ _ hx

theorem apiNot_step (x : Expr) (hx : WF x) : Post x.size (apiNot cfg (fuel + 1) x) := by
  rw [apiNot.eq_def]; dsimp only
  split
  · exact Post_ok (WF_mkCst _ _ (WF_size_pos _ hx)) rfl
  · exact ih.operU _ _ hx

theorem oper_step (o : Op) (l r : Expr) (hl : WF l) (hr : WF r) (h4 : o.type = 4 → l.size = r.size) :
    Post (resSize o l) (oper cfg (fuel + 1) o l r) := by
  rw [oper.eq_def]; dsimp only
  apply Post_bind
  intro e he
  obtain ⟨h1, h2⟩ := mkOp_spec o l r e hl hr h4 he
  exact h2 ▸ ih.simplify {} e h1

theorem apiExp_step (o : Op) (l r : Expr) (hl : WF l) (hr : WF r) (h4 : o.type = 4 → l.size = r.size) :
    Post (resSize o l) (apiExp cfg (fuel + 1) o l r) := by
  rw [apiExp.eq_def]; dsimp only
  split <;> first
    | exact ih.oper _ l r hl hr h4
    | (split
       · first
         | exact Post_ok WF_bit1 rfl
         | exact Post_ok WF_bit0 rfl
       · exact ih.oper _ l r hl hr h4)

theorem api_step (o : Op) (l r : Expr) (hl : WF l) (hr : WF r) (h4 : o.type = 4 → l.size = r.size) :
    Post (resSize o l) (api cfg (fuel + 1) o l r) := by
  rw [api.eq_def]; dsimp only
  split
  · rename_i lv ls lf
    split
    · exact Post_error _ _
    · split
      · exact cstApi_post o _ _ _ _ _ _ hl.1
      · exact ih.apiExp o _ r hl hr h4
  · exact ih.apiExp o l r hl hr h4

theorem helperCmp_step (o : Op) (x y : Expr) (hx : WF x) (hy : WF y) (hs : x.size = y.size) (ho : o.type = 4) :
    Post 1 (helperCmp cfg (fuel + 1) o x y) := by
  rw [helperCmp.eq_def]; dsimp only
  split
  · refine Post_of_eq (ih.api _ _ _ ((WF_setSf _ _).mpr hx) ((WF_setSf _ _).mpr hy)
      (fun _ => by rw [size_setSf, size_setSf]; exact hs)) ?_
    split <;> rfl
  · intro e he
    exact (if_pos ho : resSize o x = 1) ▸ mkOp_spec o x y e hx hy (fun _ => hs) he

theorem helperRot_step (o : Op) (x n : Expr) (hx : WF x) (hn : WF n) (ho : o.type = 8) :
    Post x.size (helperRot cfg (fuel + 1) o x n) := by
  rw [helperRot.eq_def]; dsimp only
  -- a shift of `x` (or of `x` unsigned) by a constant, then `t1 | t2`: all of the width of `x`
  have shift : ∀ (o' : Op) (y : Expr) (k : Nat), o'.type = 8 → WF y → y.size = x.size →
      Post x.size (api cfg fuel o' y (mkCst (k : Int) x.size)) := fun o' y k h8 hy hs =>
    Post_of_eq (ih.api o' y _ hy (WF_mkCst _ _ (WF_size_pos _ hx)) (fun h => by omega)) ((resSize_shift o' y h8).trans hs)
  have tail : ∀ t1 t2 : Expr, WF t1 ∧ t1.size = x.size → WF t2 ∧ t2.size = x.size →
      Post x.size (api cfg fuel Op.or t1 t2) := fun t1 t2 h1 h2 =>
    Post_of_eq (ih.api Op.or t1 t2 h1.1 h2.1 (fun h => nomatch h)) h1.2
  split
  · split
    · apply Post_bind; intro t1 ht1
      apply Post_bind; intro t2 ht2
      exact tail t1 t2 (shift Op.lsr x _ rfl hx rfl t1 ht1) (shift Op.lsl _ _ rfl ((WF_setSf _ _).mpr hx) (size_setSf _ _) t2 ht2)
    · apply Post_bind; intro t1 ht1
      apply Post_bind; intro t2 ht2
      exact tail t1 t2 (shift Op.lsl x _ rfl hx rfl t1 ht1) (shift Op.lsr x _ rfl hx rfl t2 ht2)
  · intro e he
    exact resSize_shift o x ho ▸ mkOp_spec o x n e hx hn (fun h => by omega) he

theorem callOp_step (o : Op) (l r : Expr) (hl : WF l) (hr : WF r) (h4 : o.type = 4 → l.size = r.size) :
    Post (resSize o l) (callOp cfg (fuel + 1) o l r) := by
  rw [callOp.eq_def]; dsimp only
  split
  · exact ih.helperCmp Op.ltu _ _ hl hr (h4 rfl) rfl
  · exact ih.helperCmp Op.geu _ _ hl hr (h4 rfl) rfl
  · exact ih.helperRot Op.ror _ _ hl hr rfl
  · exact ih.helperRot Op.rol _ _ hl hr rfl
  · exact Post_error _ _
  · exact ih.api o _ _ hl hr h4

theorem giSpec_of_ih : GiSpec (fun y a b => getitem cfg fuel y (a : Int) (b : Int)) := by
  intro x a b r hx hab hb h
  have := ih.getitem x a b hx r h
  refine ⟨this.1, ?_⟩
  rw [this.2]; omega

theorem siSpec_of_ih : SiSpec (fun c a b v => setitem cfg fuel c (a : Int) (b : Int) v) := by
  intro n sf ps a b v r hd hw hv h
  obtain ⟨ps', h1, h2, h3, h4, h5, h6, h7⟩ := ih.setitem n sf ps a b v r hd hw hv h
  refine ⟨ps', h1, h2, h3, by omega, by omega, ?_⟩
  intro x
  rw [h7 x]
  split_ifs <;> omega

theorem mkSlc_step (x : Expr) (pos size : Nat) (hx : WF x) (hs : 0 < size) (hp : pos + size ≤ x.size) :
    Post size (mkSlc cfg (fuel + 1) x pos size) := by
  rw [mkSlc.eq_def]; dsimp only
  split
  · apply Post_bind; intro res hres
    have := ih.getitem _ _ _ hx res hres
    have hsz : res.size = size := by rw [this.2]; omega
    split
    · rename_i x2 p2 s2 f2 r2 k2
      have hw := this.1
      simp only [WF] at hw
      simp only [size_slc] at hsz
      subst hsz
      exact Post_ok (by simp only [WF]; exact hw) rfl
    · exact Post_ok (by simp only [WF]; exact ⟨hx, hs, hp⟩) rfl
  · exact Post_ok (by simp only [WF]; exact ⟨hx, hs, hp⟩) rfl

theorem slicer_step (x : Expr) (pos size : Nat) (hx : WF x) (hs : 0 < size) (hp : pos + size ≤ x.size) :
    Post size (slicer cfg (fuel + 1) x pos size) := by
  rw [slicer.eq_def]; dsimp only
  split
  · exact Post_ok (WF_mkTop hs) rfl
  · split
    · rename_i h
      simp only [Bool.and_eq_true, beq_iff_eq] at h
      exact Post_ok hx h.2.symm
    · split
      · exact Post_setSf _ (Post_of_eq (ih.getitem _ _ _ hx) (by omega))
      · exact ih.mkSlc x pos size hx hs hp

theorem getitem_step (x : Expr) (a b : Int) (hx : WF x) : Post (b - a).toNat (getitem cfg (fuel + 1) x a b) := by
  cases hcs : checkSlice x.size a b
  · rw [getitem_bad hcs]; exact Post_error _ _
  obtain ⟨h0, hab, hbn⟩ := checkSlice_ok hcs
  have e : (b - a).toNat = b.toNat - a.toNat := by omega
  rw [e]
  have hpos : 0 < b.toNat - a.toNat := by omega
  have elems : ∀ (l l' : List Expr) (s : Nat) (v : Expr), l ≠ [] → WFList l s →
      l.mapM (fun y => getitem cfg fuel y a b) = .ok l' → mkVec l' = .ok v → WF v ∧ v.size = b.toNat - a.toNat :=
    fun l l' s v hne hl => mapM_mkVec_spec _ l l' s _ v hpos hne hl
      (fun y r hy h => by have := ih.getitem y a b hy.1 r h; exact ⟨this.1, by rw [this.2]; omega⟩)
  apply getitem_cases hcs
  case ofCst => exact fun _ _ _ _ => Post_ok (WF_mkCst _ _ hpos) rfl
  case key =>
    rintro size sf parts p rfl hf
    simp only [WF] at hx
    have hm := findKey_some_mem hf
    exact Post_ok ((WFParts_iff parts).mp hx.2.2 _ hm) (hx.2.1.1 _ hm).2.2
  case whole =>
    rintro size sf parts rfl h1 h2
    exact Post_ok hx (by simp only [size_comp]; omega)
  case ofComp =>
    rintro size sf parts rfl _
    simp only [WF] at hx
    obtain ⟨hsz, ht, hwp⟩ := hx
    simp only [size_comp] at hbn
    apply Post_bind; intro res hres
    obtain ⟨rps, rfl, htl, hwr, _⟩ := compGetLoop_inv _ _ (giSpec_of_ih ih) (siSpec_of_ih ih) size parts ht
      ((WFParts_iff parts).mp hwp) (stop := b.toNat) (l := b.toNat - a.toNat) (sta := a.toNat) (by omega) (by omega) sf
      (J := fun _ _ => True) (hJ := fun _ _ _ _ _ _ _ _ _ _ _ _ _ _ _ _ => trivial)
      (k := b.toNat - a.toNat) (b := 0) (rps := []) (res := res)
      (by omega) (by omega) (Disj_nil _) (fun _ h => nomatch h) (by intro x; simp [cnt]) trivial hres
    obtain ⟨r1, r2, r3⟩ := restruct_spec _ rps htl.disj hwr
    have htr : Tiles (b.toNat - a.toNat) (restruct rps) :=
      tiles_of_disj_cnt r1 (fun x hx => by rw [r3 x]; exact htl.2 x hx)
    dsimp only
    split
    · exact Post_error _ _
    · rename_i lo hi p heq
      rw [heq] at htr r2
      exact Post_ok (r2 _ List.mem_cons_self) (Tiles.single hpos htr)
    · exact Post_ok (by simp only [WF]; exact ⟨hpos, htr, (WFParts_iff _).mpr r2⟩) rfl
  case same =>
    rintro x' p s f r k rfl h1 h2
    exact Post_ok hx (by simp only [size_slc]; omega)
  case ofSlc =>
    rintro x' p s f r k rfl
    simp only [WF] at hx
    simp only [size_slc] at hbn
    exact ih.slicer x' _ _ hx.1 hpos (by omega)
  case ofMem => exact fun _ _ _ _ _ _ r hr => memGetitem_spec _ _ _ r hx (by omega) (by omega) hr
  case ofVec =>
    rintro l s f rfl
    simp only [WF] at hx
    apply Post_bind; intro l' hl'
    exact fun v hv => elems l l' s v hx.2.1 hx.2.2 hl' hv
  case ofVecw =>
    rintro l s f rfl
    simp only [WF] at hx
    apply Post_bind; intro l' hl'
    apply Post_bind; intro v hv
    have hvs := elems l l' s v hx.2.1 hx.2.2 hl' hv
    split
    · have hw := hvs.1
      simp only [WF] at hw
      exact Post_ok (by simp only [WF]; exact hw) hvs.2
    · exact Post_error _ _
  case other => exact ih.slicer x _ _ hx hpos (by omega)

theorem setitem_foldK (n : Nat) (sf : Bool) (ka kb : Part → Nat) (step : Expr → Part → R Expr) :
    ∀ (L : List Part),
      (∀ c p r, p ∈ L → step c p = .ok r → ∃ v, WF v ∧ setitem cfg fuel c (ka p : Int) (kb p : Int) v = .ok r) →
      ∀ (ps : List Part) (r : Expr), Disj n ps → (∀ p ∈ ps, WF p.2.2) →
      L.foldlM step (Expr.comp n sf ps) = .ok r →
      ∃ ps', r = .comp n sf ps' ∧ Disj n ps' ∧ (∀ p ∈ ps', WF p.2.2) ∧
        ∀ x, cnt x ps' = if (∃ p ∈ L, ka p ≤ x ∧ x < kb p) then 1 else cnt x ps := by
  intro L
  induction L with
  | nil =>
    intro _ ps r hd hw h
    simp only [List.foldlM_nil, pure, Except.pure] at h
    cases h
    exact ⟨ps, rfl, hd, hw, by intro x; simp⟩
  | cons q tl ihl =>
    intro hstep ps r hd hw h
    rw [List.foldlM_cons] at h
    obtain ⟨c1, h1, h⟩ := bind_ok h
    obtain ⟨v, hv, hset⟩ := hstep _ q c1 List.mem_cons_self h1
    obtain ⟨ps1, rfl, hd1, hw1, _, _, _, hc1⟩ := ih.setitem n sf ps _ _ _ c1 hd hw hv hset
    obtain ⟨ps', hr, hd', hw', hc'⟩ := ihl (fun c p r hp => hstep c p r (List.mem_cons_of_mem _ hp)) ps1 r hd1 hw1 h
    refine ⟨ps', hr, hd', hw', fun x => ?_⟩
    rw [hc' x, hc1 x]
    have e : (((ka q : Nat) : Int) ≤ (x : Int) ∧ (x : Int) < ((kb q : Nat) : Int)) ↔ (ka q ≤ x ∧ x < kb q) := by omega
    simp only [e, List.mem_cons, exists_eq_or_imp]
    by_cases hB : ∃ p ∈ tl, ka p ≤ x ∧ x < kb p
    · rw [if_pos hB, if_pos (.inr hB)]
    · rw [if_neg hB]
      by_cases hA : ka q ≤ x ∧ x < kb q
      · rw [if_pos hA, if_pos (.inl hA)]
      · rw [if_neg hA, if_neg (not_or.mpr ⟨hA, hB⟩)]

theorem setitem_step (n : Nat) (sf : Bool) (ps : List Part) (a b : Int) (v r : Expr) (hd : Disj n ps)
    (hw : ∀ p ∈ ps, WF p.2.2) (hv : WF v) (h : setitem cfg (fuel + 1) (.comp n sf ps) a b v = .ok r) :
    ∃ ps', r = .comp n sf ps' ∧ Disj n ps' ∧ (∀ p ∈ ps', WF p.2.2) ∧ 0 ≤ a ∧ a < b ∧ b ≤ n ∧
      ∀ x : Nat, cnt x ps' = if a ≤ (x : Int) ∧ (x : Int) < b then 1 else cnt x ps := by
  refine setitem_cases (P := fun res => res = .ok r → _) ?bad ?badSize ?flat ?part ?partErr h
  case bad => exact fun _ _ h => nomatch h
  case badSize => exact fun _ _ h => nomatch h
  case partErr => exact fun _ _ h => nomatch h
  case flat =>
    rintro vs vsf vparts rfl hcs hsz h
    obtain ⟨h0, hab, hbn⟩ := checkSlice_ok hcs
    simp only [WF] at hv
    obtain ⟨hvpos, hvt, hvw⟩ := hv
    simp only [size_comp] at hsz
    obtain ⟨ps', hr, hd', hw', hc'⟩ := setitem_foldK ih n sf (a.toNat + ·.1) (a.toNat + ·.2.1) _ vparts
      (fun c p r hp hs => ⟨p.2.2, (WFParts_iff _).mp hvw p hp, hs⟩) ps r hd hw h
    refine ⟨ps', hr, hd', hw', h0, hab, hbn, ?_⟩
    intro x
    rw [hc' x]
    have key : (∃ p ∈ vparts, a.toNat + p.1 ≤ x ∧ x < a.toNat + p.2.1) ↔ (a ≤ (x : Int) ∧ (x : Int) < b) := by
      constructor
      · rintro ⟨p, hp, h1, h2⟩
        have := hvt.1 p hp
        omega
      · intro hx
        obtain ⟨p, hm, h1, h2⟩ := (tiles_exists hvt (x - a.toNat)).mpr (by omega)
        exact ⟨p, hm, by omega, by omega⟩
    by_cases hx : (a ≤ (x : Int) ∧ (x : Int) < b)
    · rw [if_pos (key.mpr hx), if_pos hx]
    · rw [if_neg (mt key.mp hx), if_neg hx]
  case part =>
    intro ps' hcs hsz hsp h
    obtain ⟨h0, hab, hbn⟩ := checkSlice_ok hcs
    cases h
    obtain ⟨r1, r2, r3⟩ := setPart_spec _ (giSpec_of_ih ih) n a.toNat b.toNat v ps ps' hd hw hv hsz (by omega) (by omega) hsp
    refine ⟨ps', rfl, r1, r2, h0, hab, hbn, ?_⟩
    intro x
    rw [r3 x]
    split_ifs <;> omega

theorem composer_fold (s : Nat) (sf : Bool) :
    ∀ (L : List Expr) (ps : List Part) (pos : Nat) (c : Expr) (pos' : Nat), Disj s ps → (∀ p ∈ ps, WF p.2.2) →
      (∀ x ∈ L, WF x) → (∀ x, cnt x ps = if x < pos then 1 else 0) →
      L.foldlM (fun (st : Expr × Nat) (x : Expr) => do
          let c ← setitem cfg fuel st.1 (st.2 : Int) ((st.2 + x.size : Nat) : Int) x
          pure (c, st.2 + x.size)) (Expr.comp s sf ps, pos) = .ok (c, pos') →
      ∃ ps', c = .comp s sf ps' ∧ Disj s ps' ∧ (∀ p ∈ ps', WF p.2.2) ∧ pos' = pos + L.foldl (fun a x => a + x.size) 0
        ∧ (∀ x, cnt x ps' = if x < pos' then 1 else 0) ∧ (L ≠ [] → pos' ≤ s) := by
  intro L
  induction L with
  | nil =>
    intro ps pos c pos' hd hw _ hc h
    simp only [List.foldlM_nil, pure, Except.pure] at h
    cases h
    exact ⟨ps, rfl, hd, hw, by simp, hc, by intro h; exact absurd rfl h⟩
  | cons y tl ihl =>
    intro ps pos c pos' hd hw hL hc h
    rw [List.foldlM_cons] at h
    obtain ⟨st, hst, h⟩ := bind_ok h
    obtain ⟨c1, h1, hst⟩ := bind_ok hst
    cases hst
    obtain ⟨hLy, hLtl⟩ := List.forall_mem_cons.mp hL
    obtain ⟨ps1, rfl, hd1, hw1, _, _, hle, hc1⟩ := ih.setitem s sf ps _ _ _ c1 hd hw hLy h1
    have hc1' : ∀ x, cnt x ps1 = if x < pos + y.size then 1 else 0 := by
      intro x
      rw [hc1 x, hc x]
      split_ifs <;> omega
    obtain ⟨ps', hr, hd', hw', hp', hc', hle'⟩ := ihl ps1 (pos + y.size) c pos' hd1 hw1 hLtl hc1' h
    refine ⟨ps', hr, hd', hw', ?_, hc', fun _ => ?_⟩
    · rw [hp']; simp only [List.foldl_cons, Nat.zero_add]; rw [foldl_add_size tl y.size]; omega
    · by_cases ht : tl = []
      · subst ht; simp at hp'; omega
      · exact hle' ht

theorem composer_step (parts : List Expr) (hp : ∀ x ∈ parts, WF x) :
    Post (parts.foldl (fun a x => a + x.size) 0) (composer cfg (fuel + 1) parts) := by
  rw [composer.eq_def]; dsimp only
  split
  · exact Post_error _ _
  · rename_i x
    exact Post_ok (hp x List.mem_cons_self) (by simp)
  · rename_i hne1 hne2
    apply Post_bind; intro st hst
    obtain ⟨c, pos'⟩ := st
    obtain ⟨ps', rfl, hd', hw', hp', hc', hle'⟩ := composer_fold ih _ _ parts [] 0 c pos' (Disj_nil _)
      (fun _ h => nomatch h) hp (by intro x; simp [cnt]) (by simpa using hst)
    simp only [Nat.zero_add] at hp'
    have hpos := foldl_size_pos (fun h => hne1 h) hp
    exact ih.simplify {} _ (WF_comp_of_cnt _ hpos hd' hw' fun x hx => by rw [hc' x, hp']; simp [hx])

theorem extendExp_step (sign : Bool) (x : Expr) (size : Nat) (hx : WF x) :
    Post (max size x.size) (extendExp cfg (fuel + 1) sign x size) := by
  rw [extendExp.eq_def]; dsimp only
  have hxp := WF_size_pos x hx
  split
  · rename_i h
    exact Post_ok hx (by omega)
  · rename_i h
    apply Post_bind; intro sb hsb
    have hs := ih.getitem x _ _ hx sb hsb
    have hs1 : sb.size = 1 := by rw [hs.2]; omega
    have hxt : 0 < size - x.size := by omega
    have hxxw : WF (extFill sign sb (size - x.size)) ∧ (extFill sign sb (size - x.size)).size = size - x.size := by
      unfold extFill
      split
      · simp only [WF, size_tst, size_mkCst']
        exact ⟨⟨hxt, hs.1, WF_mkCst _ _ hxt, WF_mkCst _ _ hxt, hs1, trivial, trivial⟩, trivial⟩
      · simp only [WF, size_cst]
        exact ⟨⟨hxt, Nat.two_pow_pos _⟩, trivial⟩
    have := ih.composer [x, extFill sign sb (size - x.size)]
      (by intro y hy; simp at hy; rcases hy with rfl | rfl; exact hx; exact hxxw.1)
    simp only [List.foldl_cons, List.foldl_nil, Nat.zero_add, hxxw.2] at this
    have e : x.size + (size - x.size) = max size x.size := by omega
    rw [e] at this
    exact this

theorem eqn1_step (o : Op) (r : Expr) (size : Nat) (sf : Bool) (prop : Nat) (hr : WF r) (hsz : size = r.size) :
    Post size (eqn1 cfg (fuel + 1) o r size sf prop) := by
  have hself : Post size (Except.ok (uop o r size sf prop)) :=
    Post_ok (by simp only [WF]; exact ⟨hsz ▸ WF_size_pos r hr, hr, hsz⟩) rfl
  apply eqn1_cases
  case ofCst =>
    exact fun _ _ _ _ => Post_setSf sf (Post_of_eq (ih.callUop o _ hr) hsz.symm)
  case ofVec =>
    rintro l s f rfl
    apply Post_bind; intro l' hl'
    simp only [WF] at hr
    simp only [size_vec] at hsz
    intro v hv
    exact hsz ▸ mapM_mkVec_spec _ l l' s s v hr.1 hr.2.1 hr.2.2
      (fun y r' hy h => by have := ih.callUop o y hy.1 r' h; exact ⟨this.1, by rw [this.2]; exact hy.2⟩) hl' hv
  case signPos =>
    rintro ro rr rs rf rp rfl _
    simp only [WF] at hr
    simp only [size_uop] at hsz
    exact Post_ok hr.2.1 (by omega)
  case signNeg =>
    rintro ro rr rs rf rp rfl _
    simp only [WF] at hr
    simp only [size_uop] at hsz
    exact Post_of_eq (ih.apiNeg rr hr.2.1) (by omega)
  case negSum =>
    rintro ro rl rr rs rf rp x rfl _ hx
    obtain ⟨_, t2, t3, _, n2, n3⟩ := pm_types hx
    obtain ⟨_, _, hrl, hrr, e1, _⟩ := (WF_arith_iff t2 n2 ..).mp hr
    apply Post_bind; intro l hl
    have hlw := ih.apiNeg rl hrl l hl
    exact Post_of_eq (ih.api x l rr hlw.1 hrr fun h => by omega)
      ((resSize_type1 l t3 n3).trans ((hlw.2.trans e1).trans hsz.symm))
  case notCmp =>
    rintro ro rl rr rs rf rp rfl _ h4
    have hr' := (WF_op_iff _ _ _ _ _ _).mp hr
    simp only [size_op] at hsz
    have h1 : size = 1 := by rw [hsz, hr'.2.2.2.2.1]; simp [resSize, h4]
    have heq : rl.size = rr.size := hr'.2.2.2.2.2 (by omega)
    subst h1
    split
    all_goals first
      | exact hself
      | exact ih.api _ rl rr hr'.2.2.1 hr'.2.2.2.1 (fun _ => heq)
      | exact ih.helperCmp _ rl rr hr'.2.2.1 hr'.2.2.2.1 heq rfl
  case keep => exact hself

theorem eqn2tail_step (opts : Opts) (o : Op) (l r : Expr) (size : Nat) (sf : Bool) (prop : Nat)
    (hw : WF (.op o l r size sf prop)) : Post size (eqn2tail cfg (fuel + 1) opts o l r size sf prop) := by
  obtain ⟨hpos, hp, hl, hr, hs, heq⟩ := (WF_op_iff _ _ _ _ _ _).mp hw
  have distrib : ∀ (f : Expr → R Expr) (L : List Expr) (s : Nat), L ≠ [] → WFList L s →
      (∀ y, WF y ∧ y.size = s → Post size (f y)) → Post size (do
        let xs ← L.mapM f
        let v ← mkVec xs
        simplify cfg fuel { widening := opts.widening } v) := by
    intro f L s hne hL hf
    apply Post_bind; intro xs hxs
    apply Post_bind; intro v hv
    have hvs := mapM_mkVec_spec f L xs s size v hpos hne hL (fun y r' hy h => hf y hy r' h) hxs hv
    exact hvs.2 ▸ ih.simplify _ v hvs.1
  apply eqn2tail_cases
  case vecL =>
    rintro ll ls lf rfl
    simp only [WF] at hl
    refine distrib _ ll ls hl.2.1 hl.2.2 ?_
    intro y hy
    refine Post_of_eq (ih.callOp o y r hy.1 hr (by intro h4; rw [hy.2]; exact heq (by omega))) ?_
    rw [hs]; exact resSize_congr o hy.2
  case vecR =>
    rintro rl rs rf rfl
    simp only [WF] at hr
    refine distrib _ rl rs hr.2.1 hr.2.2 ?_
    intro y hy
    exact Post_of_eq (ih.callOp o l y hl hy.1 (by intro h4; rw [hy.2]; exact heq (by omega))) hs.symm
  case same0 =>
    intro _ h
    refine Post_ok WF_bit0 ?_
    rcases h with rfl | rfl | rfl <;> exact hs.symm
  case same1 =>
    intro _ h
    refine Post_ok (e := if sf = true then cst 1 1 true else bit1) (by split <;> simp [WF, bit1]) ?_
    have e1 : (if sf = true then cst 1 1 true else bit1).size = 1 := by split <;> rfl
    rw [e1]
    rcases h with rfl | rfl | rfl <;> exact hs.symm
  case sameZ => exact fun _ _ => Post_ok (by simp only [WF]; exact ⟨hpos, Nat.two_pow_pos _⟩) rfl
  case sameL =>
    intro _ h
    refine Post_ok hl ?_
    rcases h with rfl | rfl <;> exact hs.symm
  case keep => exact Post_ok hw rfl

theorem eqn2snd_step (opts : Opts) (o : Op) (l : Expr) (rv rs : Nat) (rf : Bool) (size : Nat) (sf : Bool) (prop : Nat)
    (hw : WF (.op o l (.cst rv rs rf) size sf prop)) :
    Post size (eqn2snd cfg (fuel + 1) opts o l rv rs rf size sf prop) := by
  obtain ⟨hpos, hp, hl, hr, hs, heq⟩ := (WF_op_iff _ _ _ _ _ _).mp hw
  -- in the `== bit` rules everything is one bit wide
  have bit1 : rs = 1 → o = Op.eq ∨ o = Op.neq → l.size = size := by
    intro h1 h
    have e1 : size = 1 := by rcases h with rfl | rfl <;> exact hs
    have e2 := heq (by rcases h with rfl | rfl <;> decide)
    simp only [size_cst] at e2
    omega
  apply eqn2snd_cases
  case opPm =>
    rintro lo ll lr ls lf lp x rfl hx _
    obtain ⟨t1, t2, t3, n1, n2, n3⟩ := pm_types hx
    obtain ⟨_, hp1, _, _, e1, _⟩ := (WF_arith_iff t1 n1 ..).mp hw
    obtain ⟨_, _, hll, hlr, e3, e4⟩ := (WF_arith_iff t2 n2 ..).mp hl
    apply Post_bind; intro cc hcc
    have hc := ih.api x lr (.cst rv rs rf) hlr hr (fun h => by omega) cc hcc
    exact Post_ok ((WF_arith_iff t2 n2 ..).mpr
      ⟨hpos, hp1, hll, hc.1, e3.trans e1, (hc.2.trans (resSize_type1 lr t3 n3)).trans (e4.trans e1)⟩) rfl
  case uopPm =>
    rintro lo lr ls lf lp x rfl hx _
    obtain ⟨t1, t2, t3, n1, n2, n3⟩ := pm_types hx
    obtain ⟨_, hp1, _, _, e1, _⟩ := (WF_arith_iff t1 n1 ..).mp hw
    have hl' := hl
    simp only [WF] at hl'
    apply Post_bind; intro cc hcc
    have hc := ih.api x lr (.cst rv rs rf) hl'.2.1 hr (fun h => by omega) cc hcc
    exact Post_ok ((WF_arith_iff t2 n2 ..).mpr
      ⟨hpos, hp1, hl, hc.1, e1, (hc.2.trans (resSize_type1 lr t3 n3)).trans (hl'.2.2.symm.trans e1)⟩) rfl
  case keep => exact Post_ok hw rfl
  case isL =>
    intro h1 h
    exact Post_ok hl (bit1 h1 (h.imp And.left And.left))
  case notL =>
    intro h1 h
    exact Post_of_eq (ih.apiNot l hl) (bit1 h1 (h.imp And.left And.left))
  case ofPtr => exact fun _ _ _ _ _ _ _ => Post_error _ _
  case ofComp =>
    rintro lsize lsf lparts rfl hop
    have ht2 : o.type = 2 ∧ o ≠ Op.mul2 := by rcases hop with rfl | rfl | rfl <;> decide
    have hl' := hl
    simp only [WF] at hl'
    obtain ⟨hlpos, hlt, hlw⟩ := hl'
    have hlw' := (WFParts_iff _).mp hlw
    have hsz : size = lsize := by rw [hs]; simp [resSize, ht2.1, ht2.2]
    apply Post_bind; intro cc hcc
    obtain ⟨ps', rfl, hd', hw', hc'⟩ := setitem_foldK ih lsize sf (·.1) (·.2.1) _ lparts (by
        intro c p r hp hstep
        obtain ⟨rp, h1, hstep⟩ := bind_ok hstep
        obtain ⟨v, h2, hstep⟩ := bind_ok hstep
        exact ⟨v, (ih.callOp o p.2.2 rp (hlw' p hp) (ih.getitem _ _ _ hr rp h1).1 (fun h => by omega) v h2).1, hstep⟩)
      [] cc (Disj_nil _) (fun _ h => nomatch h) hcc
    exact Post_of_eq (ih.simplify { bitslice := opts.bitslice } _ (WF_comp_of_cnt sf hlpos hd' hw'
      fun x hx => by rw [hc' x, if_pos ((tiles_exists hlt x).mpr hx)])) hsz.symm
  case ofCst =>
    exact fun _ _ _ _ => Post_setSf sf (Post_of_eq (ih.callOp o _ _ hl hr fun h => heq (by omega)) hs.symm)
  case tail => exact ih.eqn2tail opts o l (.cst rv rs rf) size sf prop hw

theorem zeroThenPiece_post (n : Nat) (sf : Bool) (l : Expr) (i j a b : Int) (hn : 0 < n) (hl : WF l) :
    PostO n (zeroThenPiece cfg fuel n sf l i j a b) := by
  apply PostO_bind; intro c1 h1
  apply PostO_bind; intro piece hpc
  apply PostO_bind; intro c2 h2
  apply PostO_bind; intro y hy
  obtain ⟨ps1, rfl, hd1, hw1, _, _, _, hc1⟩ := ih.setitem n sf [] 0 n (cst 0 n false) c1 (Disj_nil _)
    (fun _ h => nomatch h) (by simp only [WF]; exact ⟨hn, Nat.two_pow_pos _⟩) h1
  obtain ⟨ps2, rfl, hd2, hw2, _, _, _, hc2⟩ := ih.setitem n sf ps1 a b piece c2 hd1 hw1 (ih.getitem l i j hl piece hpc).1 h2
  have := ih.simplify {} _ (WF_comp_of_cnt sf hn hd2 hw2 fun x hx => by
    have : ((0 : Int) ≤ (x : Int) ∧ (x : Int) < (n : Int)) := by omega
    rw [hc2 x, hc1 x, if_pos this]
    split <;> rfl) y hy
  exact PostO_some this.1 this.2

theorem composeBits_post (sf : Bool) (bits : List Expr) (n : Nat) (hb : ∀ y ∈ bits, WF y ∧ y.size = 1)
    (hn : bits.length = n) : PostO n (composeBits cfg fuel sf bits) := by
  apply PostO_bind; intro c hc
  have := ih.composer bits (fun y hy => (hb y hy).1) c hc
  rw [foldl_size_ones bits (fun y hy => (hb y hy).2), hn] at this
  exact PostO_some (WF_setSf_if c sf this.1) (by rw [size_setSf_if]; exact this.2)

theorem eqn2cst_step (opts : Opts) (o : Op) (l : Expr) (rv rs : Nat) (rf : Bool) (size : Nat) (sf : Bool) (prop : Nat)
    (hw : WF (.op o l (.cst rv rs rf) size sf prop)) :
    PostO size (eqn2cst cfg (fuel + 1) opts o l rv rs rf size sf) := by
  obtain ⟨hpos, hp, hl, hr, hs, heq⟩ := (WF_op_iff _ _ _ _ _ _).mp hw
  have zero : PostO size (pure (some (cst 0 size false))) :=
    PostO_some (by simp only [WF]; exact ⟨hpos, Nat.two_pow_pos _⟩) rfl
  have bits1 : ∀ (L : List Int) (bits : List Expr),
      L.mapM (fun i => getitem cfg fuel l i (i + 1)) = .ok bits → (∀ y ∈ bits, WF y ∧ y.size = 1) ∧ bits.length = L.length :=
    fun L bits h => mapM_spec _ (fun _ => True) (fun y => WF y ∧ y.size = 1)
      (fun i y _ hy => by have := ih.getitem l i (i + 1) hl y hy; exact ⟨this.1, by rw [this.2]; omega⟩) L bits (fun _ _ => trivial) h
  have bit0s1 : ∀ y ∈ bit0s rv, WF y ∧ y.size = 1 := fun y hy => by
    rw [(List.mem_replicate.mp hy).2]; exact ⟨WF_bit0, rfl⟩
  apply eqn2cst_cases
  case decline => exact PostO_none _
  case zeroR =>
    intro _ h
    refine PostO_some hl ?_
    rcases h with rfl | rfl | rfl | rfl | rfl | rfl | rfl | rfl <;> exact hs.symm
  case zeroA => exact fun _ _ => zero
  case eqExt =>
    rintro _ rfl _
    exact PostO_some WF_bit0 hs.symm
  case neqExt =>
    rintro _ rfl _
    exact PostO_some WF_bit1 hs.symm
  case one =>
    intro _ h
    refine PostO_some hl ?_
    rcases h with rfl | rfl <;> exact hs.symm
  case one2 =>
    rintro _ rfl
    apply PostO_bind; intro y hy
    have := ih.extendExp l.sf l size hl y hy
    have e : size = 2 * l.size := hs
    exact PostO_some this.1 (by rw [this.2]; omega)
  case mask => exact fun i1 i2 _ _ => zeroThenPiece_post ih size sf l _ _ _ _ hpos hl
  case bitsL =>
    intro _ h
    apply PostO_bind; intro bits hbits
    have hb := mapM_spec (fun (i : Int) => do
        let a ← getitem cfg fuel l i (i + 1)
        let b ← getitem cfg fuel (cst rv rs rf) i (i + 1)
        callOp cfg fuel o a b) (fun _ => True) (fun y => WF y ∧ y.size = 1)
      (by
        intro i y _ hy
        obtain ⟨a, ha, hy⟩ := bind_ok hy
        obtain ⟨b, hbb, hy⟩ := bind_ok hy
        have h1 := ih.getitem l i (i + 1) hl a ha
        have h2 := ih.getitem _ i (i + 1) hr b hbb
        have h3 := ih.callOp o a b h1.1 h2.1 (fun _ => h1.2.trans h2.2.symm) y hy
        have : a.size = 1 := by rw [h1.2]; omega
        exact ⟨h3.1, h3.2.trans (by rcases h with rfl | rfl | rfl <;> exact this)⟩)
      (pyRange 0 size) bits (fun _ _ => trivial) hbits
    exact composeBits_post ih sf bits size hb.1 (by rw [hb.2, length_pyRange]; omega)
  case out => exact fun _ _ => zero
  case bitsShl =>
    rintro _ rfl hlt
    have hsz : l.size = size := hs.symm
    apply PostO_bind; intro bits hbits
    have hb := bits1 _ bits hbits
    refine composeBits_post ih sf (bit0s rv ++ bits) size (List.forall_mem_append.mpr ⟨bit0s1, hb.1⟩) ?_
    rw [List.length_append, hb.2, length_pyRange]; simp [bit0s]; omega
  case bitsShr =>
    rintro _ rfl hlt
    have hsz : l.size = size := hs.symm
    apply PostO_bind; intro bits hbits
    have hb := bits1 _ bits hbits
    refine composeBits_post ih sf (bits ++ bit0s rv) size (List.forall_mem_append.mpr ⟨hb.1, bit0s1⟩) ?_
    rw [List.length_append, hb.2, length_pyRange]; simp [bit0s]; omega
  case shl =>
    rintro rfl _
    exact (hs.symm : l.size = size) ▸ zeroThenPiece_post ih l.size sf l _ _ _ _ (WF_size_pos l hl) hl
  case shr =>
    rintro rfl _
    exact (hs.symm : l.size = size) ▸ zeroThenPiece_post ih l.size sf l _ _ _ _ (WF_size_pos l hl) hl

theorem normL_step (o : Op) (l r : Expr) (size : Nat) (sf : Bool) (prop : Nat)
    (hw : WF (.op o l r size sf prop)) :
    PostT (fun t => WF (.op t.1 t.2.1 t.2.2 size sf prop)) (normL cfg (fuel + 1) o l r) := by
  obtain ⟨hpos, hp, hl, hr, hs, heq⟩ := (WF_op_iff _ _ _ _ _ _).mp hw
  apply normL_cases
  case keep => intro t ht; cases ht; exact hw
  case move =>
    rintro lo ll lr ls lf lp x rfl _ hx
    obtain ⟨t1, t2, t3, n1, n2, n3⟩ := pm_types hx
    obtain ⟨_, hp1, _, _, e1, e2⟩ := (WF_arith_iff t1 n1 ..).mp hw
    obtain ⟨_, _, hll, hlr, e3, e4⟩ := (WF_arith_iff t2 n2 ..).mp hl
    intro t ht
    obtain ⟨nl, hc, ht⟩ := bind_ok ht
    cases ht
    have hn := ih.callOp o ll r hll hr (fun h => by omega) nl hc
    exact (WF_arith_iff t2 n2 ..).mpr
      ⟨hpos, hp1, hn.1, hlr, (hn.2.trans (resSize_type1 ll t1 n1)).trans (e3.trans e1), e4.trans e1⟩

theorem normR_step (o : Op) (l r : Expr) (size : Nat) (sf : Bool) (prop : Nat)
    (hw : WF (.op o l r size sf prop)) :
    PostT (fun t => WF (.op t.1 t.2.1 t.2.2 size sf prop)) (normR cfg (fuel + 1) o l r) := by
  obtain ⟨hpos, hp, hl, hr, hs, heq⟩ := (WF_op_iff _ _ _ _ _ _).mp hw
  apply normR_cases
  case keep => intro t ht; cases ht; exact hw
  case unary => exact fun _ _ _ _ _ _ _ _ _ t ht => nomatch ht
  case move =>
    rintro ro rl rr rs rf rp x rfl _ hx
    obtain ⟨t1, t2, t3, n1, n2, n3⟩ := pm_types hx
    obtain ⟨_, hp1, _, _, e1, e2⟩ := (WF_arith_iff t1 n1 ..).mp hw
    obtain ⟨_, _, hrl, hrr, e3, e4⟩ := (WF_arith_iff t2 n2 ..).mp hr
    intro t ht
    obtain ⟨nl, hc, ht⟩ := bind_ok ht
    cases ht
    have hn := ih.callOp o l rl hl hrl (fun h => by omega) nl hc
    exact (WF_arith_iff t3 n3 ..).mpr
      ⟨hpos, hp1, hn.1, hrr, (hn.2.trans (resSize_type1 l t1 n1)).trans e1, e4.trans e2⟩

omit ih in
theorem WF_normNeg (o : Op) (l r : Expr) (size : Nat) (sf : Bool) (prop : Nat) (h1 : WF (.op o l r size sf prop)) :
    WF (.op (normNeg o r).1 l (normNeg o r).2 size sf prop) := by
  unfold normNeg
  split
  · rename_i ro rr rs rf rp
    split
    · rename_i hc
      simp only [Bool.and_eq_true, beq_iff_eq] at hc
      obtain ⟨rfl, rfl⟩ := hc
      obtain ⟨hpos, hp, hl, hr, hs, heq⟩ := (WF_op_iff _ _ _ _ _ _).mp h1
      simp only [WF] at hr
      have h2 := heq (by simp [Op.type])
      simp only [size_uop] at h2
      show WF (.op Op.sub l rr size sf prop)
      rw [WF_op_iff]
      refine ⟨hpos, by simpa [Op.type] using hp, hl, hr.2.1, by simpa [resSize, Op.type] using hs, ?_⟩
      intro _; omega
    · exact h1
  · exact h1

theorem eqn2norm_step (o : Op) (l r : Expr) (size : Nat) (sf : Bool) (prop : Nat)
    (hw : WF (.op o l r size sf prop)) (o' : Op) (l' r' : Expr)
    (h : eqn2norm cfg (fuel + 1) o l r = .ok (o', l', r')) : WF (.op o' l' r' size sf prop) := by
  rw [eqn2norm.eq_def] at h; dsimp only at h
  obtain ⟨t, h1, h⟩ := bind_ok h
  have w1 := ih.normL o l r size sf prop hw t h1
  exact ih.normR _ _ _ size sf prop (WF_normNeg t.1 t.2.1 t.2.2 size sf prop w1) (o', l', r') h

omit ih in
theorem WF_cplx_top (c : Bool) (e : Expr) (h : WF e) :
    WF (if c = true then mkTop e.size else e) ∧ (if c = true then mkTop e.size else e).size = e.size := by
  split
  · exact ⟨WF_mkTop (WF_size_pos e h), rfl⟩
  · exact ⟨h, rfl⟩

theorem eqn2_step (opts : Opts) (o : Op) (l r : Expr) (size : Nat) (sf : Bool) (prop : Nat)
    (hw : WF (.op o l r size sf prop)) : Post size (eqn2 cfg (fuel + 1) opts o l r size sf prop) := by
  rw [eqn2.eq_def]; dsimp only
  obtain ⟨hpos, hp, hl, hr, hs, heq⟩ := (WF_op_iff _ _ _ _ _ _).mp hw
  obtain ⟨hl1, hl2⟩ := WF_cplx_top (cfg.cplx l) l hl
  obtain ⟨hr1, hr2⟩ := WF_cplx_top (cfg.cplx r) r hr
  have hw' := WF_op_congr hw hl1 hr1 hl2 hr2
  generalize (if cfg.cplx r = true then mkTop r.size else r) = r' at *
  generalize (if cfg.cplx l = true then mkTop l.size else l) = l' at *
  split
  · exact Post_ok (WF_mkTop hpos) rfl
  · apply Post_bind; intro t ht
    obtain ⟨o1, l1, r1⟩ := t
    have hw1 := ih.eqn2norm _ _ _ size sf prop hw' o1 l1 r1 ht
    dsimp only
    split
    · rename_i rv rs rf
      apply Post_bind; intro res hres
      split
      · rename_i y
        have := ih.eqn2cst opts o1 l1 rv rs rf size sf prop hw1 y hres
        exact Post_ok this.1 this.2
      · exact ih.eqn2snd opts o1 l1 rv rs rf size sf prop hw1
    · exact ih.eqn2tail opts o1 l1 r1 size sf prop hw1

theorem simplify_step (o : Opts) (e : Expr) (he : WF e) : Post e.size (simplify cfg (fuel + 1) o e) := by
  rw [simplify.eq_def]; dsimp only
  split
  · exact Post_ok he rfl
  · exact Post_ok he rfl
  · exact Post_ok he rfl
  · exact Post_ok he rfl
  · exact Post_ok he rfl
  · intro r hr
    exact memSimplify_spec _ r he hr
  · exact Post_error _ _
  · -- slc
    rename_i x pos size sf ref ety
    simp only [WF] at he
    obtain ⟨hx, hsz, hps⟩ := he
    simp only [size_slc]
    apply Post_bind; intro x' hx'
    obtain ⟨hxw, hxs⟩ := ih.simplify o x hx x' hx'
    have hself : Post size (pure (Expr.slc x' pos size sf ref ety)) :=
      Post_ok (by simp only [WF]; exact ⟨hxw, hsz, by omega⟩) rfl
    have hgi : ∀ y, WF y → Post size (getitem cfg fuel y pos (pos + size)) := fun y hy =>
      Post_of_eq (ih.getitem y _ _ hy) (by omega)
    refine if_cases (fun _ => Post_ok (WF_mkTop hsz) rfl) (fun _ => ?_)
    refine if_cases (fun _ => Post_setSf sf (hgi x' hxw)) (fun _ => ?_)
    · refine if_cases (fun _ res hres => slcMem_spec x' pos size sf ref ety res hxw hsz (by omega) hres) (fun _ => ?_)
      · cases x' with
          | op xo xl xr xs xf xp =>
            dsimp only
            obtain ⟨_, _, hxl, hxr, hxs', hxeq⟩ := (WF_op_iff _ _ _ _ _ _).mp hxw
            refine if_cases (fun hc => ?_) (fun _ => hself)
            · apply Post_bind; intro r hr
              apply Post_bind; intro l hl
              have h1 := hgi xr hxr r hr
              have h2 := hgi xl hxl l hl
              refine Post_of_eq (ih.callOp xo l r h2.1 h1.1 fun _ => h2.2.trans h1.2.symm) ?_
              simp only [Bool.or_eq_true, beq_iff_eq, Bool.and_eq_true] at hc
              rcases hc with hc | ⟨rfl | rfl, _⟩
              · have hne : xo ≠ Op.mul2 := by rintro rfl; cases hc
                simp [resSize, hc, hne, h2.2]
              · exact h2.2
              · exact h2.2
          | uop xo xr xs xf xp =>
            dsimp only
            simp only [WF] at hxw
            refine if_cases (fun _ => ?_) (fun _ => hself)
            · apply Post_bind; intro r hr
              have h1 := hgi xr hxw.2.1 r hr
              exact Post_of_eq (ih.callUop xo r h1.1) h1.2
          | vec l s f =>
            dsimp only
            simp only [WF] at hxw
            apply Post_bind; intro l' hl' v hv
            exact mapM_mkVec_spec _ l l' s size v hsz hxw.2.1 hxw.2.2 (fun y r hy h => hgi y hy.1 r h) hl' hv
          | _ => exact hself
  · -- comp
    rename_i size sf parts
    simp only [WF] at he
    obtain ⟨hpos, ht, hwp⟩ := he
    simp only [size_comp]
    apply Post_bind; intro parts' hp'
    obtain ⟨htr, r2⟩ := restruct_mapM_parts (simplify cfg fuel o)
      (fun e r he h => ih.simplify o e he r h) ht ((WFParts_iff _).mp hwp) hp'
    split
    · rename_i v s f hf
      have hw := r2 _ (findKey_some_mem hf)
      have hs := htr.whole_key hf
      exact Post_ok (by simp only [WF] at hw ⊢; exact hw) hs
    · rename_i p _ hf
      exact Post_ok (r2 _ (findKey_some_mem hf)) (htr.whole_key hf)
    · exact Post_ok (by simp only [WF]; exact ⟨hpos, htr, (WFParts_iff _).mpr r2⟩) rfl
  · -- tst
    rename_i t l r size sf
    simp only [WF] at he
    obtain ⟨hpos, ht, hl, hr, ht1, hls, hrs⟩ := he
    simp only [size_tst]
    apply Post_bind; intro t' ht'
    obtain ⟨htw, hts⟩ := ih.simplify o t ht t' ht'
    refine if_cases (fun _ => ?_) (fun _ => ?_)
    · apply Post_bind; intro v hv
      have hvs := mkVec_spec [l, r] size v hpos (List.cons_ne_nil _ _)
        (List.forall_mem_cons.mpr ⟨⟨hl, hls⟩, List.forall_mem_singleton.mpr ⟨hr, hrs⟩⟩) hv
      exact Post_of_eq (ih.simplify {} v hvs.1) hvs.2
    · apply Post_bind; intro l' hl'
      obtain ⟨hlw, hls'⟩ := ih.simplify o l hl l' hl'
      apply Post_bind; intro c1 _
      refine if_cases (fun _ => Post_ok hlw (by omega)) (fun _ => ?_)
      apply Post_bind; intro r' hr'
      obtain ⟨hrw, hrs'⟩ := ih.simplify o r hr r' hr'
      apply Post_bind; intro c0 _
      refine if_cases (fun _ => Post_ok hrw (by omega)) (fun _ => ?_)
      apply Post_bind; intro c _
      refine if_cases (fun _ => Post_ok hlw (by omega)) (fun _ => ?_)
      exact Post_ok (by simp only [WF]; exact ⟨hpos, htw, hlw, hrw, by omega, by omega, by omega⟩) rfl
  · -- op
    rename_i oo l r size sf prop
    obtain ⟨hpos, hp, hl, hr, hs, heq⟩ := (WF_op_iff _ _ _ _ _ _).mp he
    simp only [size_op]
    apply Post_bind; intro l' hl'
    obtain ⟨hlw, hls⟩ := ih.simplify o l hl l' hl'
    apply Post_bind; intro r' hr'
    obtain ⟨hrw, hrs⟩ := ih.simplify o r hr r' hr'
    have hw' : WF (.op oo l' r' size sf prop) := WF_op_congr he hlw hrw hls hrs
    refine if_cases (fun hc => ?_) (fun _ => ih.eqn2 o oo l' r' size sf prop hw')
    · simp only [Bool.and_eq_true, decide_eq_true_eq, bne_iff_ne, ne_eq] at hc
      have hswap : WF (.op oo r' l' size sf prop) := WF_op_swap (by omega) hw'
      -- `l - r` with the operands swapped is `(-r) + l`
      have hsub : oo = Op.sub → ∀ nr, WF nr → nr.size = r'.size → WF (.op Op.add nr l' size sf prop) := by
        rintro rfl nr hn hns
        obtain ⟨a, b, _, _, e1, e2⟩ := (WF_arith_iff rfl (by decide) ..).mp hw'
        exact (WF_arith_iff rfl (by decide) ..).mpr ⟨a, b, hn, hlw, hns.trans e2, e1⟩
      -- a `top` operand absorbs the node, at the node's width
      have htop : ∀ x : Expr, WF x → Post size (pure (if (x.size == size) = true then x else mkTop size)) := by
        intro x hx
        refine if_cases (P := fun y => Post size (pure y)) (fun h => Post_ok hx (beq_iff_eq.mp h)) (fun _ => ?_)
        exact Post_ok (WF_mkTop hpos) rfl
      refine if_cases (fun _ => htop l' hlw) (fun _ => ?_)
      refine if_cases (fun _ => htop r' hrw) (fun _ => ?_)
      have swapped : Post size (if (oo == Op.sub) = true
          then do let nr ← apiNeg cfg fuel r'; eqn2 cfg fuel o Op.add nr l' size sf prop
          else eqn2 cfg fuel o oo r' l' size sf prop) := by
        refine if_cases (fun hm => ?_) (fun _ => ih.eqn2 o oo r' l' size sf prop hswap)
        apply Post_bind; intro nr hnr
        have := ih.apiNeg r' hrw nr hnr
        exact ih.eqn2 o Op.add nr l' size sf prop (hsub (beq_iff_eq.mp hm) nr this.1 this.2)
      refine if_cases (fun _ => ?_) (fun _ => ?_)
      · refine if_cases (fun _ => ?_) (fun _ => swapped)
        exact Post_setSf sf (Post_of_eq (ih.callOp oo l' r' hlw hrw fun h => by omega) ((resSize_congr oo hls).trans hs.symm))
      · exact if_cases (fun _ => swapped) (fun _ => ih.eqn2 o oo l' r' size sf prop hw')
  · -- uop
    rename_i oo r size sf prop
    simp only [WF] at he
    simp only [size_uop]
    apply Post_bind; intro r' hr'
    obtain ⟨hrw, hrs⟩ := ih.simplify o r he.2.1 r' hr'
    exact if_cases (fun _ => Post_ok hrw (by omega)) (fun _ => ih.eqn1 oo r' size sf prop hrw (by omega))
  · -- vec
    rename_i l size sf
    simp only [WF] at he
    obtain ⟨hpos, hne, hwl⟩ := he
    simp only [size_vec]
    apply Post_bind; intro t ht
    obtain ⟨early, l1⟩ := t
    obtain ⟨f1, f2⟩ := vecFlat_spec (simplify cfg fuel {}) size (fun e r he h => ih.simplify {} e he r h)
      l [] early l1 ((WFList_iff l size).mp hwl) (fun _ h => nomatch h) ht
    dsimp only
    split
    · rename_i ee
      have := f1 ee rfl
      exact Post_ok this.1 this.2
    · obtain ⟨g1, g2⟩ := f2 rfl
      apply Post_bind; intro l2 hl2
      obtain ⟨d1, d2⟩ := vecDedup_spec (api cfg fuel Op.eq) (fun x => WF x ∧ x.size = size) l1 [] l2 g1
        (fun _ h => nomatch h) hl2
      have hl2 : 0 < size ∧ l2 ≠ [] ∧ WFList l2 size := ⟨hpos, d2 (.inr (g2 (.inr hne))), (WFList_iff _ _).mpr d1⟩
      split
      · exact Post_ok (d1 _ List.mem_cons_self).1 (d1 _ List.mem_cons_self).2
      · refine if_cases (fun _ => Post_ok (by simp only [WF]; exact hl2) rfl) (fun _ => ?_)
        refine if_cases (fun _ => Post_ok (WF_mkTop hpos) rfl) (fun _ => ?_)
        exact Post_ok (by simp only [WF]; exact hl2) rfl

end steps

theorem widthIH_all (fuel : Nat) : WidthIH cfg fuel := by
  induction fuel with
  | zero => exact widthIH_zero cfg
  | succ n ih =>
    exact {
      simplify := simplify_step ih
      eqn1 := eqn1_step ih
      eqn2 := eqn2_step ih
      eqn2norm := eqn2norm_step ih
      normL := fun o l r size sf prop hw => normL_step ih o l r size sf prop hw
      normR := fun o l r size sf prop hw => normR_step ih o l r size sf prop hw
      eqn2cst := fun opts o l rv rs rf size sf prop hw => eqn2cst_step ih opts o l rv rs rf size sf prop hw
      eqn2snd := eqn2snd_step ih
      eqn2tail := eqn2tail_step ih
      oper := oper_step ih
      operU := operU_step ih
      apiNeg := apiNeg_step ih
      apiNot := apiNot_step ih
      api := api_step ih
      apiExp := apiExp_step ih
      callOp := callOp_step ih
      callUop := callUop_step ih
      helperCmp := helperCmp_step ih
      helperRot := helperRot_step ih
      getitem := getitem_step ih
      slicer := slicer_step ih
      mkSlc := mkSlc_step ih
      setitem := fun n sf ps a b v r hd hw hv h => setitem_step ih n sf ps a b v r hd hw hv h
      composer := composer_step ih
      extendExp := extendExp_step ih }

end Amoco
