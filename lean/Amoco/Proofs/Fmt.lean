/-
  File formats (C14, C20). HEX / SREC: parsing a printed record gives it back iff the checksum is right.
  ELF: the walk over the field lists reads at the fixed offsets of the specification's tables, so on a
  well-formed image (`ElfWF`) the constructor returns what the reference reader reads.
  `read_program`: which exceptions leave each constructor, and the first byte each format accepts.
-/
import Amoco.Model.HexSrec
import Amoco.Model.Elf
import Amoco.Proofs.FmtAlloc

namespace Amoco.Fmt

/-! ### Python slices -/

theorem normIdx_nat (n a : Nat) : normIdx n (a : Int) = min a n := by
  unfold normIdx
  have : ¬ ((a : Int) < 0) := by omega
  simp [this]

theorem normIdx_neg2 (n : Nat) : normIdx n (-2) = n - 2 := by
  unfold normIdx
  rw [if_pos (by omega)]
  omega

theorem pySlice_nat {α} (l : List α) (a b : Nat) (hb : b ≤ l.length) (hab : a ≤ b) :
    pySlice l (a : Int) (b : Int) = (l.drop a).take (b - a) := by
  unfold pySlice
  rw [normIdx_nat, normIdx_nat, Nat.min_eq_left hb, Nat.min_eq_left (by omega)]

theorem pySlice_neg2 {α} (l : List α) (a : Nat) (h : a + 2 ≤ l.length) :
    pySlice l (a : Int) (-2) = (l.drop a).take (l.length - 2 - a) := by
  unfold pySlice
  rw [normIdx_nat, normIdx_neg2, Nat.min_eq_left (by omega)]

theorem pySlice_mid {α} (A B C : List α) (a b : Int) (ha : a = (A.length : Nat))
    (hb : b = ((A.length + B.length : Nat) : Int)) : pySlice (A ++ (B ++ C)) a b = B := by
  subst ha hb
  rw [pySlice_nat _ _ _ (by simp only [List.length_append]; omega) (by omega), List.drop_left' rfl]
  exact List.take_left' (by omega)

theorem pySlice_neg2_mid {α} (A B K : List α) (a : Int) (ha : a = (A.length : Nat)) (hK : K.length = 2) :
    pySlice (A ++ (B ++ K)) a (-2) = B := by
  subst ha
  rw [pySlice_neg2 _ _ (by simp only [List.length_append]; omega), List.drop_left' rfl]
  exact List.take_left' (by simp only [List.length_append]; omega)

theorem pySliceFrom_mid {α} (A B : List α) (a : Int) (ha : a = (A.length : Nat)) :
    pySliceFrom (A ++ B) a = B := by
  subst ha
  unfold pySliceFrom
  rw [normIdx_nat]
  exact List.drop_left' (by simp only [List.length_append]; omega)

theorem pySliceFrom_neg2_end {α} (A K : List α) (hK : K.length = 2) : pySliceFrom (A ++ K) (-2) = K := by
  unfold pySliceFrom
  rw [normIdx_neg2]
  exact List.drop_left' (by simp only [List.length_append]; omega)

/-! ### `int(s, 16)` on hex digits -/

theorem hexVal?_some {c d : Nat} (h : hexVal? c = some d) :
    (48 ≤ c ∧ c ≤ 57 ∧ d = c - 48) ∨ (97 ≤ c ∧ c ≤ 102 ∧ d = c - 87) ∨ (65 ≤ c ∧ c ≤ 70 ∧ d = c - 55) := by
  unfold hexVal? at h
  simp only [Bool.and_eq_true, decide_eq_true_eq] at h
  split at h
  · next h1 => cases h; exact .inl ⟨h1.1, h1.2, rfl⟩
  split at h
  · next h2 => cases h; exact .inr (.inl ⟨h2.1, h2.2, rfl⟩)
  split at h
  · next h3 => cases h; exact .inr (.inr ⟨h3.1, h3.2, rfl⟩)
  · cases h

theorem digitVal?_of_hex {c d : Nat} (h : hexVal? c = some d) : digitVal? c = some d ∧ d < 16 := by
  unfold digitVal?
  simp only [Bool.and_eq_true, decide_eq_true_eq]
  rcases hexVal?_some h with ⟨a, b, e⟩ | ⟨a, b, e⟩ | ⟨a, b, e⟩
  · rw [if_pos ⟨a, b⟩, e]; exact ⟨rfl, by omega⟩
  · rw [if_neg (by omega), if_pos (by omega), e]; exact ⟨rfl, by omega⟩
  · rw [if_neg (by omega), if_neg (by omega), if_pos (by omega), e]; exact ⟨rfl, by omega⟩

def AllHex (ds : List Nat) : Prop := ∀ c ∈ ds, (hexVal? c).isSome = true

def digitsVal : List Nat → Nat → Nat
  | [], acc => acc
  | c :: t, acc => digitsVal t (acc * 16 + (hexVal? c).getD 0)

theorem scanDigits_hex (ds : List Nat) (h : AllHex ds) (acc : Nat) :
    scanDigits 16 ds acc false = some (digitsVal ds acc, []) := by
  induction ds generalizing acc with
  | nil => rfl
  | cons c t ih =>
    obtain ⟨d, hd⟩ := Option.isSome_iff_exists.mp (h c List.mem_cons_self)
    have ⟨h1, h2⟩ := digitVal?_of_hex hd
    have hne : (c == 95) = false := by
      have := hexVal?_some hd
      rw [beq_eq_false_iff_ne]; omega
    unfold scanDigits
    simp only [hne, h1, h2, digitsVal, hd, Bool.false_eq_true, if_false, if_true, Option.getD_some]
    exact ih (fun x hx => h x (List.mem_cons_of_mem _ hx)) _


theorem pyInt_hex (ds : List Nat) (h : AllHex ds) (hne : ds ≠ []) :
    pyInt 16 ds = .ok ((digitsVal ds 0 : Nat) : Int) := by
  match ds, hne with
  | c :: t, _ =>
    obtain ⟨d, hd⟩ := Option.isSome_iff_exists.mp (h c List.mem_cons_self)
    have hcs := hexVal?_some hd
    have hsp : isSpace c = false := by unfold isSpace; simp; omega
    have hl : lstrip (c :: t) = c :: t := by simp [lstrip, List.dropWhile, hsp]
    have hsc := scanDigits_hex (c :: t) h 0
    have c45 : c ≠ 45 := by omega
    have c43 : c ≠ 43 := by omega
    have c95 : c ≠ 95 := by omega
    have hpfx : (t.head? == some 120 || t.head? == some 88) = false := by
      cases t with
      | nil => rfl
      | cons x t' =>
        obtain ⟨dx, hdx⟩ := Option.isSome_iff_exists.mp (h x (by simp))
        have := hexVal?_some hdx
        simp; omega
    -- nothing to strip, no sign, no `0x` prefix, no leading `_`: `pyInt` comes down to the digit scan `hsc`
    unfold pyInt
    simp only [hl]
    simp [c45, c43, c95, hpfx, hsc, lstrip]


theorem hexVal?_upperHex (d : Nat) (h : d < 16) : hexVal? (upperHex d) = some d := by
  have : ∀ d : Fin 16, hexVal? (upperHex d.val) = some d.val := by decide
  exact this ⟨d, h⟩

theorem hexVal?_lowerHex (d : Nat) (h : d < 16) : hexVal? (lowerHex d) = some d := by
  have : ∀ d : Fin 16, hexVal? (lowerHex d.val) = some d.val := by decide
  exact this ⟨d, h⟩

theorem hexDigits_length (w n : Nat) : (hexDigits w n).length = w := by
  induction w generalizing n with
  | zero => rfl
  | succ w ih => rw [hexDigits, List.length_append, ih]; rfl

theorem allHex_hexDigits (w n : Nat) : AllHex (hexDigits w n) := by
  induction w generalizing n with
  | zero => intro c hc; cases hc
  | succ w ih =>
    intro c hc
    rcases List.mem_append.mp hc with hc | hc
    · exact ih _ c hc
    · rw [List.mem_singleton.mp hc, hexVal?_upperHex _ (Nat.mod_lt _ (by omega))]; rfl

theorem digitsVal_append (a b : List Nat) (acc : Nat) :
    digitsVal (a ++ b) acc = digitsVal b (digitsVal a acc) := by
  induction a generalizing acc with
  | nil => rfl
  | cons c t ih => exact ih _

theorem digitsVal_hexDigits (w n acc : Nat) :
    digitsVal (hexDigits w n) acc = acc * 16 ^ w + n % 16 ^ w := by
  induction w generalizing n acc with
  | zero => simp only [hexDigits, digitsVal, Nat.pow_zero, Nat.mul_one, Nat.mod_one, Nat.add_zero]
  | succ w ih =>
    rw [hexDigits, digitsVal_append, ih, digitsVal, digitsVal, hexVal?_upperHex _ (Nat.mod_lt _ (by omega)),
      Option.getD_some, Nat.pow_succ, Nat.mul_comm (16 ^ w) 16, Nat.mod_mul, Nat.add_mul,
      Nat.mul_right_comm acc, ← Nat.mul_assoc acc, Nat.mul_comm (n / 16 % 16 ^ w)]
    omega

theorem pyInt_hexDigits (w n : Nat) (hw : 0 < w) (hn : n < 16 ^ w) :
    pyInt 16 (hexDigits w n) = .ok (n : Int) := by
  rw [pyInt_hex _ (allHex_hexDigits w n) (List.ne_nil_of_length_pos (by rw [hexDigits_length]; exact hw)), digitsVal_hexDigits, Nat.zero_mul, Nat.zero_add, Nat.mod_eq_of_lt hn]

/-! ### `hexlify` and `unhexlify` -/

def BytesOK (d : Bytes) : Prop := ∀ b ∈ d, b < 256

theorem bytesOK_append {a b : Bytes} (ha : BytesOK a) (hb : BytesOK b) : BytesOK (a ++ b) :=
  fun x hx => (List.mem_append.mp hx).elim (ha x) (hb x)

theorem bytesOK_cons {x : Nat} {d : Bytes} (hx : x < 256) (hd : BytesOK d) : BytesOK (x :: d) :=
  fun y hy => (List.mem_cons.mp hy).elim (fun e => e ▸ hx) (hd y)

theorem bytesOK_beBytes (k n : Nat) : BytesOK (beBytes k n) := by
  induction k generalizing n with
  | zero => intro b hb; cases hb
  | succ k ih => exact bytesOK_append (ih _) (bytesOK_cons (Nat.mod_lt _ (by omega)) (fun b hb => nomatch hb))

theorem hexlifyUpper_append (a b : List Nat) : hexlifyUpper (a ++ b) = hexlifyUpper a ++ hexlifyUpper b := by
  induction a with
  | nil => rfl
  | cons x t ih => simp only [List.cons_append, hexlifyUpper, ih]

theorem hexDigits_bytes (k n : Nat) : hexDigits (2 * k) n = hexlifyUpper (beBytes k n) := by
  induction k generalizing n with
  | zero => rfl
  | succ k ih =>
    have e1 : n / 16 / 16 = n / 256 := Nat.div_div_eq_div_mul n 16 16
    have e2 : n % 256 / 16 = n / 16 % 16 := Nat.mod_mul_right_div_self n 16 16
    have e3 : n % 256 % 16 = n % 16 := Nat.mod_mod_of_dvd n ⟨16, rfl⟩
    rw [Nat.mul_succ, hexDigits, hexDigits, e1, ih, beBytes, hexlifyUpper_append, List.append_assoc]
    simp only [hexlifyUpper, e2, e3, List.cons_append, List.nil_append]

theorem unhexlify_hexlifyUpper (d : List Nat) (hd : BytesOK d) : unhexlify (hexlifyUpper d) = .ok d := by
  induction d with
  | nil => rfl
  | cons b t ih =>
    have hb : b < 256 := hd b List.mem_cons_self
    rw [hexlifyUpper, unhexlify, hexVal?_upperHex _ (by omega), hexVal?_upperHex _ (Nat.mod_lt _ (by omega)),
      ih (fun x hx => hd x (List.mem_cons_of_mem _ hx))]
    have : b / 16 * 16 + b % 16 = b := by omega
    simp only [this]

theorem hexlifyUpper_length (d : List Nat) : (hexlifyUpper d).length = 2 * d.length := by
  induction d with
  | nil => rfl
  | cons b t ih => simp only [hexlifyUpper, List.length_cons, ih]; omega

theorem hexlify_append (a b : List Nat) : hexlify (a ++ b) = hexlify a ++ hexlify b := by
  induction a with
  | nil => rfl
  | cons x t ih => simp only [List.cons_append, hexlify, ih]

theorem hexlify_length (d : List Nat) : (hexlify d).length = 2 * d.length := by
  induction d with
  | nil => rfl
  | cons b t ih => simp only [hexlify, List.length_cons, ih]; omega

theorem allHex_hexlify (d : List Nat) (hd : BytesOK d) : AllHex (hexlify d) := by
  induction d with
  | nil => intro c hc; cases hc
  | cons b t ih =>
    have hb : b < 256 := hd b List.mem_cons_self
    intro c hc
    simp only [hexlify, List.mem_cons] at hc
    rcases hc with hc | hc | hc
    · rw [hc, hexVal?_lowerHex _ (by omega)]; rfl
    · rw [hc, hexVal?_lowerHex _ (Nat.mod_lt _ (by omega))]; rfl
    · exact ih (fun x hx => hd x (List.mem_cons_of_mem _ hx)) c hc

theorem digitsVal_hexlify (d : List Nat) (hd : BytesOK d) (acc : Nat) :
    digitsVal (hexlify d) acc = beNat d acc := by
  induction d generalizing acc with
  | nil => rfl
  | cons b t ih =>
    have hb : b < 256 := hd b List.mem_cons_self
    rw [hexlify, digitsVal, digitsVal, hexVal?_lowerHex _ (by omega), hexVal?_lowerHex _ (Nat.mod_lt _ (by omega)),
      ih (fun x hx => hd x (List.mem_cons_of_mem _ hx)), beNat]
    congr 1
    simp only [Option.getD_some]
    omega

theorem pyInt_hexlify (d : List Nat) (hd : BytesOK d) (h : 0 < d.length) :
    pyInt 16 (hexlify d) = .ok ((beNat d 0 : Nat) : Int) := by
  rw [pyInt_hex _ (allHex_hexlify d hd) (List.ne_nil_of_length_pos (by rw [hexlify_length]; omega)), digitsVal_hexlify d hd]

/-! ### Intel HEX: a printed record parses back -/

theorem lstrip_cons (c : Nat) (t : List Nat) (hc : isSpace c = false) : lstrip (c :: t) = c :: t := by
  rw [lstrip, List.dropWhile_cons_of_neg (by rw [hc]; decide)]

theorem strip_print (c : Nat) (body : List Nat) (ck : Nat) (hc : isSpace c = false) :
    strip (c :: (body ++ hexDigits 2 ck)) = c :: (body ++ hexDigits 2 ck) := by
  have hx : isSpace (upperHex (ck % 16)) = false := by
    have : ∀ d : Fin 16, isSpace (upperHex d.val) = false := by decide
    exact this ⟨ck % 16, Nat.mod_lt _ (by omega)⟩
  have e : c :: (body ++ hexDigits 2 ck) = (c :: (body ++ hexDigits 1 (ck / 16))) ++ [upperHex (ck % 16)] := by
    rw [hexDigits, List.cons_append, List.append_assoc]
  rw [strip, lstrip_cons _ _ hc, e, rstrip, List.reverse_append, List.reverse_singleton, List.singleton_append,
    List.dropWhile_cons_of_neg (by rw [hx]; decide), List.reverse_cons, List.reverse_reverse]


theorem strip_hexPrint (r : HexRec) (ck : Nat) : strip (hexPrint r ck) = hexPrint r ck := by
  rw [hexPrint, ← List.append_assoc, ← List.append_assoc, ← List.append_assoc]
  exact strip_print 58 _ ck (by decide)

theorem hexPrint_slices (r : HexRec) (ck : Nat) (hcount : r.count = r.data.length) :
    pySlice (hexPrint r ck) 0 1 = [58] ∧
    pySlice (hexPrint r ck) 1 3 = hexDigits 2 r.count ∧
    pySlice (hexPrint r ck) 3 7 = hexDigits 4 r.address ∧
    pySlice (hexPrint r ck) 7 9 = hexDigits 2 r.code ∧
    pySlice (hexPrint r ck) 9 (9 + 2 * (r.count : Int)) = hexlifyUpper r.data ∧
    pySlice (hexPrint r ck) 1 (-2) =
      hexDigits 2 r.count ++ (hexDigits 4 r.address ++ (hexDigits 2 r.code ++ hexlifyUpper r.data)) ∧
    pySliceFrom (hexPrint r ck) (-2) = hexDigits 2 ck := by
  have hc := hexDigits_length 2 r.count
  have ha := hexDigits_length 4 r.address
  have ht := hexDigits_length 2 r.code
  have hd := hexlifyUpper_length r.data
  have hk := hexDigits_length 2 ck
  unfold hexPrint
  generalize hexDigits 2 r.count = C at *
  generalize hexDigits 4 r.address = A at *
  generalize hexDigits 2 r.code = T at *
  generalize hexlifyUpper r.data = D at *
  generalize hexDigits 2 ck = K at *
  refine ⟨pySlice_mid [] [58] _ 0 1 rfl rfl, pySlice_mid [58] C _ 1 3 rfl (by rw [hc]; rfl),
    pySlice_mid (58 :: C) A _ 3 7 (by rw [List.length_cons, hc]; rfl) (by rw [List.length_cons, hc, ha]; rfl),
    ?_, ?_, ?_, ?_⟩
  · rw [← List.append_assoc C A]
    exact pySlice_mid (58 :: (C ++ A)) T _ 7 9 (by rw [List.length_cons, List.length_append, hc, ha]; rfl)
      (by rw [List.length_cons, List.length_append, hc, ha, ht]; rfl)
  · rw [← List.append_assoc A T, ← List.append_assoc C]
    exact pySlice_mid (58 :: (C ++ (A ++ T))) D _ _ _
      (by simp only [List.length_cons, List.length_append, hc, ha, ht]; rfl)
      (by simp only [List.length_cons, List.length_append, hc, ha, ht, hd]; omega)
  · rw [← List.append_assoc T D, ← List.append_assoc A, ← List.append_assoc C]
    exact pySlice_neg2_mid [58] _ K 1 rfl hk
  · rw [← List.append_assoc T D, ← List.append_assoc A, ← List.append_assoc C]
    exact pySliceFrom_neg2_end (58 :: _) K hk


theorem hexExtOf_wf (r : HexRec) (h : r.WF) : hexExtOf r.code r.count r.data = .ok r.ext := by
  obtain ⟨hc, _, _, _, hd, h2, h3, h4, h5⟩ := h
  -- the three extension records whose payload is one number
  have one : ∀ (k : Nat) (ctor : Int → HexExt), r.count = k → 0 < k →
      (do pyAssert ((r.count : Int) == (k : Int)); let b ← pyInt 16 (hexlify r.data); pure (ctor b)) =
        .ok (ctor (beNat r.data 0)) := by
    intro k ctor hk hpos
    rw [hk, pyInt_hexlify r.data hd (by omega), beq_self_eq_true]
    rfl
  unfold hexExtOf HexRec.ext
  dsimp only
  by_cases c2 : r.code = 2
  · rw [if_pos (by rw [beq_iff_eq]; omega), if_pos c2]; exact one 2 .base (h2 c2) (by omega)
  rw [if_neg (by rw [beq_iff_eq]; omega), if_neg c2]
  by_cases c3 : r.code = 3
  · have hlen : r.data.length = 4 := by have := h3 c3; omega
    have hs : hexlify r.data = hexlify (r.data.take 2) ++ hexlify (r.data.drop 2) := by
      rw [← hexlify_append, List.take_append_drop]
    have l1 : (hexlify (r.data.take 2)).length = 4 := by rw [hexlify_length, List.length_take, hlen]; rfl
    have e1 : pySlice (hexlify r.data) 0 4 = hexlify (r.data.take 2) := by
      rw [hs]; exact pySlice_mid [] _ _ 0 4 rfl (by rw [l1]; rfl)
    have e2 : pySliceFrom (hexlify r.data) 4 = hexlify (r.data.drop 2) := by
      rw [hs]; exact pySliceFrom_mid _ _ 4 (by rw [l1]; rfl)
    rw [if_pos (by rw [beq_iff_eq]; omega), if_pos c3, e1, e2,
      pyInt_hexlify _ (fun b hb => hd b (List.mem_of_mem_take hb)) (by rw [List.length_take, hlen]; decide),
      pyInt_hexlify _ (fun b hb => hd b (List.mem_of_mem_drop hb)) (by rw [List.length_drop, hlen]; decide), h3 c3]
    rfl
  rw [if_neg (by rw [beq_iff_eq]; omega), if_neg c3]
  by_cases c4 : r.code = 4
  · rw [if_pos (by rw [beq_iff_eq]; omega), if_pos c4]; exact one 2 .ela (h4 c4) (by omega)
  rw [if_neg (by rw [beq_iff_eq]; omega), if_neg c4]
  by_cases c5 : r.code = 5
  · rw [if_pos (by rw [beq_iff_eq]; omega), if_pos c5]; exact one 4 .eip (h5 c5) (by omega)
  rw [if_neg (by rw [beq_iff_eq]; omega), if_neg c5]
  rfl

/-- The checksum digits `ck` printed are arbitrary, so the one equation is both the round trip
    (`ck = r.cksum`) and the rejection of a record with a wrong checksum; `srecLineBody_print` likewise. -/
theorem hexLineBody_print (r : HexRec) (h : r.WF) (ck : Nat) (hck : ck < 256) :
    hexLineBody (hexPrint r ck) = if r.cksum = ck then .ok r.toLine else .error .assertion := by
  have hext := hexExtOf_wf r h
  obtain ⟨hc, hc256, ha, hcode, hd, -⟩ := h
  obtain ⟨s0, s1, s2, s3, s4, s5, s6⟩ := hexPrint_slices r ck hc
  have i1 := pyInt_hexDigits 2 r.count (by omega) (by omega)
  have i2 := pyInt_hexDigits 4 r.address (by omega) (by omega)
  have i3 := pyInt_hexDigits 2 r.code (by omega) (by omega)
  have i4 := pyInt_hexDigits 2 ck (by omega) (by omega)
  have u1 := unhexlify_hexlifyUpper r.data hd
  have u2 : unhexlify (hexDigits 2 r.count ++ (hexDigits 4 r.address ++ (hexDigits 2 r.code ++ hexlifyUpper r.data)))
      = .ok r.bytes := by
    have hb : BytesOK r.bytes :=
      bytesOK_cons hc256 (bytesOK_cons (by omega) (bytesOK_cons (Nat.mod_lt _ (by omega)) (bytesOK_cons hcode hd)))
    have e : r.bytes = beBytes 1 r.count ++ (beBytes 2 r.address ++ (beBytes 1 r.code ++ r.data)) := by
      simp only [beBytes, List.nil_append, List.cons_append, Nat.mod_eq_of_lt hc256, Nat.mod_eq_of_lt hcode,
        Nat.mod_eq_of_lt (show r.address / 256 < 256 by omega)]
      rfl
    rw [← unhexlify_hexlifyUpper _ hb]
    conv => rhs; rw [e, hexlifyUpper_append, hexlifyUpper_append, hexlifyUpper_append,
      ← hexDigits_bytes, ← hexDigits_bytes, ← hexDigits_bytes]
  -- `s*` are the slices the parser takes, `i*` what `int(·, 16)` makes of the header fields and the checksum,
  -- `u*` what `unhexlify` returns for the data and for the whole record; after them only the comparison of
  -- the checksum is left
  unfold hexLineBody
  simp only [s0, s1, s2, s3, s5, s6, i1, i2, i3, i4, u2, bind, Except.bind, pyAssert]
  simp only [s4, u1, hext, HexRec.cksum, HexRec.toLine]
  by_cases hk : hexCksum r.bytes = ck
  · simp [hk, pure, Except.pure]
  · have : ¬ ((hexCksum r.bytes : Int) = (ck : Int)) := by omega
    simp [hk, this]


theorem hexDecode_eq_ref (ls : List HexLine) (m : HexMode) :
    hexDecodeLoop ls m.base = hexRefLoop ls m := by
  induction ls generalizing m with
  | nil => rfl
  | cons l rest ih =>
    unfold hexDecodeLoop hexRefLoop
    split
    · cases l.ext <;> first | exact ih (.seg _) | exact ih m
    split
    · cases l.ext <;> first | exact ih (.lin _) | exact ih m
    split
    · rw [ih m]
      cases m <;> simp only [HexMode.base, Int.zero_add]
    · exact ih m

/-! ### S-records: a printed record parses back -/

theorem pyInt10_digit (t : Nat) (h : t < 10) : pyInt 10 [48 + t] = .ok (t : Int) := by
  match t, h with
  | 0, _ => rfl | 1, _ => rfl | 2, _ => rfl | 3, _ => rfl | 4, _ => rfl
  | 5, _ => rfl | 6, _ => rfl | 7, _ => rfl | 8, _ => rfl | 9, _ => rfl

theorem srecAddrBytes_pos (t : Nat) (h : t < 10) (h4 : t ≠ 4) : 2 ≤ srecAddrBytes t ∧ srecAddrBytes t ≤ 4 := by
  have : ∀ t : Fin 10, t.val ≠ 4 → 2 ≤ srecAddrBytes t.val ∧ srecAddrBytes t.val ≤ 4 := by decide
  exact this ⟨t, h⟩ h4

theorem srecSize_wf (r : SrecRec) (h : r.WF) :
    srecSize (r.type : Int) (r.count : Int) = ((2 * srecAddrBytes r.type : Nat) : Int) := by
  obtain ⟨ty, addr, data⟩ := r
  obtain ⟨ht, h4, -, -, -, h56⟩ := h
  match ty, ht, h4, h56 with
  | 0, _, _, _ | 1, _, _, _ | 2, _, _, _ | 3, _, _, _ | 7, _, _, _ | 8, _, _, _ | 9, _, _, _ => rfl
  | 5, _, _, h56 => cases h56 (Or.inl rfl); rfl
  | 6, _, _, h56 => cases h56 (Or.inr rfl); rfl


theorem strip_srecPrint (r : SrecRec) (ck : Nat) : strip (srecPrint r ck) = srecPrint r ck := by
  rw [srecPrint, ← List.append_assoc, ← List.append_assoc, ← List.cons_append]
  exact strip_print 83 _ ck (by decide)

theorem srecPrint_slices (r : SrecRec) (ck : Nat) :
    let ab := srecAddrBytes r.type
    pySlice (srecPrint r ck) 0 1 = [83] ∧
    pySlice (srecPrint r ck) 1 2 = [48 + r.type] ∧
    pySlice (srecPrint r ck) 2 4 = hexDigits 2 r.count ∧
    pySlice (srecPrint r ck) 4 (4 + ((2 * ab : Nat) : Int)) = hexDigits (2 * ab) r.address ∧
    pySlice (srecPrint r ck) (4 + ((2 * ab : Nat) : Int)) (-2) = hexlifyUpper r.data ∧
    pySlice (srecPrint r ck) 2 (-2) =
      hexDigits 2 r.count ++ (hexDigits (2 * ab) r.address ++ hexlifyUpper r.data) ∧
    pySliceFrom (srecPrint r ck) (-2) = hexDigits 2 ck := by
  intro ab
  have hc := hexDigits_length 2 r.count
  have ha := hexDigits_length (2 * ab) r.address
  have hk := hexDigits_length 2 ck
  unfold srecPrint
  generalize hexDigits 2 r.count = C at *
  generalize hexDigits (2 * ab) r.address = A at *
  generalize hexlifyUpper r.data = D at *
  generalize hexDigits 2 ck = K at *
  refine ⟨pySlice_mid [] [83] _ 0 1 rfl rfl, pySlice_mid [83] [48 + r.type] _ 1 2 rfl rfl,
    pySlice_mid [83, 48 + r.type] C _ 2 4 rfl (by rw [hc]; rfl),
    pySlice_mid (83 :: (48 + r.type) :: C) A _ _ _ (by simp only [List.length_cons, hc]; rfl)
      (by simp only [List.length_cons, hc, ha]; omega), ?_, ?_, ?_⟩
  · rw [← List.append_assoc C A]
    exact pySlice_neg2_mid (83 :: (48 + r.type) :: (C ++ A)) D K _
      (by simp only [List.length_cons, List.length_append, hc, ha]; omega) hk
  · rw [← List.append_assoc A D, ← List.append_assoc C]
    exact pySlice_neg2_mid [83, 48 + r.type] _ K 2 rfl hk
  · rw [← List.append_assoc A D, ← List.append_assoc C]
    exact pySliceFrom_neg2_end (83 :: (48 + r.type) :: _) K hk

theorem srecLineBody_print (r : SrecRec) (h : r.WF) (ck : Nat) (hck : ck < 256) :
    srecLineBody (srecPrint r ck) = if r.cksum = ck then .ok r.toLine else .error .srecError := by
  have hsz := srecSize_wf r h
  obtain ⟨ht, h4, hc256, ha, hd, h56⟩ := h
  obtain ⟨hab2, hab4⟩ := srecAddrBytes_pos r.type ht h4
  obtain ⟨s0, s1, s2, s3, s4, s5, s6⟩ := srecPrint_slices r ck
  have i0 := pyInt10_digit r.type ht
  have i1 := pyInt_hexDigits 2 r.count (by omega) (by omega)
  have i2 := pyInt_hexDigits (2 * srecAddrBytes r.type) r.address (by omega) (by rw [Nat.pow_mul]; exact ha)
  have i4 := pyInt_hexDigits 2 ck (by omega) (by omega)
  have u1 := unhexlify_hexlifyUpper r.data hd
  have u2 : unhexlify (hexDigits 2 r.count ++ (hexDigits (2 * srecAddrBytes r.type) r.address ++ hexlifyUpper r.data))
      = .ok r.bytes := by
    have hb : BytesOK r.bytes := bytesOK_cons hc256 (bytesOK_append (bytesOK_beBytes _ _) hd)
    have e : r.bytes = beBytes 1 r.count ++ (beBytes (srecAddrBytes r.type) r.address ++ r.data) := by
      simp only [beBytes, List.nil_append, List.cons_append, Nat.mod_eq_of_lt hc256]
      rfl
    rw [← unhexlify_hexlifyUpper _ hb]
    conv => rhs; rw [e, hexlifyUpper_append, hexlifyUpper_append, ← hexDigits_bytes, ← hexDigits_bytes]
  have hcount : (2 : Int) * (r.count : Int) = ((2 * srecAddrBytes r.type : Nat) : Int) + 2 * (r.data.length : Int) + 2 := by
    unfold SrecRec.count; omega
  unfold srecLineBody
  simp only [s0, s1, s2, s6, i0, i1, i4, bind, Except.bind, pyAssert, hsz, s3, s4, s5, i2, u1, u2]
  simp only [hcount, SrecRec.cksum, SrecRec.toLine]
  by_cases hk : srecCksum r.bytes = ck
  · simp [hk, pure, Except.pure]
  · have : ¬ ((srecCksum r.bytes : Int) = (ck : Int)) := by omega
    simp [hk, this, throw, throwThe, MonadExceptOf.throw]

/-! ### ELF: the field walk reads at the layout offsets -/

theorem rdField_ok (be : Bool) (f : RawField) (data : Bytes) (off : Nat) (h : off + f.nbytes ≤ data.length) :
    rdField be f data off = .ok (fieldVal be f (slice data off f.nbytes)) := by
  have : (slice data off f.nbytes).length = f.nbytes := by
    rw [slice, List.length_take, List.length_drop]; omega
  rw [rdField, this, beq_self_eq_true]
  rfl

theorem alignUp_add (off rel a : Nat) (h : a ∣ off) : alignUp (off + rel) a = off + alignUp rel a := by
  unfold alignUp
  by_cases ha : a = 0
  · simp [ha]
  · have hm : (off + rel) % a = rel % a := by
      obtain ⟨k, hk⟩ := h
      rw [hk, Nat.mul_add_mod]
    simp only [ha, beq_iff_eq, if_false, hm]
    by_cases hr : rel % a = 0
    · simp [hr]
    · simp [hr]; omega

def readAt (be : Bool) : List RawField → Bytes → Nat → Nat → Rec
  | [], _, _, _ => []
  | f :: fs, data, base, rel =>
    let o := alignUp rel f.size
    (f.name, fieldVal be f (slice data (base + o) f.nbytes)) :: readAt be fs data base (o + f.nbytes)

def layoutEnd : List RawField → Nat → Nat
  | [], rel => rel
  | f :: fs, rel => layoutEnd fs (alignUp rel f.size + f.nbytes)

theorem le_alignUp (off a : Nat) : off ≤ alignUp off a := by
  unfold alignUp
  split
  · exact Nat.le_refl _
  · split
    · exact Nat.le_refl _
    · exact Nat.le_add_right _ _

theorem le_layoutEnd (fs : List RawField) (rel : Nat) : rel ≤ layoutEnd fs rel := by
  induction fs generalizing rel with
  | nil => exact Nat.le_refl _
  | cons f fs ih =>
    exact Nat.le_trans (Nat.le_trans (le_alignUp rel f.size) (Nat.le_add_right _ _)) (ih _)

theorem unpackFields_aligned (be : Bool) (fs : List RawField) (data : Bytes) (base rel : Nat)
    (hin : base + layoutEnd fs rel ≤ data.length) :
    unpackFields be true fs data base rel = .ok (readAt be fs data base rel) := by
  induction fs generalizing rel with
  | nil => rfl
  | cons f fs ih =>
    have hle := le_layoutEnd fs (alignUp rel f.size + f.nbytes)
    rw [layoutEnd] at hin
    rw [unpackFields, if_pos rfl, rdField_ok be f data _ (by omega)]
    dsimp only
    rw [ih _ hin]
    rfl

def packedEnd : List RawField → Nat → Nat
  | [], off => off
  | f :: fs, off => packedEnd fs (off + f.nbytes)

theorem le_packedEnd (fs : List RawField) (off : Nat) : off ≤ packedEnd fs off := by
  induction fs generalizing off with
  | nil => exact Nat.le_refl _
  | cons f fs ih => exact Nat.le_trans (Nat.le_add_right _ _) (ih _)

def readLayout (be : Bool) (tbl : List (String × Nat × Nat)) (data : Bytes) (base : Nat) : Rec :=
  tbl.map (fun e => (e.1, refNat be data (base + e.2.1) e.2.2))

theorem fieldVal_scalar (be : Bool) (f : RawField) (hc : f.count = 0) (bs : Bytes) :
    fieldVal be f bs = if be then beVal bs else leVal bs := by
  rw [fieldVal, hc]; rfl

theorem readAt_eq_layout (be : Bool) (fs : List RawField) (data : Bytes) (base rel : Nat)
    (hs : ∀ f ∈ fs, f.count = 0) :
    readAt be fs data base rel = readLayout be (layout fs rel) data base := by
  induction fs generalizing rel with
  | nil => rfl
  | cons f fs ih =>
    rw [readAt, layout, readLayout, List.map_cons, fieldVal_scalar be f (hs f List.mem_cons_self),
      ih _ (fun g hg => hs g (List.mem_cons_of_mem _ hg))]
    cases be <;> rfl

theorem unpackFields_packed (be : Bool) (fs : List RawField) (data : Bytes) (off : Nat)
    (hs : ∀ f ∈ fs, f.count = 0) (hin : packedEnd fs off ≤ data.length) :
    unpackFields be false fs data 0 off = .ok (readLayout be (layoutPacked fs off) data 0) := by
  induction fs generalizing off with
  | nil => rfl
  | cons f fs ih =>
    have hle := le_packedEnd fs (off + f.nbytes)
    rw [packedEnd] at hin
    rw [unpackFields, if_neg Bool.false_ne_true, Nat.zero_add, rdField_ok be f data _ (by omega)]
    dsimp only
    rw [layoutPacked, readLayout, List.map_cons, Nat.zero_add, fieldVal_scalar be f (hs f List.mem_cons_self),
      ih _ (fun g hg => hs g (List.mem_cons_of_mem _ hg)) hin]
    cases be <;> rfl

theorem tableM_ok {α} (rd : Nat → Py α) (g : Nat → α) (n off stride : Nat)
    (h : ∀ i, i < n → rd (off + i * stride) = .ok (g (off + i * stride))) :
    tableM rd n off stride = .ok ((List.range n).map (fun i => g (off + i * stride))) := by
  induction n generalizing off with
  | zero => rfl
  | succ n ih =>
    have e : ∀ i, off + (i + 1) * stride = off + stride + i * stride := fun i => by
      rw [Nat.add_mul, Nat.one_mul]; omega
    have h0 := h 0 (Nat.succ_pos n)
    rw [Nat.zero_mul, Nat.add_zero] at h0
    rw [tableM, h0, ih (off + stride) (fun i hi => e i ▸ h (i + 1) (Nat.succ_lt_succ hi)), List.range_succ_eq_map,
      List.map_cons, List.map_map, Nat.zero_mul, Nat.add_zero]
    simp only [Function.comp_def, e]

theorem tablePrefix_of_tableM {α} (rd : Nat → Py α) (n off stride : Nat) (l : List α)
    (h : tableM rd n off stride = .ok l) : tablePrefix rd n off stride = l := by
  induction n generalizing off l with
  | zero => cases h; rfl
  | succ n ih =>
    rw [tableM] at h
    rw [tablePrefix]
    cases hr : rd off with
    | error e => rw [hr] at h; cases h
    | ok a =>
      rw [hr] at h
      cases ht : tableM rd n (off + stride) stride with
      | error e => rw [ht] at h; cases h
      | ok r => rw [ht] at h; cases h; rw [ih _ _ ht]

theorem layout_ident : layout identFields 0 = specIdent := rfl
theorem layout_ehdr (x64 : Bool) : layoutPacked (ehdrFields x64) 16 = specEhdr x64 := by cases x64 <;> rfl
theorem layout_phdr (x64 : Bool) : layout (phdrFields x64) 0 = specPhdr x64 := by cases x64 <;> rfl
theorem layout_shdr (x64 : Bool) : layout (shdrFields x64) 0 = specShdr x64 := by cases x64 <;> rfl
theorem layout_sym (x64 : Bool) : layout (symFields x64) 0 = specSym x64 := by cases x64 <;> rfl
theorem layout_rel (x64 : Bool) : layout (relFields x64) 0 = specRel x64 := by cases x64 <;> rfl
theorem layout_rela (x64 : Bool) : layout (relaFields x64) 0 = specRela x64 := by cases x64 <;> rfl
theorem layout_dyn (x64 : Bool) : layout (dynFields x64) 0 = specDyn x64 := by cases x64 <;> rfl

-- `sizeof` of `Elf64_`/`Elf32_` `Phdr`, `Shdr`, `Ehdr` and `Sym` in the ELF specification; the `*_facts`
-- below check that the walk over the coded field lists ends there
def phdrSize (x64 : Bool) : Nat := if x64 then 56 else 32
def shdrSize (x64 : Bool) : Nat := if x64 then 64 else 40
def ehdrSize (x64 : Bool) : Nat := if x64 then 64 else 52
def symSize (x64 : Bool) : Nat := if x64 then 24 else 16

theorem phdr_facts (x64 : Bool) :
    (∀ f ∈ phdrFields x64, f.count = 0) ∧ layoutEnd (phdrFields x64) 0 = phdrSize x64 := by
  cases x64 <;> decide +kernel

theorem shdr_facts (x64 : Bool) :
    (∀ f ∈ shdrFields x64, f.count = 0) ∧ layoutEnd (shdrFields x64) 0 = shdrSize x64 := by
  cases x64 <;> decide +kernel

theorem sym_facts (x64 : Bool) :
    (∀ f ∈ symFields x64, f.count = 0) ∧ layoutEnd (symFields x64) 0 = symSize x64 := by
  cases x64 <;> decide +kernel

theorem ehdr_facts (x64 : Bool) :
    (∀ f ∈ ehdrFields x64, f.count = 0) ∧ packedEnd (ehdrFields x64) 16 = ehdrSize x64 := by
  cases x64 <;> decide +kernel

theorem structUnpack_spec (be : Bool) (fs : List RawField) (tbl : List (String × Nat × Nat)) (sz : Nat)
    (hs : ∀ f ∈ fs, f.count = 0) (hl : layout fs 0 = tbl) (he : layoutEnd fs 0 = sz)
    (data : Bytes) (base : Nat) (hin : base + sz ≤ data.length) :
    structUnpack be fs data base = .ok (refStruct be [] tbl data base) := by
  rw [structUnpack, unpackFields_aligned be fs data base 0 (he ▸ hin), readAt_eq_layout be _ data base 0 hs, hl]
  rfl

theorem dvd_entry (A off stride i : Nat) (h1 : A ∣ off) (h2 : A ∣ stride) : A ∣ off + i * stride :=
  Nat.dvd_add h1 (Nat.dvd_trans h2 (Nat.dvd_mul_left stride i))

theorem table_spec (be : Bool) (fs : List RawField) (tbl : List (String × Nat × Nat)) (sz : Nat)
    (hs : ∀ f ∈ fs, f.count = 0) (hl : layout fs 0 = tbl) (he : layoutEnd fs 0 = sz)
    (data : Bytes) (n off stride : Nat) (hin : ∀ i, i < n → off + i * stride + sz ≤ data.length) :
    tableM (fun o => structUnpack be fs data o) n off stride = .ok (refTable be tbl data n off stride) :=
  tableM_ok _ (fun o => refStruct be [] tbl data o) n off stride
    (fun i hi => structUnpack_spec be fs tbl sz hs hl he data _ (hin i hi))

/-! ### ELF: the constructor on a well-formed image -/

/-- A structurally valid ELF image, stated on what the reference reader sees.
    No field mentions `env`: which `p_type` and `sh_type` values are known plays no part. -/
structure ElfWF (env : ElfEnv) (data : Bytes) : Prop where
  len : ehdrSize (refElf data).x64 ≤ data.length
  magic0 : fget (refElf data).ident "ELFMAG0" = 0x7f
  magic : fget (refElf data).ident "ELFMAG" = 0x454c46
  ph_in : ∀ i, i < fget (refElf data).ehdr "e_phnum" →
          fget (refElf data).ehdr "e_phoff" + i * fget (refElf data).ehdr "e_phentsize" + phdrSize (refElf data).x64 ≤ data.length
  sh_in : ∀ i, i < fget (refElf data).ehdr "e_shnum" →
          fget (refElf data).ehdr "e_shoff" + i * fget (refElf data).ehdr "e_shentsize" + shdrSize (refElf data).x64 ≤ data.length
  strndx_pos : fget (refElf data).ehdr "e_shstrndx" ≠ 0
  strndx_lt : fget (refElf data).ehdr "e_shstrndx" < (refElf data).shdr.length
  strtab : fget ((refElf data).shdr.getD (fget (refElf data).ehdr "e_shstrndx") []) "sh_type" = SHT_STRTAB
  str_off : fget ((refElf data).shdr.getD (fget (refElf data).ehdr "e_shstrndx") []) "sh_offset" < pow63
  str_size : fget ((refElf data).shdr.getD (fget (refElf data).ehdr "e_shstrndx") []) "sh_size" < pow63
  names_utf8 : ∀ nm ∈ (refElf data).names, utf8Valid nm = true

theorem refElf_x64 (data : Bytes) : identX64 (refElf data).ident = (refElf data).x64 := by
  simp only [refElf]; rfl

theorem refElf_be (data : Bytes) : identBE (refElf data).ident = (refElf data).be := by
  simp only [refElf]; rfl

theorem refElf_phdr (data : Bytes) : (refElf data).phdr = if fget (refElf data).ehdr "e_phoff" != 0 then
    refTable (refElf data).be (specPhdr (refElf data).x64) data (fget (refElf data).ehdr "e_phnum")
      (fget (refElf data).ehdr "e_phoff") (fget (refElf data).ehdr "e_phentsize") else [] := by
  simp only [refElf]; rfl

theorem refElf_shdr (data : Bytes) : (refElf data).shdr = if fget (refElf data).ehdr "e_shoff" != 0 then
    refTable (refElf data).be (specShdr (refElf data).x64) data (fget (refElf data).ehdr "e_shnum")
      (fget (refElf data).ehdr "e_shoff") (fget (refElf data).ehdr "e_shentsize") else [] := by
  simp only [refElf]; rfl

theorem elfIdent_ok {env : ElfEnv} {data : Bytes} (h : ElfWF env data) : elfIdent data = .ok (refElf data).ident := by
  have hlen : 0 + layoutEnd identFields 0 ≤ data.length :=
    Nat.le_trans (by cases (refElf data).x64 <;> decide) h.len
  have e : readAt false identFields data 0 0 = (refElf data).ident := by simp only [refElf]; rfl
  rw [elfIdent, structUnpack, unpackFields_aligned false identFields data 0 0 hlen, e]
  dsimp only [toStructureError]
  rw [h.magic0, h.magic]
  rfl

theorem elfEhdr_ok {env : ElfEnv} {data : Bytes} (h : ElfWF env data) : elfEhdr (refElf data).ident data = .ok (refElf data).ehdr := by
  obtain ⟨hs, he⟩ := ehdr_facts (refElf data).x64
  rw [elfEhdr, refElf_x64, refElf_be, unpackFields_packed _ _ data 16 hs (he ▸ h.len), layout_ehdr]
  rfl

theorem elfPhdrs_ok {env : ElfEnv} {data : Bytes} (h : ElfWF env data) :
    elfPhdrsAll (refElf data).be (refElf data).x64 (refElf data).ehdr data = .ok (refElf data).phdr := by
  obtain ⟨hs, he⟩ := phdr_facts (refElf data).x64
  rw [elfPhdrsAll, refElf_phdr, table_spec _ _ _ _ hs (layout_phdr _) he data _ _ _ h.ph_in, apply_ite Except.ok]

theorem elfShdrs_ok {env : ElfEnv} {data : Bytes} (h : ElfWF env data) :
    elfShdrsAll (refElf data).be (refElf data).x64 (refElf data).ehdr data = (refElf data).shdr := by
  obtain ⟨hs, he⟩ := shdr_facts (refElf data).x64
  rw [elfShdrsAll, refElf_shdr,
    tablePrefix_of_tableM _ _ _ _ _ (table_spec _ _ _ _ hs (layout_shdr _) he data _ _ _ h.sh_in)]

theorem nameSections_ok (tab : Bytes) (sh : List Rec)
    (h : ∀ s ∈ sh, utf8Valid (cstrAt tab (fget s "sh_name")) = true) :
    nameSections tab sh = .ok (sh.map (fun s => { hdr := s, name := cstrAt tab (fget s "sh_name") })) := by
  induction sh with
  | nil => rfl
  | cons s rest ih =>
    rw [nameSections, decodeUtf8, if_pos (h s List.mem_cons_self), ih (fun x hx => h x (List.mem_cons_of_mem _ hx))]
    rfl

def refStrtab (data : Bytes) : Bytes :=
  slice data (fget ((refElf data).shdr.getD (fget (refElf data).ehdr "e_shstrndx") []) "sh_offset")
    (fget ((refElf data).shdr.getD (fget (refElf data).ehdr "e_shstrndx") []) "sh_size")

theorem refElf_names (data : Bytes) :
    (refElf data).names = (refElf data).shdr.map (fun s => cstrAt (refStrtab data) (fget s "sh_name")) := by
  simp only [refElf, refStrtab]

theorem elfNames_ok {env : ElfEnv} {data : Bytes} (h : ElfWF env data) :
    elfNames (refElf data).ehdr (refElf data).shdr data =
      .ok ((refElf data).shdr.map (fun s => { hdr := s, name := cstrAt (refStrtab data) (fget s "sh_name") })) := by
  have c1 : (fget (refElf data).ehdr "e_shstrndx" != 0 &&
      decide (fget (refElf data).ehdr "e_shstrndx" < (refElf data).shdr.length)) = true := by
    rw [Bool.and_eq_true, bne_iff_ne, decide_eq_true_eq]; exact ⟨h.strndx_pos, h.strndx_lt⟩
  have c2 : ¬ (fget ((refElf data).shdr.getD (fget (refElf data).ehdr "e_shstrndx") []) "sh_type" != SHT_STRTAB) = true := by
    rw [h.strtab]; decide
  have c3 : (decide (fget ((refElf data).shdr.getD (fget (refElf data).ehdr "e_shstrndx") []) "sh_offset" ≥ pow63) ||
      decide (fget ((refElf data).shdr.getD (fget (refElf data).ehdr "e_shstrndx") []) "sh_size" ≥ pow63)) = false := by
    rw [decide_eq_false (Nat.not_le.mpr h.str_off), decide_eq_false (Nat.not_le.mpr h.str_size)]; rfl
  rw [elfNames]
  dsimp only
  rw [if_pos c1, if_neg c2, fileRead, c3]
  exact nameSections_ok _ _ (fun s hs => h.names_utf8 _ (refElf_names data ▸ List.mem_map_of_mem hs))

/-! ### ELF: `getinfo` -/

theorem findLastIdxAux_spec {α} (p : α → Bool) (l : List α) (i : Nat) (acc : Option Nat) :
    (findLastIdxAux p l i acc = acc ∧ ∀ x ∈ l, p x = false) ∨
    (∃ k, findLastIdxAux p l i acc = some (i + k) ∧ k < l.length ∧
       (∃ x, l[k]? = some x ∧ p x = true) ∧ ∀ j x, k < j → l[j]? = some x → p x = false) := by
  induction l generalizing i acc with
  | nil => exact .inl ⟨rfl, fun _ h => nomatch h⟩
  | cons a t ih =>
    rw [findLastIdxAux]
    rcases ih (i + 1) (if p a = true then some i else acc) with ⟨h1, h2⟩ | ⟨k, h1, h2, h3, h4⟩
    · by_cases ha : p a = true
      · refine .inr ⟨0, by rw [h1, if_pos ha]; rfl, Nat.succ_pos _, ⟨a, rfl, ha⟩, fun j x hj hx => ?_⟩
        obtain ⟨j, rfl⟩ := Nat.exists_eq_succ_of_ne_zero (Nat.ne_of_gt hj)
        exact h2 x (List.mem_of_getElem? hx)
      · rw [if_neg ha] at h1 ⊢
        refine .inl ⟨h1, fun x hx => ?_⟩
        rcases List.mem_cons.mp hx with rfl | hx
        · exact Bool.eq_false_iff.mpr ha
        · exact h2 x hx
    · refine .inr ⟨k + 1, by rw [h1, Nat.add_assoc, Nat.add_comm 1], Nat.succ_lt_succ h2, h3, fun j x hj hx => ?_⟩
      obtain ⟨j, rfl⟩ := Nat.exists_eq_succ_of_ne_zero (Nat.ne_of_gt (Nat.lt_of_le_of_lt (Nat.zero_le _) hj))
      exact h4 j x (Nat.lt_of_succ_lt_succ hj) hx

/-- the predicate `getinfo` scans the section list with -/
def secHolds (addr : Nat) (s : Section) : Bool :=
  fget s.hdr "sh_type" == SHT_PROGBITS && decide (fget s.hdr "sh_addr" ≤ addr) &&
    decide (addr < fget s.hdr "sh_addr" + fget s.hdr "sh_size")


theorem findLastIdx_some {α} (p : α → Bool) (l : List α) (k : Nat) (h : findLastIdx p l = some k) :
    k < l.length ∧ (∃ x, l[k]? = some x ∧ p x = true) ∧ ∀ j x, k < j → l[j]? = some x → p x = false := by
  rcases findLastIdxAux_spec p l 0 none with ⟨h1, _⟩ | ⟨k', h1, h2, h3, h4⟩
  · rw [findLastIdx, h1] at h; cases h
  · rw [findLastIdx, h1, Nat.zero_add] at h
    cases h
    exact ⟨h2, h3, h4⟩

theorem findLastIdx_none {α} (p : α → Bool) (l : List α) (h : findLastIdx p l = none) :
    ∀ x ∈ l, p x = false := by
  rcases findLastIdxAux_spec p l 0 none with ⟨_, h2⟩ | ⟨k', h1, _, _, _⟩
  · exact h2
  · rw [findLastIdx, h1] at h; cases h

theorem getinfo_shdr (t : ElfTables) (addr : Nat) (hne : t.shdr ≠ []) :
    getinfo t addr = match findLastIdx (secHolds addr) t.shdr with
      | some i => (.sec i, addr - fget (t.shdr.getD i default).hdr "sh_addr", fget (t.shdr.getD i default).hdr "sh_addr")
      | none => (.none, 0, 0) := by
  have he : (!t.shdr.isEmpty) = true := by
    cases hs : t.shdr with
    | nil => exact absurd hs hne
    | cons a b => rfl
  rw [getinfo, if_pos he]
  rfl

/-! ### which exceptions leave a constructor -/

def Raises {α} (S : PyExn → Prop) (x : Py α) : Prop := ∀ e, x = .error e → S e

theorem raises_bind {α β} {S : PyExn → Prop} {x : Py α} {f : α → Py β}
    (hx : Raises S x) (hf : ∀ a, Raises S (f a)) : Raises S (x >>= f) := by
  intro e he
  cases x with
  | error e' => cases he; exact hx _ rfl
  | ok a => exact hf a e he

theorem raises_ok {α} {S : PyExn → Prop} (a : α) : Raises S (.ok a : Py α) := by
  intro e he; cases he

theorem raises_error {α} {S : PyExn → Prop} {e : PyExn} (h : S e) : Raises S (.error e : Py α) := by
  intro e' he; cases he; exact h

theorem raises_ite {α} {S : PyExn → Prop} {c : Prop} [Decidable c] {x y : Py α}
    (hx : Raises S x) (hy : Raises S y) : Raises S (if c then x else y) := by
  split
  · exact hx
  · exact hy

theorem raises_mono {α} {S T : PyExn → Prop} {x : Py α} (hST : ∀ e, S e → T e) (h : Raises S x) : Raises T x :=
  fun e he => hST e (h e he)

/-- `AssertionError` or `ValueError`: what `assert`, `int()` and `unhexlify` raise -/
def AV (e : PyExn) : Prop := e = .assertion ∨ e = .value

theorem raises_pyAssert (b : Bool) : Raises AV (pyAssert b) :=
  raises_ite (raises_ok _) (raises_error (.inl rfl))

theorem raises_pyInt (base : Nat) (s : List Nat) : Raises AV (pyInt base s) := by
  unfold pyInt
  extract_lets s1 neg s2 hasPfx s3
  refine raises_ite (raises_error (.inr rfl)) ?_
  cases scanDigits base s3 0 false with
  | none => exact raises_error (.inr rfl)
  | some p => exact raises_ite (raises_error (.inr rfl)) (raises_ite (raises_error (.inr rfl)) (raises_ok _))

theorem raises_unhexlify : ∀ s : List Nat, Raises AV (unhexlify s)
  | [] => fun _ he => nomatch he
  | [_] => fun _ he => by cases he; exact .inr rfl
  | a :: b :: t => by
    intro e he
    rw [unhexlify] at he
    split at he
    · split at he
      · cases he
      · next hr => cases he; exact raises_unhexlify t _ hr
    · cases he; exact .inr rfl

theorem raises_hexExtOf (code count : Int) (data : List Nat) : Raises AV (hexExtOf code count data) := by
  have one : ∀ (b : Bool) (ctor : Int → HexExt),
      Raises AV (do pyAssert b; let v ← pyInt 16 (hexlify data); pure (ctor v)) := fun _ _ =>
    raises_bind (raises_pyAssert _) (fun _ => raises_bind (raises_pyInt _ _) (fun _ => raises_ok _))
  unfold hexExtOf
  dsimp only
  exact raises_ite (one _ _) (raises_ite
    (raises_bind (raises_pyAssert _) (fun _ => raises_bind (raises_pyInt _ _) (fun _ =>
      raises_bind (raises_pyInt _ _) (fun _ => raises_ok _))))
    (raises_ite (one _ _) (raises_ite (one _ _) (raises_ok _))))

theorem raises_hexLineBody (line : List Nat) : Raises AV (hexLineBody line) := by
  unfold hexLineBody
  refine raises_bind (raises_pyAssert _) (fun _ => ?_)
  refine raises_bind (raises_pyInt _ _) (fun count => ?_)
  refine raises_bind (raises_pyInt _ _) (fun address => ?_)
  refine raises_bind (raises_pyInt _ _) (fun code => ?_)
  refine raises_bind (raises_unhexlify _) (fun data => ?_)
  refine raises_bind (raises_unhexlify _) (fun s => ?_)
  refine raises_bind (raises_pyInt _ _) (fun last => ?_)
  refine raises_bind (raises_pyAssert _) (fun _ => ?_)
  exact raises_bind (raises_hexExtOf _ _ _) (fun ext => raises_ok _)

def OnlyHex (e : PyExn) : Prop := e = .hexError
def OnlySrec (e : PyExn) : Prop := e = .srecError

theorem raises_hexLineSet (raw : List Nat) : Raises OnlyHex (hexLineSet raw) := by
  intro e he
  rw [hexLineSet] at he
  cases hb : hexLineBody (strip raw) with
  | ok v => rw [hb] at he; cases he
  | error e' =>
    rw [hb] at he
    rcases raises_hexLineBody _ e' hb with rfl | rfl <;> cases he <;> rfl

theorem raises_hexInitLoop (ls : List (List Nat)) (acc : HexFile) : Raises OnlyHex (hexInitLoop ls acc) := by
  induction ls generalizing acc with
  | nil => exact fun _ he => nomatch he
  | cons raw rest ih =>
    intro e he
    rw [hexInitLoop] at he
    cases hl : hexLineSet raw with
    | error e' => rw [hl] at he; cases he; exact raises_hexLineSet raw e hl
    | ok l => rw [hl] at he; exact ih _ e he

theorem raises_hexInit (data : Bytes) : Raises OnlyHex (hexInit data) := raises_hexInitLoop _ _

def AVS (e : PyExn) : Prop := e = .assertion ∨ e = .value ∨ e = .srecError

theorem av_avs {α} {x : Py α} (h : Raises AV x) : Raises AVS x :=
  raises_mono (fun _ h => h.elim .inl (fun h => .inr (.inl h))) h

theorem raises_srecLineBody (line : List Nat) : Raises AVS (srecLineBody line) := by
  unfold srecLineBody
  refine raises_bind (av_avs (raises_pyAssert _)) (fun _ => ?_)
  refine raises_bind (av_avs (raises_pyInt _ _)) (fun ty => ?_)
  refine raises_bind (av_avs (raises_pyInt _ _)) (fun count => ?_)
  refine raises_bind (av_avs (raises_pyInt _ _)) (fun address => ?_)
  refine raises_bind (av_avs (raises_unhexlify _)) (fun data => ?_)
  refine raises_bind (av_avs (raises_pyAssert _)) (fun _ => ?_)
  refine raises_bind (av_avs (raises_unhexlify _)) (fun s => ?_)
  refine raises_bind (av_avs (raises_pyInt _ _)) (fun last => ?_)
  exact raises_ite (raises_bind (raises_error (.inr (.inr rfl))) (fun _ => raises_ok _)) (raises_ok _)

theorem raises_srecLineSet (raw : List Nat) : Raises OnlySrec (srecLineSet raw) := by
  intro e he
  rw [srecLineSet] at he
  cases hb : srecLineBody (strip raw) with
  | ok v => rw [hb] at he; cases he
  | error e' =>
    rw [hb] at he
    rcases raises_srecLineBody _ e' hb with rfl | rfl | rfl <;> cases he <;> rfl

theorem raises_srecInitLoop (ls : List (List Nat)) (acc : SrecFile) : Raises OnlySrec (srecInitLoop ls acc) := by
  induction ls generalizing acc with
  | nil => exact fun _ he => nomatch he
  | cons raw rest ih =>
    intro e he
    rw [srecInitLoop] at he
    split at he
    · exact ih _ e he
    · cases hl : srecLineSet raw with
      | error e' => rw [hl] at he; cases he; exact raises_srecLineSet raw e hl
      | ok l => rw [hl] at he; exact ih _ e he

theorem raises_srecInit (data : Bytes) : Raises OnlySrec (srecInit data) := raises_srecInitLoop _ _

def ElfOrStruct (e : PyExn) : Prop := e = .elfError ∨ e = .structureError

theorem raises_elfInit (env : ElfEnv) (data : Bytes) : Raises ElfOrStruct (elfInit env data) := by
  intro e he
  rw [elfInit] at he
  cases hr : elfParseRaw env data with
  | ok v => rw [hr] at he; cases he
  | error e' => rw [hr] at he; cases e' <;> cases he <;> first | exact .inl rfl | exact .inr rfl


/-- one link of the `read_program` chain: a constructor that raises only what the link catches
    hands over to the rest of the chain -/
theorem tryFormat_total {α} (r : Py α) (caught : List PyExn) (ok : α → Outcome) (next : Py Outcome)
    (hr : Raises (fun e => caught.contains e = true) r) (hn : ∃ o, next = .ok o) :
    ∃ o, tryFormat r caught ok next = .ok o := by
  cases r with
  | ok a => exact ⟨ok a, rfl⟩
  | error e => rw [tryFormat, if_pos (hr e rfl)]; exact hn

theorem raises_peInit (B : Bodies) (data : Bytes) :
    Raises (fun e => [PyExn.structureError, .peError].contains e = true) (peInit B data) :=
  raises_ite (raises_ite (raises_ok _) (raises_error rfl)) (raises_ite (raises_error rfl) (raises_error rfl))

theorem raises_machoInit (B : Bodies) (data : Bytes) :
    Raises (fun e => [PyExn.structureError, .machoError].contains e = true) (machoInit B data) :=
  raises_ite (raises_ite (raises_ok _) (raises_error rfl)) (raises_error rfl)

theorem raises_coffInit (B : Bodies) (data : Bytes) :
    Raises (fun e => [PyExn.structureError, .coffError].contains e = true) (coffInit B data) :=
  raises_ite (raises_ite (raises_ok _) (raises_error rfl)) (raises_error rfl)

/-! ### the first byte of an accepted file -/

def StartsWith (cs : List Nat) (d : Bytes) : Prop := ∃ c ∈ cs, d.head? = some c

theorem StartsWith.disjoint {as bs : List Nat} {d : Bytes} (ha : StartsWith as d) (hb : StartsWith bs d)
    (h : ∀ a ∈ as, a ∉ bs) : False := by
  obtain ⟨a, ha, ea⟩ := ha
  obtain ⟨b, hb, eb⟩ := hb
  rw [ea] at eb
  cases eb
  exact h a ha hb

theorem isOk_ok {α} {x : Py α} (h : x.isOk = true) : ∃ r, x = .ok r := by
  cases x with
  | ok r => exact ⟨r, rfl⟩
  | error e => cases h

theorem pyAssert_ok {b : Bool} {u : Unit} (h : pyAssert b = .ok u) : b = true := by
  cases b with
  | true => rfl
  | false => cases h

theorem pySlice01_head (line : List Nat) (v : Nat) (h : (pySlice line 0 1 == [v]) = true) :
    line.head? = some v := by
  cases line with
  | nil => cases h
  | cons c t =>
    have e : pySlice (c :: t) 0 1 = [c] := pySlice_mid [] [c] t 0 1 rfl rfl
    rw [e] at h
    exact congrArg some (List.cons.inj (beq_iff_eq.mp h)).1

theorem accHex_line {d : Bytes} {l : List Nat} {rest : List (List Nat)} (h : accHex d = true)
    (hl : readlines d = l :: rest) : (strip l).head? = some 58 := by
  rw [accHex, hexInit, hl] at h
  obtain ⟨r, hr⟩ := isOk_ok h
  rw [hexInitLoop] at hr
  cases hs : hexLineSet l with
  | error e => rw [hs] at hr; cases hr
  | ok v =>
    obtain ⟨_, ha, -⟩ := bind_ok _ _ _ (toHexError_ok _ _ hs)
    exact pySlice01_head _ _ (pyAssert_ok ha)

theorem accSrec_line {d : Bytes} {l : List Nat} {rest : List (List Nat)} (h : accSrec d = true)
    (hl : readlines d = l :: rest) : strip l = [] ∨ (strip l).head? = some 83 := by
  rw [accSrec, srecInit, hl] at h
  obtain ⟨r, hr⟩ := isOk_ok h
  rw [srecInitLoop] at hr
  by_cases hb : (strip l == []) = true
  · exact .inl (beq_iff_eq.mp hb)
  · rw [if_neg hb] at hr
    cases hs : srecLineSet l with
    | error e => rw [hs] at hr; cases hr
    | ok v =>
      obtain ⟨_, ha, -⟩ := bind_ok _ _ _ (toSrecError_ok _ _ hs)
      exact .inr (pySlice01_head _ _ (pyAssert_ok ha))

theorem readlinesAux_head (t cur : List Nat) (hne : cur ≠ []) :
    ∃ l rest, readlinesAux t cur = l :: rest ∧ l.head? = cur.reverse.head? := by
  induction t generalizing cur with
  | nil =>
    refine ⟨cur.reverse, [], ?_, rfl⟩
    rw [readlinesAux, if_neg (by rwa [List.isEmpty_iff])]
  | cons c t ih =>
    have hh : (c :: cur).reverse.head? = cur.reverse.head? := by
      obtain ⟨y, ys, e⟩ := List.exists_cons_of_ne_nil (mt List.reverse_eq_nil_iff.mp hne)
      rw [List.reverse_cons, e]
      rfl
    rw [readlinesAux]
    by_cases hc : (c == 10) = true
    · rw [if_pos hc]; exact ⟨_, _, rfl, hh⟩
    · rw [if_neg hc]
      obtain ⟨l, rest, h1, h2⟩ := ih (c :: cur) (List.cons_ne_nil _ _)
      exact ⟨l, rest, h1, h2.trans hh⟩

theorem readlines_first (c : Nat) (t : List Nat) :
    ∃ l rest, readlines (c :: t) = l :: rest ∧ l.head? = some c := by
  rw [readlines, readlinesAux]
  by_cases hc : (c == 10) = true
  · rw [if_pos hc]; exact ⟨_, _, rfl, rfl⟩
  · rw [if_neg hc]; exact readlinesAux_head t [c] (List.cons_ne_nil _ _)

theorem head_strip (l : List Nat) (c : Nat) (h : l.head? = some c) (hc : isSpace c = false) :
    (strip l).head? = some c := by
  cases l with
  | nil => cases h
  | cons a t =>
    cases h
    -- reverse, drop trailing spaces, reverse: the first element survives
    have : ∃ u, List.dropWhile isSpace (t.reverse ++ [c]) = u ++ [c] := by
      rw [List.dropWhile_append]
      split
      · exact ⟨[], by rw [List.dropWhile_cons_of_neg (by rw [hc]; decide)]; rfl⟩
      · exact ⟨_, rfl⟩
    obtain ⟨u, hu⟩ := this
    rw [strip, lstrip_cons c t hc, rstrip, List.reverse_cons, hu, List.reverse_append]
    rfl

theorem text_starts {d : Bytes} {cs : List Nat} {m : Nat} (hs : StartsWith cs d)
    (hcs : ∀ c ∈ cs, isSpace c = false ∧ c ≠ m)
    (hl : ∀ l rest, readlines d = l :: rest → strip l = [] ∨ (strip l).head? = some m) : False := by
  obtain ⟨c, hc, hd⟩ := hs
  cases d with
  | nil => cases hd
  | cons a t =>
    cases hd
    obtain ⟨l, rest, h1, h2⟩ := readlines_first c t
    have hh := head_strip l c h2 (hcs c hc).1
    rcases hl l rest h1 with h0 | h0
    · rw [h0] at hh; cases hh
    · rw [hh] at h0; exact (hcs c hc).2 (Option.some.inj h0)

theorem accHex_starts {d : Bytes} {cs : List Nat} (h : accHex d = true) (hs : StartsWith cs d)
    (hcs : ∀ c ∈ cs, isSpace c = false ∧ c ≠ 58) : False :=
  text_starts hs hcs (fun _ _ hl => .inr (accHex_line h hl))

theorem accSrec_starts {d : Bytes} {cs : List Nat} (h : accSrec d = true) (hs : StartsWith cs d)
    (hcs : ∀ c ∈ cs, isSpace c = false ∧ c ≠ 83) : False :=
  text_starts hs hcs (fun _ _ hl => accSrec_line h hl)

theorem accHex_accSrec (d : Bytes) (h1 : accHex d = true) (h2 : accSrec d = true) : d = [] := by
  cases d with
  | nil => rfl
  | cons a t =>
    obtain ⟨l, rest, e1, _⟩ := readlines_first a t
    have a1 := accHex_line h1 e1
    rcases accSrec_line h2 e1 with h0 | h0
    · rw [h0] at a1; cases a1
    · rw [a1] at h0; cases h0

theorem toStructureError_ok {α} {x : Py α} {r : α} (h : toStructureError x = .ok r) : x = .ok r := by
  cases x with
  | ok a => exact h
  | error e => cases h

theorem unpackFields_head (be al : Bool) (f : RawField) (fs : List RawField) (data : Bytes) (base rel : Nat) (r : Rec)
    (h : unpackFields be al (f :: fs) data base rel = .ok r) :
    ∃ v rest, r = (f.name, v) :: rest ∧ rdField be f data (base + (if al then alignUp rel f.size else rel)) = .ok v := by
  rw [unpackFields] at h
  cases hr : rdField be f data (base + (if al = true then alignUp rel f.size else rel)) with
  | error e => rw [hr] at h; cases h
  | ok v =>
    rw [hr] at h
    cases hu : unpackFields be al fs data base ((if al = true then alignUp rel f.size else rel) + f.nbytes) with
    | error e => rw [hu] at h; cases h
    | ok rest => rw [hu] at h; cases h; exact ⟨v, rest, rfl, rfl⟩

theorem rdField_byte0 (be : Bool) (n : String) (data : Bytes) (v : Nat)
    (h : rdField be ⟨n, 1, 0⟩ data 0 = .ok v) : data.head? = some v := by
  cases data with
  | nil => simp [rdField, slice, RawField.nbytes] at h
  | cons b t =>
    simp [rdField, slice, RawField.nbytes, fieldVal, leVal, beVal, beNat] at h
    cases be <;> simp_all

theorem elfIdent_head (data : Bytes) (ident : Rec) (h : elfIdent data = .ok ident) :
    data.head? = some 0x7f := by
  rw [elfIdent] at h
  cases hu : structUnpack false identFields data 0 with
  | error e => rw [hu] at h; cases h
  | ok id =>
    rw [hu] at h
    obtain ⟨v, rest, rfl, hrd⟩ := unpackFields_head false true _ _ data 0 0 id (toStructureError_ok hu)
    dsimp only at h
    split at h
    · cases h
    · next hm =>
      rw [Bool.or_eq_true, not_or, bne_iff_ne, ne_eq, Decidable.not_not] at hm
      rw [rdField_byte0 false _ data v hrd, ← hm.1]
      rfl

theorem elfInit_tables {env : ElfEnv} {data : Bytes} {o : ElfObj} (h : elfInit env data = .ok o) :
    elfTables env data = .ok o.t := by
  rw [elfInit] at h
  cases hr : elfParseRaw env data with
  | error e => rw [hr] at h; cases e <;> cases h
  | ok o' =>
    rw [hr] at h
    cases h
    obtain ⟨t, ht, hr⟩ := bind_ok _ _ _ hr
    obtain ⟨fv, -, hr⟩ := bind_ok _ _ _ hr
    cases hr
    exact ht

theorem accElf_head (env : ElfEnv) (data : Bytes) (h : accElf env data = true) : StartsWith [0x7f] data := by
  obtain ⟨o, ho⟩ := isOk_ok h
  have ht := elfInit_tables ho
  rw [elfTables] at ht
  cases hi : elfIdent data with
  | error e => rw [hi] at ht; cases ht
  | ok ident => exact ⟨_, List.mem_singleton.mpr rfl, elfIdent_head data ident hi⟩

theorem peHeaderOK_head (data : Bytes) (h : peHeaderOK data = true) : StartsWith [77] data := by
  unfold peHeaderOK at h
  simp only [Bool.and_eq_true] at h
  obtain ⟨⟨_, h2⟩, _⟩ := h
  refine ⟨77, List.mem_singleton.mpr rfl, ?_⟩
  cases data with
  | nil => simp [slice] at h2
  | cons b t =>
    cases t with
    | nil => simp [slice] at h2
    | cons c u => simp [slice] at h2; simp [h2.1]

theorem leVal_mod (b : Nat) (t : Bytes) (hb : b < 256) : leVal (b :: t) % 256 = b := by
  rw [leVal, Nat.add_mul_mod_self_left, Nat.mod_eq_of_lt hb]

theorem machoHeaderOK_head (data : Bytes) (hok : BytesOK data) (h : machoHeaderOK data = true) :
    StartsWith [0xCE, 0xCF, 0xCA] data := by
  unfold machoHeaderOK at h
  simp only [Bool.and_eq_true, decide_eq_true_eq, Bool.or_eq_true, beq_iff_eq] at h
  obtain ⟨hlen, hm⟩ := h
  cases data with
  | nil => cases hlen
  | cons b0 t =>
    have hmod : leVal (slice (b0 :: t) 0 4) % 256 = b0 := leVal_mod b0 (t.take 3) (hok b0 List.mem_cons_self)
    refine ⟨b0, ?_, rfl⟩
    rcases hm with (hm | ⟨hm, _⟩) | hm <;> rw [← hmod, hm] <;> decide

end Amoco.Fmt
