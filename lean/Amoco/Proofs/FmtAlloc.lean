/-
  C20, no unbounded allocation: what `HEX.__init__` and `SREC.__init__` keep is at most one record
  per input line and one data byte per two input characters.
-/
import Amoco.Model.HexSrec

namespace Amoco.Fmt

theorem unhexlify_length : ∀ (l r : List Nat), unhexlify l = .ok r → 2 * r.length = l.length
  | [], r, h => by simp [unhexlify] at h; subst h; rfl
  | [_], r, h => by simp [unhexlify] at h
  | a :: b :: t, r, h => by
    unfold unhexlify at h
    split at h
    · split at h
      · rename_i r' hr
        simp only [Except.ok.injEq] at h; subst h
        have := unhexlify_length t r' hr
        simp only [List.length_cons]; omega
      · simp at h
    · simp at h

theorem pySlice_length_le {α} (l : List α) (a b : Int) : (pySlice l a b).length ≤ l.length := by
  unfold pySlice
  rw [List.length_take, List.length_drop]; omega

theorem lstrip_length_le (l : List Nat) : (lstrip l).length ≤ l.length := by
  unfold lstrip
  exact (List.dropWhile_sublist _).length_le

theorem rstrip_length_le (l : List Nat) : (rstrip l).length ≤ l.length := by
  unfold rstrip
  rw [List.length_reverse]
  have := (List.dropWhile_sublist isSpace (l := l.reverse)).length_le
  rwa [List.length_reverse] at this

theorem strip_length_le (l : List Nat) : (strip l).length ≤ l.length := by
  unfold strip
  exact Nat.le_trans (rstrip_length_le _) (lstrip_length_le _)

theorem bind_ok {α β} (x : Py α) (f : α → Py β) (r : β) (h : (x >>= f) = .ok r) :
    ∃ a, x = .ok a ∧ f a = .ok r := by
  cases x with
  | error e => simp [bind, Except.bind] at h
  | ok a => exact ⟨a, rfl, h⟩

theorem toHexError_ok {α} (x : Py α) (r : α) (h : toHexError x = .ok r) : x = .ok r := by
  unfold toHexError at h
  split at h <;> simp_all

theorem toSrecError_ok {α} (x : Py α) (r : α) (h : toSrecError x = .ok r) : x = .ok r := by
  unfold toSrecError at h
  split at h <;> simp_all

theorem hexLineSet_data_le (raw : List Nat) (l : HexLine) (h : hexLineSet raw = .ok l) :
    2 * l.data.length ≤ raw.length := by
  unfold hexLineSet at h
  have h1 := toHexError_ok _ _ h
  unfold hexLineBody at h1
  obtain ⟨_, _, h1⟩ := bind_ok _ _ _ h1
  obtain ⟨count, _, h1⟩ := bind_ok _ _ _ h1
  obtain ⟨address, _, h1⟩ := bind_ok _ _ _ h1
  obtain ⟨code, _, h1⟩ := bind_ok _ _ _ h1
  obtain ⟨data, hd, h1⟩ := bind_ok _ _ _ h1
  obtain ⟨s, _, h1⟩ := bind_ok _ _ _ h1
  obtain ⟨last, _, h1⟩ := bind_ok _ _ _ h1
  obtain ⟨_, _, h1⟩ := bind_ok _ _ _ h1
  obtain ⟨ext, _, h1⟩ := bind_ok _ _ _ h1
  simp only [pure, Except.pure, Except.ok.injEq] at h1
  subst h1
  have := unhexlify_length _ _ hd
  have := pySlice_length_le (strip raw) 9 (9 + 2 * count)
  have := strip_length_le raw
  simp only; omega

theorem srecLineSet_data_le (raw : List Nat) (l : SrecLine) (h : srecLineSet raw = .ok l) :
    2 * l.data.length ≤ raw.length := by
  unfold srecLineSet at h
  have h1 := toSrecError_ok _ _ h
  unfold srecLineBody at h1
  obtain ⟨_, _, h1⟩ := bind_ok _ _ _ h1
  obtain ⟨ty, _, h1⟩ := bind_ok _ _ _ h1
  obtain ⟨count, _, h1⟩ := bind_ok _ _ _ h1
  obtain ⟨address, _, h1⟩ := bind_ok _ _ _ h1
  obtain ⟨data, hd, h1⟩ := bind_ok _ _ _ h1
  obtain ⟨_, _, h1⟩ := bind_ok _ _ _ h1
  obtain ⟨s, _, h1⟩ := bind_ok _ _ _ h1
  obtain ⟨last, _, h1⟩ := bind_ok _ _ _ h1
  split at h1
  · simp [throw, throwThe, MonadExceptOf.throw, bind, Except.bind] at h1
  · simp only [pure, Except.pure, Except.ok.injEq] at h1
    subst h1
    have := unhexlify_length _ _ hd
    have := pySlice_length_le (strip raw) (4 + srecSize ty count) (-2)
    have := strip_length_le raw
    simp only; omega

theorem readlinesAux_sum : ∀ (d cur : List Nat),
    ((readlinesAux d cur).map List.length).sum = d.length + cur.length ∧
    (readlinesAux d cur).length ≤ d.length + cur.length
  | [], cur => by
    unfold readlinesAux
    cases cur <;> simp
  | c :: t, cur => by
    unfold readlinesAux
    split
    · have := readlinesAux_sum t []
      simp only [List.map_cons, List.sum_cons, List.length_reverse, List.length_cons, List.length_nil] at this ⊢
      omega
    · have := readlinesAux_sum t (c :: cur)
      simp only [List.length_cons] at this ⊢
      omega

theorem readlines_sum (d : List Nat) :
    ((readlines d).map List.length).sum = d.length ∧ (readlines d).length ≤ d.length := by
  have := readlinesAux_sum d []
  simpa [readlines] using this

def hexDataBytes (ls : List HexLine) : Nat := (ls.map (fun l => l.data.length)).sum
def srecDataBytes (ls : List SrecLine) : Nat := (ls.map (fun l => l.data.length)).sum

theorem hexDataBytes_reverse (ls : List HexLine) : hexDataBytes ls.reverse = hexDataBytes ls := by
  unfold hexDataBytes; rw [List.map_reverse, List.sum_reverse]

theorem srecDataBytes_reverse (ls : List SrecLine) : srecDataBytes ls.reverse = srecDataBytes ls := by
  unfold srecDataBytes; rw [List.map_reverse, List.sum_reverse]

theorem hexDataBytes_cons (l : HexLine) (ls : List HexLine) :
    hexDataBytes (l :: ls) = l.data.length + hexDataBytes ls := by
  unfold hexDataBytes; rw [List.map_cons, List.sum_cons]

theorem srecDataBytes_cons (l : SrecLine) (ls : List SrecLine) :
    srecDataBytes (l :: ls) = l.data.length + srecDataBytes ls := by
  unfold srecDataBytes; rw [List.map_cons, List.sum_cons]

theorem hexInitLoop_bound : ∀ (raws : List (List Nat)) (acc h : HexFile),
    hexInitLoop raws acc = .ok h →
    h.lines.length = acc.lines.length + raws.length ∧
    2 * hexDataBytes h.lines ≤ 2 * hexDataBytes acc.lines + (raws.map List.length).sum
  | [], acc, h, e => by
    cases e
    exact ⟨List.length_reverse, by rw [hexDataBytes_reverse]; exact Nat.le_add_right _ _⟩
  | raw :: rest, acc, h, e => by
    rw [hexInitLoop] at e
    cases hl : hexLineSet raw with
    | error x => rw [hl] at e; cases e
    | ok l =>
      rw [hl] at e
      dsimp -zeta only at e
      extract_lets acc1 at e
      -- the entry-point bookkeeping leaves the record list alone
      have h1 : acc1.lines = acc.lines := by
        unfold acc1; cases l.ext <;> simp only [apply_ite HexFile.lines, ite_self]
      have hb := hexLineSet_data_le raw l hl
      have ih := hexInitLoop_bound rest _ h e
      rw [hexDataBytes_cons, h1] at ih
      rw [List.map_cons, List.sum_cons, List.length_cons]
      exact ⟨by rw [ih.1, List.length_cons]; omega, by omega⟩

theorem srecInitLoop_bound : ∀ (raws : List (List Nat)) (acc h : SrecFile),
    srecInitLoop raws acc = .ok h →
    h.lines.length ≤ acc.lines.length + raws.length ∧
    2 * srecDataBytes h.lines ≤ 2 * srecDataBytes acc.lines + (raws.map List.length).sum
  | [], acc, h, e => by
    cases e
    exact ⟨by rw [List.length_reverse]; exact Nat.le_add_right _ _,
      by rw [srecDataBytes_reverse]; exact Nat.le_add_right _ _⟩
  | raw :: rest, acc, h, e => by
    rw [srecInitLoop] at e
    rw [List.map_cons, List.sum_cons, List.length_cons]
    by_cases hs : (strip raw == []) = true
    · rw [if_pos hs] at e
      have ih := srecInitLoop_bound rest acc h e
      exact ⟨by omega, by omega⟩
    rw [if_neg hs] at e
    cases hl : srecLineSet raw with
    | error x => rw [hl] at e; cases e
    | ok l =>
      rw [hl] at e
      dsimp -zeta only at e
      extract_lets acc1 at e
      have h1 : acc1.lines = acc.lines := by
        simp only [acc1, apply_ite SrecFile.lines, ite_self]
      have hb := srecLineSet_data_le raw l hl
      have ih := srecInitLoop_bound rest _ h e
      rw [srecDataBytes_cons, h1] at ih
      exact ⟨by have := ih.1; rw [List.length_cons] at this; omega, by omega⟩

end Amoco.Fmt
