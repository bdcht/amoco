/-
  For C05: the `for` loop of `read_leb128` stops at the first byte with bit 7 clear, so its outcome
  depends only on the bytes up to and including it.
-/
import Amoco.Model.LebOperand

namespace Amoco.Leb128

abbrev cont (b : UInt8) : Prop := b.toNat &&& 0x80 ≠ 0

theorem readLoop_count_le (l : List UInt8) : ∀ r s c last,
    c ≤ (readLoop l r s c last).count ∧ (readLoop l r s c last).count ≤ c + l.length := by
  induction l with
  | nil => intro r s c last; simp [readLoop]
  | cons b bs ih =>
    intro r s c last
    simp only [readLoop]
    split
    · simp
    · have := ih (r ||| ((b.toNat &&& 0x7F) <<< s)) (s + 7) (c + 1) b
      simp only [List.length_cons]; omega

theorem readLoop_count_pos (b : UInt8) (bs : List UInt8) (r s c : Nat) (last : UInt8) :
    c + 1 ≤ (readLoop (b :: bs) r s c last).count := by
  simp only [readLoop]
  split
  · simp
  · have := (readLoop_count_le bs (r ||| ((b.toNat &&& 0x7F) <<< s)) (s + 7) (c + 1) b).1
    omega

theorem readLoop_last (l : List UInt8) : ∀ r s c last, l ≠ [] →
    l[(readLoop l r s c last).count - c - 1]? = some (readLoop l r s c last).last := by
  induction l with
  | nil => intro r s c last h; exact absurd rfl h
  | cons b bs ih =>
    intro r s c last _
    simp only [readLoop]
    split
    · simp
    · cases bs with
      | nil => simp [readLoop]
      | cons b2 bs2 =>
        have h1 := ih (r ||| ((b.toNat &&& 0x7F) <<< s)) (s + 7) (c + 1) b (by simp)
        have h2 := readLoop_count_pos b2 bs2 (r ||| ((b.toNat &&& 0x7F) <<< s)) (s + 7) (c + 1) b
        generalize (readLoop (b2 :: bs2) (r ||| ((b.toNat &&& 0x7F) <<< s)) (s + 7) (c + 1) b) = o at h1 h2 ⊢
        have : o.count - c - 1 = (o.count - (c + 1) - 1) + 1 := by omega
        rw [this, List.getElem?_cons_succ]; exact h1

theorem readLoop_take_append (l : List UInt8) : ∀ r s c last (t : List UInt8),
    ¬ cont (readLoop l r s c last).last → l ≠ [] →
    readLoop (l.take ((readLoop l r s c last).count - c) ++ t) r s c last = readLoop l r s c last := by
  induction l with
  | nil => intro r s c last t _ h; exact absurd rfl h
  | cons b bs ih =>
    intro r s c last t hterm _
    by_cases hb : b.toNat &&& 0x80 = 0
    · simp [readLoop, hb]
    · have e : readLoop (b :: bs) r s c last
          = readLoop bs (r ||| ((b.toNat &&& 0x7F) <<< s)) (s + 7) (c + 1) b := by
        simp [readLoop, hb]
      rw [e] at hterm ⊢
      cases bs with
      | nil => simp [readLoop] at hterm; exact absurd hterm hb
      | cons b2 bs2 =>
        have hpos := readLoop_count_pos b2 bs2 (r ||| ((b.toNat &&& 0x7F) <<< s)) (s + 7) (c + 1) b
        have h1 := ih (r ||| ((b.toNat &&& 0x7F) <<< s)) (s + 7) (c + 1) b t hterm (by simp)
        generalize (readLoop (b2 :: bs2) (r ||| ((b.toNat &&& 0x7F) <<< s)) (s + 7) (c + 1) b) = o at h1 hpos hterm ⊢
        have : o.count - c = (o.count - (c + 1)) + 1 := by omega
        rw [this, List.take_succ_cons, List.cons_append]
        simp only [readLoop, hb, if_false]
        exact h1

theorem readLoop_truncated (l : List UInt8) : ∀ r s c last (k : Nat),
    ¬ cont (readLoop l r s c last).last → 0 < k → k < (readLoop l r s c last).count - c →
    cont (readLoop (l.take k) r s c last).last := by
  induction l with
  | nil => intro r s c last k _ hk hlt; simp [readLoop] at hlt
  | cons b bs ih =>
    intro r s c last k hterm hk hlt
    by_cases hb : b.toNat &&& 0x80 = 0
    · simp [readLoop, hb] at hlt; omega
    · have e : readLoop (b :: bs) r s c last
          = readLoop bs (r ||| ((b.toNat &&& 0x7F) <<< s)) (s + 7) (c + 1) b := by
        simp [readLoop, hb]
      rw [e] at hterm hlt
      obtain ⟨k', rfl⟩ : ∃ k', k = k' + 1 := ⟨k - 1, by omega⟩
      rw [List.take_succ_cons]
      simp only [readLoop, hb, if_false]
      by_cases hk' : k' = 0
      · subst hk'; simpa [readLoop] using hb
      · exact ih _ _ _ _ k' hterm (by omega) (by omega)

def valOf (signed : Bool) (o : LoopOut) : Int :=
  if signed && (o.last.toNat &&& 0x40 != 0) then (o.result : Int) - (2 : Int) ^ o.shift else (o.result : Int)

def lebOpL (signed : Bool) (l : List UInt8) : Option (Int × Nat) :=
  if l = [] then none
  else if (readLoop l 0 0 0 0).last.toNat &&& 0x80 ≠ 0 then none
  else some (valOf signed (readLoop l 0 0 0 0), (readLoop l 0 0 0 0).count)

theorem lebOpL_some {signed : Bool} {l : List UInt8} {v : Int} {n : Nat} :
    lebOpL signed l = some (v, n) ↔
      l ≠ [] ∧ ¬ cont (readLoop l 0 0 0 0).last ∧
        valOf signed (readLoop l 0 0 0 0) = v ∧ (readLoop l 0 0 0 0).count = n := by
  unfold lebOpL
  split
  · simp [*]
  · split <;> simp [*]

theorem lebOperand_eq (signed : Bool) (data : List UInt8) (off : Nat) :
    lebOperand signed data off = lebOpL signed (data.drop off) := by
  unfold lebOperand lebOpL
  by_cases hlen : data.length ≤ off
  · simp [hlen, List.drop_eq_nil_iff.mpr hlen]
  · have hne : data.drop off ≠ [] := mt List.drop_eq_nil_iff.mp hlen
    simp only [hlen, if_false, hne]
    have hl := readLoop_last (data.drop off) 0 0 0 0 hne
    obtain ⟨b, bs, hd⟩ := List.exists_cons_of_ne_nil hne
    have hpos := readLoop_count_pos b bs 0 0 0 0
    rw [← hd] at hpos
    simp only [readLeb, hd]
    rw [← hd]
    generalize readLoop (data.drop off) 0 0 0 0 = o at hl hpos ⊢
    have hidx : data[off + o.count - 1]? = some o.last := by
      rw [List.getElem?_drop] at hl
      have : off + (o.count - 0 - 1) = off + o.count - 1 := by omega
      rw [this] at hl; exact hl
    by_cases hs : (signed && (o.last.toNat &&& 0x40 != 0)) = true
    · simp [hs, hidx, valOf]
    · simp [hs, hidx, valOf]

theorem lebOpL_bounds (signed : Bool) (l : List UInt8) (v : Int) (n : Nat)
    (h : lebOpL signed l = some (v, n)) : 1 ≤ n ∧ n ≤ l.length := by
  obtain ⟨hne, _, _, rfl⟩ := lebOpL_some.1 h
  obtain ⟨b, bs, rfl⟩ := List.exists_cons_of_ne_nil hne
  have h1 := readLoop_count_pos b bs 0 0 0 0
  have h2 := (readLoop_count_le (b :: bs) 0 0 0 0).2
  omega

theorem lebOpL_take_append (signed : Bool) (l : List UInt8) (v : Int) (n : Nat)
    (h : lebOpL signed l = some (v, n)) (t : List UInt8) :
    lebOpL signed (l.take n ++ t) = some (v, n) := by
  have hb := lebOpL_bounds signed l v n h
  obtain ⟨hne, hterm, hv, hn⟩ := lebOpL_some.1 h
  have hta := readLoop_take_append l 0 0 0 0 t hterm hne
  rw [Nat.sub_zero, hn] at hta
  refine lebOpL_some.2 ⟨fun hh => ?_, ?_⟩
  · have := congrArg List.length hh
    rw [List.length_append, List.length_take, List.length_nil] at this
    omega
  · rw [hta]
    exact ⟨hterm, hv, hn⟩

theorem lebOpL_truncated (signed : Bool) (l : List UInt8) (v : Int) (n : Nat)
    (h : lebOpL signed l = some (v, n)) (k : Nat) (hk : k < n) :
    lebOpL signed (l.take k) = none := by
  obtain ⟨_, hterm, _, hn⟩ := lebOpL_some.1 h
  unfold lebOpL
  split
  · rfl
  · next hne =>
    have hk0 : 0 < k := Nat.pos_of_ne_zero fun h0 => hne (by rw [h0, List.take_zero])
    exact if_pos (readLoop_truncated l 0 0 0 0 k hterm hk0 (by rw [Nat.sub_zero, hn]; exact hk))

end Amoco.Leb128
