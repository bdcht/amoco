/-
  Lemmas for C15: the bytes of `segBytes`, single writes as byte maps, `lastWrite` over concatenated
  write lists.
-/
import Amoco.Model.Loader
import Amoco.Proofs.Memory

set_option linter.unusedVariables false   -- hypotheses named for `omega`

namespace Amoco.Loader

open Amoco.Memory

theorem pageOffset_le (ps v : Nat) : pageOffset ps v ≤ v := Nat.and_le_left

theorem pageOffset_le_mask (ps v : Nat) : pageOffset ps v ≤ ps - 1 := Nat.and_le_right

theorem pageStart_add_pageOffset (ps v : Nat) : pageStart ps v + pageOffset ps v = v := by
  unfold pageStart pageOffset
  have := @Nat.and_le_left v (ps - 1)
  omega

theorem pageStart_le (ps v : Nat) : pageStart ps v ≤ v := by
  have := pageStart_add_pageOffset ps v; omega

theorem le_pageAlign (ps v : Nat) (h : 0 < ps) : v ≤ pageAlign ps v := by
  unfold pageAlign
  have h1 := pageStart_add_pageOffset ps (v + ps - 1)
  have h2 := pageOffset_le_mask ps (v + ps - 1)
  omega

theorem pageOffset_pow2 (k v : Nat) : pageOffset (2 ^ k) v = v % 2 ^ k := by
  unfold pageOffset
  exact Nat.and_two_pow_sub_one_eq_mod v k

theorem pageStart_pow2 (k v : Nat) : pageStart (2 ^ k) v = v / 2 ^ k * 2 ^ k := by
  have h := pageStart_add_pageOffset (2 ^ k) v
  rw [pageOffset_pow2] at h
  have := Nat.div_add_mod v (2 ^ k)
  have e : 2 ^ k * (v / 2 ^ k) = v / 2 ^ k * 2 ^ k := Nat.mul_comm _ _
  omega

theorem fileRead_getElem? (file : Bytes) (off n k : Nat) (hk : k < n) :
    (fileRead file off n)[k]? = file[off + k]? := by
  unfold fileRead
  rw [List.getElem?_take_of_lt hk, List.getElem?_drop]

theorem fileRead_length (file : Bytes) (off n : Nat) : (fileRead file off n).length = min n (file.length - off) := by
  unfold fileRead
  rw [List.length_take, List.length_drop]

theorem ljust_getElem?_lt (bs : Bytes) (n f k : Nat) (h : k < bs.length) : (ljust bs n f)[k]? = bs[k]? := by
  unfold ljust
  rw [List.getElem?_append_left h]

theorem ljust_getElem?_ge (bs : Bytes) (n f k : Nat) (h1 : bs.length ≤ k) (h2 : k < n) :
    (ljust bs n f)[k]? = some f := by
  unfold ljust
  rw [List.getElem?_append_right h1, List.getElem?_replicate]
  have : k - bs.length < n - bs.length := by omega
  simp [this]

theorem ljust_length (bs : Bytes) (n f : Nat) : (ljust bs n f).length = max bs.length n := by
  unfold ljust
  rw [List.length_append, List.length_replicate]
  omega

/-- the block the repaired `Elf.loadsegment` writes: the page slack below `p_vaddr` and the file-backed
    part are the file bytes from `offset - PAGEOFFSET(vaddr)` on, the rest up to `memsz` is zero -/
theorem segBytes_get (file : Bytes) (ps : Nat) (s : Phdr) (k : Nat) (hps : 0 < ps) (ok : SegOK file ps s)
    (hk : k < pageOffset ps s.vaddr + s.memsz) :
    (segBytes .repaired file ps s)[k]? =
      if k < pageOffset ps s.vaddr + s.filesz then file[s.offset - pageOffset ps s.vaddr + k]? else some 0 := by
  obtain ⟨hpo, hfm, -, hin⟩ := ok
  have hsz := le_pageAlign ps (s.filesz + pageOffset ps s.vaddr) hps
  have hal := le_pageAlign ps (pageOffset ps s.vaddr + s.memsz) hps
  unfold segBytes
  dsimp only
  by_cases hf : k < pageOffset ps s.vaddr + s.filesz
  · have hk2 : k < pageAlign ps (s.filesz + pageOffset ps s.vaddr) := by omega
    rw [if_pos hf]
    by_cases hm : s.memsz > s.filesz
    · rw [if_pos hm, ljust_getElem?_lt _ _ _ _ (by rw [List.length_take, fileRead_length]; omega),
        List.getElem?_take_of_lt hf, fileRead_getElem? _ _ _ _ hk2]
    · rw [if_neg hm, fileRead_getElem? _ _ _ _ hk2]
  · rw [if_neg hf, if_pos (by omega)]
    exact ljust_getElem?_ge _ _ _ _ (by rw [List.length_take, fileRead_length]; omega) (by omega)

theorem segBytes_length_pos (file : Bytes) (ps : Nat) (s : Phdr) (hps : 0 < ps) (ok : SegOK file ps s) :
    0 < (segBytes .repaired file ps s).length := by
  have h := segBytes_get file ps s (pageOffset ps s.vaddr) hps ok (by have := ok.2.2.1; omega)
  cases hl : segBytes .repaired file ps s with
  | cons a t => exact Nat.succ_pos _
  | nil =>
    rw [hl, List.getElem?_nil] at h
    split at h
    · rw [List.getElem?_eq_getElem (by have := ok.1; have := ok.2.2.2; omega)] at h; cases h
    · cases h

theorem absWrite_nat (a q : Nat) (v : Val) (en : Endian) :
    absWrite (a : Int) v en (q : Int) = if a ≤ q then (v.memBytes en)[q - a]? else none := by
  unfold absWrite
  by_cases h : a ≤ q
  · rw [if_pos h, if_pos (Int.ofNat_le.mpr h), ← Int.ofNat_sub h, Int.toNat_natCast]
  · rw [if_neg h, if_neg (fun h' => h (Int.ofNat_le.mp h'))]

theorem absWrite_raw (a q : Nat) (bs : Bytes) :
    absWrite (a : Int) (.raw bs) .little (q : Int) = if a ≤ q then (bs[q - a]?).map ByteDesc.raw else none := by
  rw [absWrite_nat, Val.memBytes, List.getElem?_map]

theorem absWrite_segWrite (file : Bytes) (ps : Nat) (s : Phdr) (q : Nat) :
    absWrite (segWrite .repaired file ps s).1 (segWrite .repaired file ps s).2.1 (segWrite .repaired file ps s).2.2 (q : Int) =
      if segBase ps s ≤ q then ((segBytes .repaired file ps s)[q - segBase ps s]?).map ByteDesc.raw else none :=
  absWrite_raw _ _ _

theorem absWrite_raw_none (a q : Nat) (bs : Bytes) (h : q < a ∨ a + bs.length ≤ q) :
    absWrite (a : Int) (.raw bs) .little (q : Int) = none := by
  rw [absWrite_raw]
  split
  · rename_i hle
    have : bs.length ≤ q - a := by omega
    rw [List.getElem?_eq_none this]; rfl
  · rfl

theorem extVal_memBytes (sym n : Nat) :
    (extVal sym n).memBytes .little = (List.range n).map (fun k => ByteDesc.sym sym k) := rfl

theorem extVal_len (sym n : Nat) : (extVal sym n).len = n := by
  simp [extVal, Val.len]

theorem absWrite_slot (n : Nat) (r : Reloc) (q : Nat) :
    absWrite (slotWrite n r).1 (slotWrite n r).2.1 (slotWrite n r).2.2 (q : Int) =
      if r.1 ≤ q ∧ q < r.1 + n then some (ByteDesc.sym r.2 (q - r.1)) else none := by
  show absWrite (r.1 : Int) (extVal r.2 n) .little (q : Int) = _
  rw [absWrite_nat, extVal_memBytes, List.getElem?_map]
  by_cases h : r.1 ≤ q
  · by_cases h2 : q < r.1 + n
    · rw [if_pos h, if_pos ⟨h, h2⟩, List.getElem?_range (by omega)]; rfl
    · rw [if_pos h, if_neg (fun h' => h2 h'.2), List.getElem?_eq_none (by rw [List.length_range]; omega)]; rfl
  · rw [if_neg h, if_neg (fun h' => h h'.1)]

theorem lastWrite_nil (q : Int) : lastWrite [] q = none := rfl

theorem lastWrite_append (ws1 ws2 : List WriteOp) (q : Int) :
    lastWrite (ws1 ++ ws2) q = (lastWrite ws2 q).or (lastWrite ws1 q) := by
  unfold lastWrite
  rw [List.reverse_append, List.findSome?_append]

theorem lastWrite_cons (w : WriteOp) (ws : List WriteOp) (q : Int) :
    lastWrite (w :: ws) q = (lastWrite ws q).or (absWrite w.1 w.2.1 w.2.2 q) := by
  have : w :: ws = [w] ++ ws := rfl
  rw [this, lastWrite_append]
  congr 1
  simp [lastWrite]

theorem lastWrite_none (ws : List WriteOp) (q : Int) (h : ∀ w ∈ ws, absWrite w.1 w.2.1 w.2.2 q = none) :
    lastWrite ws q = none := by
  induction ws with
  | nil => rfl
  | cons w ws ih =>
    rw [lastWrite_cons, ih (fun w' hw' => h w' (List.mem_cons_of_mem _ hw')), h w List.mem_cons_self]
    rfl

theorem lastWrite_agree (ws : List WriteOp) (q : Int) (x : ByteDesc)
    (h : ∀ w ∈ ws, absWrite w.1 w.2.1 w.2.2 q = none ∨ absWrite w.1 w.2.1 w.2.2 q = some x) :
    lastWrite ws q = none ∨ lastWrite ws q = some x := by
  induction ws with
  | nil => exact Or.inl rfl
  | cons w ws ih =>
    rw [lastWrite_cons]
    rcases ih (fun w' hw' => h w' (List.mem_cons_of_mem _ hw')) with h1 | h1
    · rw [h1]; exact h w List.mem_cons_self
    · rw [h1]; exact Or.inr rfl

theorem lastWrite_split (pre post : List WriteOp) (w : WriteOp) (q : Int) (x : ByteDesc)
    (hw : absWrite w.1 w.2.1 w.2.2 q = some x)
    (hpost : ∀ v ∈ post, absWrite v.1 v.2.1 v.2.2 q = none ∨ absWrite v.1 v.2.1 v.2.2 q = some x) :
    lastWrite (pre ++ w :: post) q = some x := by
  rw [lastWrite_append, lastWrite_cons]
  rcases lastWrite_agree post q x hpost with h | h
  · rw [h, hw]; rfl
  · rw [h]; rfl

theorem read_head_mapped (z : Zone) (wf : z.WF) (a : Int) (n : Nat) (hn : 0 < n) (d : ByteDesc)
    (hd : z.abs a = some d) :
    ∃ v en rest, z.read a n = Item.data v en :: rest ∧ 0 < v.len := by
  obtain ⟨wfm, hc⟩ := wf
  have habs : absL z.map a = some d := hd
  unfold Zone.read
  rw [hc]
  unfold readL
  cases hl : locate (starts z.map) a with
  | none =>
    -- every object starts above `a`
    rw [absL_none_of z.map a fun o ho => Or.inl (locateM_none z.map a wfm hl o ho)] at habs
    cases habs
  | some i =>
    -- `locate` finds the last object `x` that starts at or before `a`
    obtain ⟨pre, x, post, hm, hlen, hx, hpost⟩ := locateM_some z.map a i wfm hl
    rw [hm] at wfm habs
    obtain ⟨_, wf2, h12⟩ := (zoneWF_append pre (x :: post)).mp wfm
    obtain ⟨hxl, _, _⟩ := (zoneWF_cons x post).mp wf2
    -- nothing but `x` can hold `a`, so `a` being mapped puts it below `x.fin`
    have hfin : a < x.fin := Int.not_le.mp fun hge => by
      rw [absL_none_of _ a fun o ho => ?_] at habs
      · cases habs
      · rcases List.mem_append.mp ho with ho | ho
        · right; have := h12 o ho x List.mem_cons_self; omega
        · rcases List.mem_cons.mp ho with rfl | ho
          · exact Or.inr hge
          · exact Or.inl (hpost o ho)
    -- so the loop starts at `x`, and its first step reads from `x`
    have hz : (z.map.zip (starts z.map)).drop i = (x, x.vaddr) :: zipS post := by
      rw [zip_starts, hm, ← hlen]
      simp [zipS]
    have hn0 : ¬ n = 0 := by omega
    simp only
    rw [hz, readLoop]
    simp only [hn0, dite_false]
    rcases Mo.read_cases x a n with ⟨_, v, hr, hvm⟩ | ⟨hno, _⟩
    · rw [hr]
      refine ⟨v, x.data.endian, _, rfl, ?_⟩
      have hv := congrArg List.length hvm
      rw [Val.memBytes_length, List.length_take, List.length_drop, DD.memBytes_length] at hv
      have := Mo.fin_eq x
      have : x.len = x.data.len := rfl
      omega
    · exact absurd ((contains_iff x a).mpr ⟨hx, hfin⟩) hno

end Amoco.Loader
