/-
  On every byte string the commands `walk` builds lie back to back (`Chain`) inside the file, and
  the fuel `readCommands` gives it cannot run out.  On an image the reference reader accepts the
  constructor returns what that reader reads (`machoInit_eq_ref`).
-/
import Amoco.Model.Macho

namespace Amoco.Macho

theorem slice_length (d : Bytes) (off n : Nat) : (slice d off n).length = min n (d.length - off) := by
  simp [slice, List.length_take, List.length_drop]

theorem rdBytes_ok {d : Bytes} {off n : Nat} (h : off + n ≤ d.length) : rdBytes d off n = .ok (slice d off n) := by
  unfold rdBytes
  have : (slice d off n).length = n := by rw [slice_length]; omega
  simp [this]

theorem rdBytes_len {d : Bytes} {off n : Nat} {bs : Bytes} (h : rdBytes d off n = .ok bs) (hn : 0 < n) :
    off + n ≤ d.length ∧ bs = slice d off n := by
  unfold rdBytes at h
  simp only [slice_length] at h
  split at h
  · rename_i hc
    simp only [beq_iff_eq] at hc
    injection h with h
    exact ⟨by omega, h.symm⟩
  · cases h

theorem bind_ok {α β : Type} {x : Py α} {f : α → Py β} {b : β} (h : (x >>= f) = .ok b) :
    ∃ a, x = .ok a ∧ f a = .ok b := by
  cases x with
  | error e => simp [bind, Except.bind] at h
  | ok a => exact ⟨a, rfl, by simpa [bind, Except.bind] using h⟩

theorem rdLE_ok {d : Bytes} {off n : Nat} (h : off + n ≤ d.length) : rdLE d off n = .ok (le d off n) := by
  simp [rdLE, rdBytes_ok h, le, bind, Except.bind, pure, Except.pure]

theorem rdLE_len {d : Bytes} {off n v : Nat} (h : rdLE d off n = .ok v) (hn : 0 < n) :
    off + n ≤ d.length ∧ v = le d off n := by
  unfold rdLE at h
  obtain ⟨bs, h1, h2⟩ := bind_ok h
  obtain ⟨hl, hb⟩ := rdBytes_len h1 hn
  refine ⟨hl, ?_⟩
  simp only [pure, Except.pure] at h2
  injection h2 with h2
  rw [← h2, hb, le]

theorem rdS32_ok {d : Bytes} {off : Nat} (h : off + 4 ≤ d.length) : rdS32 d off = .ok (toS32 (le d off 4)) := by
  simp [rdS32, rdLE_ok h, bind, Except.bind, pure, Except.pure]

/-- the side condition of every read of a `do` block, in the shape `simp (disch := …)` can close:
    `k + n ≤ sz` is left to `decide` -/
theorem rd_in {o k n sz len : Nat} (hk : k + n ≤ sz) (h : o + sz ≤ len) : o + k + n ≤ len := by omega

theorem rd_in0 {o n sz len : Nat} (hn : n ≤ sz) (h : o + sz ≤ len) : o + n ≤ len := by omega

theorem mkBody_err {cmd : Nat} {data : Bytes} {e : Exn} (h : mkBody cmd data = .error e) : e = .machoError := by
  unfold mkBody at h
  split at h
  · cases h
  · injection h with h; exact h.symm

/-! ### every byte string -/

def Chain : Nat → List LC → Prop
  | _, [] => True
  | off, c :: t => c.off = off ∧ 8 ≤ c.cmdsize ∧ Chain (off + c.cmdsize) t

theorem walk_succ (d : Bytes) (soc fuel off lc : Nat) :
    (∃ e, walk d soc (fuel + 1) off lc = ([], e) ∧ (e = none ∨ e = some .machoError ∨ e = some .structureError)) ∨
    (∃ cmd cmdsize b, off + 8 ≤ d.length ∧ 8 ≤ cmdsize ∧
      walk d soc (fuel + 1) off lc =
        ({ off := off, cmd := cmd, cmdsize := cmdsize, body := b } :: (walk d soc fuel (off + cmdsize) (lc + cmdsize)).1,
         (walk d soc fuel (off + cmdsize) (lc + cmdsize)).2)) := by
  rw [walk]
  by_cases h1 : lc < soc
  · rw [if_pos h1]
    cases hc : rdLE d off 4 with
    | error e => exact .inl ⟨_, rfl, .inr (.inr rfl)⟩
    | ok cmd =>
      cases hs : rdLE d (off + 4) 4 with
      | error e => exact .inl ⟨_, rfl, .inr (.inr rfl)⟩
      | ok cmdsize =>
        dsimp only
        by_cases h2 : cmdsize < 8
        · rw [if_pos h2]; exact .inl ⟨_, rfl, .inr (.inl rfl)⟩
        · rw [if_neg h2]
          cases hb : mkBody cmd (slice d off cmdsize) with
          | error e => rw [mkBody_err hb]; exact .inl ⟨_, rfl, .inr (.inl rfl)⟩
          | ok b => exact .inr ⟨cmd, cmdsize, b, by have := (rdLE_len hs (by decide)).1; omega, Nat.le_of_not_lt h2, rfl⟩
  · rw [if_neg h1]; exact .inl ⟨_, rfl, .inl rfl⟩

theorem walk_chain (d : Bytes) (soc : Nat) : ∀ fuel off lc, Chain off (walk d soc fuel off lc).1 := by
  intro fuel
  induction fuel with
  | zero => intro off lc; trivial
  | succ n ih =>
    intro off lc
    rcases walk_succ d soc n off lc with ⟨e, hw, _⟩ | ⟨cmd, cmdsize, b, _, h8, hw⟩ <;> rw [hw]
    · trivial
    · exact ⟨rfl, h8, ih _ _⟩

theorem walk_end (d : Bytes) (soc : Nat) : ∀ fuel off lc e, (walk d soc fuel off lc).2 = some e →
    e = .machoError ∨ e = .structureError ∨ e = .fuel := by
  intro fuel
  induction fuel with
  | zero => intro off lc e h; cases h; exact .inr (.inr rfl)
  | succ n ih =>
    intro off lc e h
    rcases walk_succ d soc n off lc with ⟨e', hw, he'⟩ | ⟨cmd, cmdsize, b, _, _, hw⟩ <;> rw [hw] at h
    · rcases he' with rfl | rfl | rfl <;> cases h
      · exact .inl rfl
      · exact .inr (.inl rfl)
    · exact ih _ _ _ h

/-- every step needs 8 readable bytes at `off` and advances by at least 8 -/
theorem walk_no_fuel (d : Bytes) (soc : Nat) : ∀ fuel off lc, 0 < fuel → d.length < fuel + off →
    (walk d soc fuel off lc).2 ≠ some .fuel := by
  intro fuel
  induction fuel with
  | zero => intro off lc h0; exact absurd h0 (Nat.lt_irrefl 0)
  | succ n ih =>
    intro off lc _ h
    rcases walk_succ d soc n off lc with ⟨e', hw, he'⟩ | ⟨cmd, cmdsize, b, hin, h8, hw⟩ <;> rw [hw]
    · rcases he' with rfl | rfl | rfl <;> exact fun h => nomatch h
    · exact ih _ _ (by omega) (by omega)

theorem walk_inbounds (d : Bytes) (soc : Nat) : ∀ fuel off lc, ∀ c ∈ (walk d soc fuel off lc).1, c.off + 8 ≤ d.length := by
  intro fuel
  induction fuel with
  | zero => intro off lc c hc; cases hc
  | succ n ih =>
    intro off lc c hc
    rcases walk_succ d soc n off lc with ⟨e', hw, _⟩ | ⟨cmd, cmdsize, b, hin, _, hw⟩ <;> rw [hw] at hc
    · cases hc
    · rcases List.mem_cons.mp hc with rfl | hc
      · exact hin
      · exact ih _ _ c hc

theorem chain_steps (len : Nat) : ∀ (cs : List LC) (off : Nat), Chain off cs → (∀ c ∈ cs, c.off + 8 ≤ len) → cs ≠ [] →
    off + 8 * cs.length ≤ len := by
  intro cs
  induction cs with
  | nil => intro off _ _ h; exact absurd rfl h
  | cons c t ih =>
    intro off hch hin _
    obtain ⟨h1, h2, h3⟩ := hch
    by_cases ht : t = []
    · subst ht
      have := hin c (by simp)
      simp; omega
    · have := ih (off + c.cmdsize) h3 (fun x hx => hin x (by simp [hx])) ht
      simp only [List.length_cons]; omega

theorem chain_lower : ∀ (cs : List LC) (off : Nat), Chain off cs → ∀ c ∈ cs, off ≤ c.off := by
  intro cs
  induction cs with
  | nil => intro off _ c hc; cases hc
  | cons a t ih =>
    intro off hch c hc
    obtain ⟨h1, h2, h3⟩ := hch
    simp only [List.mem_cons] at hc
    rcases hc with hc | hc
    · subst hc; omega
    · have := ih _ h3 c hc; omega

theorem chain_pairwise : ∀ (cs : List LC) (off : Nat), Chain off cs →
    cs.Pairwise (fun a b => a.off + a.cmdsize ≤ b.off) := by
  intro cs
  induction cs with
  | nil => intro _ _; exact List.Pairwise.nil
  | cons a t ih =>
    intro off hch
    obtain ⟨h1, h2, h3⟩ := hch
    refine List.Pairwise.cons ?_ (ih _ h3)
    intro b hb
    have := chain_lower t _ h3 b hb
    omega

theorem readHeader32_len {d : Bytes} {h : Header} (hr : readHeader32 d = .ok h) : 28 ≤ d.length ∧ h.magic = le d 0 4 := by
  unfold readHeader32 at hr
  obtain ⟨m, hm, hr⟩ := bind_ok hr
  iterate 5 (obtain ⟨_, _, hr⟩ := bind_ok hr)
  obtain ⟨_, h1, hr⟩ := bind_ok hr
  have := (rdLE_len h1 (by decide)).1
  have hm' := (rdLE_len hm (by decide)).2
  simp only [pure, Except.pure] at hr
  injection hr with hr
  subst hr
  exact ⟨by omega, hm'⟩

theorem readHeader64_len {d : Bytes} {h : Header} (hr : readHeader64 d = .ok h) : 32 ≤ d.length := by
  unfold readHeader64 at hr
  iterate 7 (obtain ⟨_, _, hr⟩ := bind_ok hr)
  obtain ⟨_, h1, hr⟩ := bind_ok hr
  have := (rdLE_len h1 (by decide)).1
  omega

theorem readCommands_ok {d : Bytes} {soc off : Nat} {cs : List LC} (h : readCommands d soc off = .ok cs) :
    cs = (walk d soc (d.length + 1) off 0).1 := by
  rw [readCommands] at h
  cases hw : walk d soc (d.length + 1) off 0 with
  | mk l e =>
    rw [hw] at h
    cases e with
    | none => cases h; rfl
    | some e => cases h

/-- `o.cmds = []` is the fat header -/
theorem parseRaw_inv {d : Bytes} {o : Obj} (h : parseRaw d = .ok o) :
    28 ≤ d.length ∧
    (le d 0 4 = MH_MAGIC ∨ (le d 0 4 = MH_MAGIC_64 ∧ 32 ≤ d.length) ∨ le d 0 4 = FAT_CIGAM) ∧
    (o.cmds = [] ∨ ∃ soc off, o.cmds = (walk d soc (d.length + 1) off 0).1) := by
  rw [parseRaw] at h
  cases hr : readHeader32 d with
  | error e => rw [hr] at h; cases h
  | ok hd =>
    obtain ⟨h28, hm⟩ := readHeader32_len hr
    rw [hr] at h
    dsimp only at h
    rw [hm] at h
    refine ⟨h28, ?_⟩
    by_cases h1 : (le d 0 4 == MH_MAGIC_64) = true
    · rw [if_pos h1] at h
      obtain ⟨h64, hh, h⟩ := bind_ok h
      obtain ⟨cs, hcs, h⟩ := bind_ok h
      cases h
      exact ⟨.inr (.inl ⟨beq_iff_eq.mp h1, readHeader64_len hh⟩), .inr ⟨_, _, readCommands_ok hcs⟩⟩
    rw [if_neg h1] at h
    by_cases h2 : (le d 0 4 == FAT_CIGAM) = true
    · rw [if_pos h2] at h
      obtain ⟨_, _, h⟩ := bind_ok h
      obtain ⟨nf, _, h⟩ := bind_ok h
      by_cases h4 : (nf == 0) = true
      · rw [if_pos h4] at h; cases h; exact ⟨.inr (.inr (beq_iff_eq.mp h2)), .inl rfl⟩
      · rw [if_neg h4] at h
        obtain ⟨_, _, h⟩ := bind_ok h
        cases h
    rw [if_neg h2] at h
    by_cases h3 : (le d 0 4 == MH_MAGIC) = true
    · rw [if_pos h3] at h
      obtain ⟨cs, hcs, h⟩ := bind_ok h
      cases h
      exact ⟨.inl (beq_iff_eq.mp h3), .inr ⟨_, _, readCommands_ok hcs⟩⟩
    · rw [if_neg h3] at h; cases h

theorem wrap_ok {α : Type} {r : Py α} {a : α} (h : wrap r = .ok a) : r = .ok a := by
  cases r with
  | ok b => exact h
  | error e => cases e <;> cases h

theorem wrap_format {α : Type} (r : Py α) (e : Exn) (h : wrap r = .error e) : e = .machoError ∨ e = .structureError := by
  unfold wrap at h
  split at h <;> cases h <;> simp

/-! ### images the reference reader accepts -/

theorem readSect_ok (is64 : Bool) (c : Bytes) (o : Nat) (h : o + sectSize is64 ≤ c.length)
    (hu : utf8Valid (refSect is64 c o).segname = true) : readSect is64 c o = .ok (refSect is64 c o) := by
  cases is64
  · have h' : o + 68 ≤ c.length := h
    have hu' : utf8Valid (slice c (o + 16) 16) = true := hu
    simp (disch := first | exact rd_in (by decide) h' | exact rd_in0 (by decide) h') only
      [readSect, readSect32, rdLE_ok, rdBytes_ok, bind, Except.bind, pure, Except.pure, hu', refSect,
       Bool.false_eq_true, if_false, if_true]
  · have h' : o + 80 ≤ c.length := h
    have hu' : utf8Valid (slice c (o + 16) 16) = true := hu
    simp (disch := first | exact rd_in (by decide) h' | exact rd_in0 (by decide) h') only
      [readSect, readSect64, rdLE_ok, rdBytes_ok, bind, Except.bind, pure, Except.pure, hu', refSect, if_true]

theorem sectLoop_ok (is64 : Bool) (c : Bytes) : ∀ n o, o + n * sectSize is64 ≤ c.length →
    (∀ k, k < n → utf8Valid (refSect is64 c (o + k * sectSize is64)).segname = true) →
    sectLoop is64 c n o = .ok ((List.range n).map (fun k => refSect is64 c (o + k * sectSize is64))) := by
  intro n
  induction n with
  | zero => intro o _ _; rfl
  | succ n ih =>
    intro o hb hu
    have e : ∀ k, o + (k + 1) * sectSize is64 = o + sectSize is64 + k * sectSize is64 := fun k => by
      rw [Nat.add_mul, Nat.one_mul]; omega
    have h0 := hu 0 (Nat.succ_pos n)
    rw [Nat.zero_mul, Nat.add_zero] at h0
    rw [e] at hb
    have e1 := readSect_ok is64 c o (Nat.le_trans (Nat.le_add_right _ _) hb) h0
    have e2 := ih (o + sectSize is64) hb (fun k hk => e k ▸ hu (k + 1) (Nat.succ_lt_succ hk))
    rw [sectLoop, e1]
    dsimp only [bind, Except.bind]
    rw [e2, List.range_succ_eq_map, List.map_cons, List.map_map, Nat.zero_mul, Nat.add_zero]
    simp only [Function.comp_def, e]
    rfl

theorem refSeg_all {is64 : Bool} {c : Bytes} {n base : Nat}
    (h : ((List.range n).map (fun k => refSect is64 c (base + k * sectSize is64))).all (fun s => utf8Valid s.segname) = true) :
    ∀ k, k < n → utf8Valid (refSect is64 c (base + k * sectSize is64)).segname = true := by
  intro k hk
  rw [List.all_eq_true] at h
  exact h _ (List.mem_map.mpr ⟨k, List.mem_range.mpr hk, rfl⟩)

theorem readSeg32_ok {c : Bytes} {s : Seg} (h : refSeg false c = some s) : readSeg32 c = .ok s := by
  unfold refSeg at h
  simp only [Bool.false_eq_true, if_false, segSize, sectSize] at h
  split at h
  next hb =>
    split at h
    next hall =>
      injection h with h
      have hl := sectLoop_ok false c (le c 48 4) 56 hb (refSeg_all hall)
      have h56 : 56 ≤ c.length := Nat.le_trans (Nat.le_add_right _ _) hb
      simp (disch := exact Nat.le_trans (by decide) h56) only
        [readSeg32, rdLE_ok, rdS32_ok, rdBytes_ok, bind, Except.bind, pure, Except.pure, hl, ← h]
      rfl
    next => cases h
  next => cases h

theorem readSeg64_ok {c : Bytes} {s : Seg} (h : refSeg true c = some s) : readSeg64 c = .ok s := by
  unfold refSeg at h
  simp only [if_true, segSize, sectSize] at h
  split at h
  next hb =>
    split at h
    next hall =>
      injection h with h
      have hl := sectLoop_ok true c (le c 64 4) 72 hb (refSeg_all hall)
      have h72 : 72 ≤ c.length := Nat.le_trans (Nat.le_add_right _ _) hb
      simp (disch := exact Nat.le_trans (by decide) h72) only
        [readSeg64, rdLE_ok, rdS32_ok, rdBytes_ok, bind, Except.bind, pure, Except.pure, hl, ← h]
      rfl
    next => cases h
  next => cases h

theorem knownNeed_not_special {cmd n : Nat} (h : knownNeed cmd = some n) : cmd ≠ 0x1 ∧ cmd ≠ 0x19 ∧ cmd ≠ 0x32 := by
  refine ⟨?_, ?_, ?_⟩ <;> (intro hc; subst hc; exact nomatch h)

theorem mkBody_eq_ref {cmd : Nat} {c : Bytes} {b : Body} (h : refBody cmd c = some b) : mkBody cmd c = .ok b := by
  have raw : mkBodyRaw cmd c = .ok b := by
    unfold refBody at h
    rw [mkBodyRaw, LC_SEGMENT, LC_SEGMENT_64, LC_BUILD_VERSION]
    by_cases h1 : (cmd == 0x1) = true
    · rw [if_pos h1] at h ⊢
      cases hs : refSeg false c with
      | none => rw [hs] at h; cases h
      | some s => rw [hs] at h; cases h; rw [readSeg32_ok hs]; rfl
    rw [if_neg h1] at h ⊢
    by_cases h2 : (cmd == 0x19) = true
    · rw [if_pos h2] at h ⊢
      cases hs : refSeg true c with
      | none => rw [hs] at h; cases h
      | some s => rw [hs] at h; cases h; rw [readSeg64_ok hs]; rfl
    rw [if_neg h2] at h ⊢
    by_cases h3 : (cmd == 0x32) = true
    · rw [if_pos h3] at h ⊢
      by_cases h4 : (decide (24 ≤ c.length) && decide (24 + 8 * le c 20 4 ≤ c.length)) = true
      · rw [if_pos h4] at h
        cases h
        rw [Bool.and_eq_true, decide_eq_true_eq, decide_eq_true_eq] at h4
        rw [rdBytes_ok (Nat.le_trans (by decide) h4.1), rdLE_ok (Nat.le_trans (by decide) h4.1)]
        dsimp only [bind, Except.bind, pure, Except.pure]
        rw [rdBytes_ok (by rw [Nat.zero_add]; exact h4.2)]
      · rw [if_neg h4] at h; cases h
    rw [if_neg h3] at h ⊢
    cases hk : knownNeed cmd with
    | none => rw [hk] at h; cases h; rfl
    | some n =>
      rw [hk] at h
      dsimp only at h ⊢
      by_cases hn : n ≤ c.length
      · rw [if_pos hn] at h; cases h
        rw [rdBytes_ok (by rw [Nat.zero_add]; exact hn)]; rfl
      · rw [if_neg hn] at h; cases h
  rw [mkBody, raw]

theorem refCmds_succ {d : Bytes} {endoff n off : Nat} {cs : List LC} (h : refCmds d endoff (n + 1) off = some cs) :
    off + 8 ≤ endoff ∧ 8 ≤ le d (off + 4) 4 ∧ off + le d (off + 4) 4 ≤ endoff ∧
    ∃ b rest, refBody (le d off 4) (slice d off (le d (off + 4) 4)) = some b ∧
      refCmds d endoff n (off + le d (off + 4) 4) = some rest ∧
      cs = { off := off, cmd := le d off 4, cmdsize := le d (off + 4) 4, body := b } :: rest := by
  rw [refCmds, Option.ite_none_right_eq_some, Option.ite_none_right_eq_some, Bool.and_eq_true,
    decide_eq_true_eq, decide_eq_true_eq] at h
  obtain ⟨h1, ⟨h8, hin⟩, h⟩ := h
  cases hb : refBody (le d off 4) (slice d off (le d (off + 4) 4)) with
  | none => rw [hb] at h; cases h
  | some b =>
    cases hr : refCmds d endoff n (off + le d (off + 4) 4) with
    | none => rw [hb, hr] at h; cases h
    | some rest => rw [hb, hr] at h; cases h; exact ⟨h1, h8, hin, b, rest, rfl, rfl, rfl⟩

theorem refCmds_zero {d : Bytes} {endoff off : Nat} {cs : List LC} (h : refCmds d endoff 0 off = some cs) :
    off = endoff ∧ cs = [] := by
  rw [refCmds, Option.ite_none_right_eq_some, beq_iff_eq] at h
  exact ⟨h.1, (Option.some.inj h.2).symm⟩

theorem refCmds_spec (d : Bytes) (endoff : Nat) : ∀ n off cs, refCmds d endoff n off = some cs →
    off + 8 * n ≤ endoff ∧ Chain off cs ∧ ∀ c ∈ cs, off ≤ c.off ∧ c.off + c.cmdsize ≤ endoff := by
  intro n
  induction n with
  | zero =>
    intro off cs h
    obtain ⟨rfl, rfl⟩ := refCmds_zero h
    exact ⟨Nat.le_refl _, trivial, fun c hc => nomatch hc⟩
  | succ n ih =>
    intro off cs h
    obtain ⟨_, h8, hin, b, rest, _, hr, rfl⟩ := refCmds_succ h
    obtain ⟨h1, h2, h3⟩ := ih _ _ hr
    refine ⟨by omega, ⟨rfl, h8, h2⟩, fun c hc => ?_⟩
    rcases List.mem_cons.mp hc with rfl | hc
    · exact ⟨Nat.le_refl _, hin⟩
    · have := h3 c hc; omega

/-- the walker stops on its byte count `lc` reaching `soc` (`sizeofcmds`), the reference on `off`
    reaching `endoff` after `ncmds` commands; `lc + (endoff - off) = soc` keeps the two in lock step
    through the induction -/
theorem walk_eq_ref (d : Bytes) (soc endoff : Nat) (hend : endoff ≤ d.length) :
    ∀ n off cs fuel lc, refCmds d endoff n off = some cs → n < fuel → lc + (endoff - off) = soc → off ≤ endoff →
      walk d soc fuel off lc = (cs, none) := by
  intro n
  induction n with
  | zero =>
    intro off cs fuel lc h hf hl _
    obtain ⟨rfl, rfl⟩ := refCmds_zero h
    obtain ⟨f, rfl⟩ := Nat.exists_eq_succ_of_ne_zero (Nat.ne_of_gt hf)
    rw [walk, if_neg (by omega)]
  | succ n ih =>
    intro off cs fuel lc h hf hl _
    obtain ⟨h8, hs8, hin, b, rest, hb, hr, rfl⟩ := refCmds_succ h
    obtain ⟨f, rfl⟩ := Nat.exists_eq_succ_of_ne_zero (Nat.ne_of_gt (Nat.lt_of_le_of_lt (Nat.zero_le _) hf))
    have hw := ih (off + le d (off + 4) 4) rest f (lc + le d (off + 4) 4) hr (by omega) (by omega) hin
    rw [walk, if_pos (by omega), rdLE_ok (by omega), rdLE_ok (by omega)]
    dsimp only
    rw [if_neg (by omega), mkBody_eq_ref hb]
    dsimp only
    rw [hw]

theorem readHeader32_ok {d : Bytes} (h : 28 ≤ d.length) :
    readHeader32 d = .ok (Header.mk false (le d 0 4) (toS32 (le d 4 4)) (toS32 (le d 8 4))
      (le d 12 4) (le d 16 4) (le d 20 4) (le d 24 4) 0) := by
  simp (disch := exact Nat.le_trans (by decide) h) only
    [readHeader32, rdLE_ok, rdS32_ok, bind, Except.bind, pure, Except.pure]

theorem readHeader64_ok {d : Bytes} (h : 32 ≤ d.length) :
    readHeader64 d = .ok (Header.mk true (le d 0 4) ((le d 4 4 : Nat) : Int) ((le d 8 4 : Nat) : Int)
      (le d 12 4) (le d 16 4) (le d 20 4) (le d 24 4) (le d 28 4)) := by
  simp (disch := exact Nat.le_trans (by decide) h) only
    [readHeader64, rdLE_ok, bind, Except.bind, pure, Except.pure]

theorem readCommands_eq_ref {d : Bytes} {cmds : List LC} {hs soc n : Nat} (hlen : hs + soc ≤ d.length)
    (hc : refCmds d (hs + soc) n hs = some cmds) : readCommands d soc hs = .ok cmds := by
  have hsteps := (refCmds_spec _ _ _ _ _ hc).1
  rw [readCommands, walk_eq_ref d soc (hs + soc) hlen n hs cmds (d.length + 1) 0 hc (by omega) (by omega) (by omega)]

theorem refParse_inv {d : Bytes} {o : Obj} (h : refParse d = some o) :
    refHeader d = some o.header ∧
    (if o.header.is64 then 32 else 28) + o.header.sizeofcmds ≤ d.length ∧
    refCmds d ((if o.header.is64 then 32 else 28) + o.header.sizeofcmds) o.header.ncmds
      (if o.header.is64 then 32 else 28) = some o.cmds ∧
    o.kind = (if o.header.is64 then .macho64 else .macho32) ∧ o.post = o.cmds.any (fun c => isPostCmd c.cmd) := by
  unfold refParse at h
  cases hh : refHeader d with
  | none => rw [hh] at h; cases h
  | some hd =>
    rw [hh] at h
    dsimp only at h
    rw [Option.ite_none_right_eq_some] at h
    obtain ⟨hlen, h⟩ := h
    cases hc : refCmds d ((if hd.is64 = true then 32 else 28) + hd.sizeofcmds) hd.ncmds
        (if hd.is64 = true then 32 else 28) with
    | none => rw [hc] at h; cases h
    | some cmds => rw [hc] at h; cases h; exact ⟨rfl, hlen, hc, rfl, rfl⟩

theorem parseRaw_eq_ref {d : Bytes} {o : Obj} (h : refParse d = some o) : parseRaw d = .ok o := by
  obtain ⟨hh, hlen, hc, hk, hp⟩ := refParse_inv h
  have hrc := readCommands_eq_ref hlen hc
  obtain ⟨kind, hd, cmds, post⟩ := o
  dsimp only at hh hrc hk hp
  rw [hk, hp]
  rw [refHeader, Option.ite_none_right_eq_some] at hh
  obtain ⟨h28, hh⟩ := hh
  dsimp only at hh
  by_cases hm32 : (le d 0 4 == 0xFEEDFACE) = true
  · rw [if_pos hm32] at hh
    cases hh
    have hm : le d 0 4 = MH_MAGIC := beq_iff_eq.mp hm32
    have hrc' : readCommands d (le d 20 4) 28 = .ok cmds := hrc
    rw [parseRaw, readHeader32_ok h28]
    dsimp only
    rw [hm, if_neg (by decide), if_neg (by decide), if_pos (by decide)]
    dsimp only [bind, Except.bind]
    rw [hrc']
    rfl
  · rw [if_neg hm32, Option.ite_none_right_eq_some, Bool.and_eq_true, beq_iff_eq, decide_eq_true_eq] at hh
    obtain ⟨hm64, hh⟩ := hh
    cases hh
    have hrc' : readCommands d (le d 20 4) 32 = .ok cmds := hrc
    rw [parseRaw, readHeader32_ok h28]
    dsimp only
    rw [if_pos (show (le d 0 4 == MH_MAGIC_64) = true from beq_iff_eq.mpr hm64.1), readHeader64_ok hm64.2]
    dsimp only [bind, Except.bind]
    rw [hrc']
    rfl

theorem machoInit_eq_ref {d : Bytes} {o : Obj} (h : refParse d = some o) : machoInit d = .ok o := by
  simp [machoInit, wrap, parseRaw_eq_ref h]

end Amoco.Macho
