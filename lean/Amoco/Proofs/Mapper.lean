/-
  The mapper properties (C02, C09) for whole programs.  The simulation invariant `Inv` (`Mapper/Inv.lean`),
  which every statement keeps (`Mapper/Exec.lean`), holds between the symbolic and the concrete run of a program
  from the empty map; agreement of the map with the concrete state follows.  A program whose addresses are all
  constants makes only accesses with a constant base.
-/
import Amoco.Proofs.Mapper.Compose

set_option linter.unusedSimpArgs false
set_option linter.unusedVariables false

namespace Amoco.Mapper

/-- all accesses of a program as the symbolic run sees them (symbolic base, displacement, length) -/
def accessesOf (cfg : Cfg) (P : Prog) : List Access := progAccesses cfg P.be MapSt.empty P.stmts

theorem prog_inv (c : Ctx) (P : Prog) (hbe : c.be0 = P.be) (hwf : P.wf = true)
    (ok : P.regsOnly = true ∨ c.OK) (hacc : ∀ a ∈ accessesOf c.cfg P, a ∈ c.acc) :
    Inv c (concExec c.sem P c.σ).mem (concExec c.sem P c.σ).reg (symExec c.cfg P) := by
  have hw : ∀ s ∈ P.stmts, s.wf = true := by
    intro s hs
    simp only [Prog.wf, List.all_eq_true] at hwf
    exact hwf s hs
  have hro : (∀ s ∈ P.stmts, s.regsOnly = true) ∨ c.OK := by
    rcases ok with h | h
    · left; intro s hs
      simp only [Prog.regsOnly, List.all_eq_true] at h
      exact h s hs
    · right; exact h
  have := Inv.prog P.stmts MapSt.empty c.σ.mem c.σ.reg (Inv.init c) hro hw (by
    unfold accessesOf at hacc; rw [hbe]; exact hacc)
  rw [hbe] at this
  exact this

theorem prog_sound (c : Ctx) (P : Prog) (hbe : c.be0 = P.be) (hwf : P.wf = true)
    (ok : P.regsOnly = true ∨ c.OK) (hacc : ∀ a ∈ accessesOf c.cfg P, a ∈ c.acc) :
    (applyMap c.sem c.σ (symExec c.cfg P)).agrees (concExec c.sem P c.σ) :=
  agrees_of_inv (prog_inv c P hbe hwf ok hacc)

theorem loadsOf_conc (cfg : Cfg) (m : MapSt) (be : Bool) :
    ∀ (x : X), x.concOnly = true → ∀ a ∈ loadsOf cfg m (x.toE be), ∃ v s, a.base = .cst v s
  | .cst _ _, _, a, ha => (List.not_mem_nil ha).elim
  | .reg _ _, _, a, ha => (List.not_mem_nil ha).elim
  | .slc x _ _, h, a, ha => loadsOf_conc cfg m be x h a ha
  | .cat lo hi, h, a, ha =>
    (List.mem_append.mp ha).elim (loadsOf_conc cfg m be lo (Bool.and_eq_true_iff.mp h).1 a)
      (loadsOf_conc cfg m be hi (Bool.and_eq_true_iff.mp h).2 a)
  | .addc x _, h, a, ha => loadsOf_conc cfg m be x h a ha
  | .op _ l r _, h, a, ha =>
    (List.mem_append.mp ha).elim (loadsOf_conc cfg m be l (Bool.and_eq_true_iff.mp h).1 a)
      (loadsOf_conc cfg m be r (Bool.and_eq_true_iff.mp h).2 a)
  | .load (.cst v sz) d s, h, a, ha => by
    have ha' : a ∈ [] ++ [] ++ [(⟨.cst v sz, d, s / 8⟩ : Access)] := ha
    rw [List.nil_append, List.nil_append, List.mem_singleton] at ha'
    exact ⟨v, sz, ha' ▸ rfl⟩
  | .load (.reg _ _) _ _, h, _, _ | .load (.slc _ _ _) _ _, h, _, _ | .load (.cat _ _) _ _, h, _, _
  | .load (.addc _ _) _ _, h, _, _ | .load (.op _ _ _ _) _ _, h, _, _ | .load (.load _ _ _) _ _, h, _, _ =>
    absurd h Bool.false_ne_true

theorem progAccesses_conc (cfg : Cfg) (be : Bool) : ∀ (stmts : List Stmt) (m : MapSt),
    (∀ s ∈ stmts, s.concOnly = true) → ∀ a ∈ progAccesses cfg be m stmts, ∃ v s, a.base = .cst v s
  | [], _, _, a, ha => by simp [progAccesses] at ha
  | st :: rest, m, h, a, ha => by
    simp only [progAccesses, List.mem_append] at ha
    rcases ha with ha | ha
    · have hst := h st List.mem_cons_self
      cases st with
      | set n rs pos size e =>
        exact loadsOf_conc cfg m be e (by simpa [Stmt.concOnly] using hst) a (by simpa [stmtAccesses] using ha)
      | store b d size e =>
        simp only [Stmt.concOnly, Bool.and_eq_true] at hst
        cases b with
        | cst v sz =>
          have ha' : a ∈ loadsOf cfg m (e.toE be) ++ [] ++ [(⟨.cst v sz, d, size / 8⟩ : Access)] := ha
          rw [List.append_nil, List.mem_append, List.mem_singleton] at ha'
          rcases ha' with ha' | ha'
          · exact loadsOf_conc cfg m be e hst.1 a ha'
          · exact ⟨v, sz, ha' ▸ rfl⟩
        | reg | slc | cat | addc | op | load => exact absurd hst.2 Bool.false_ne_true
    · exact progAccesses_conc cfg be rest _ (fun s hs => h s (List.mem_cons_of_mem _ hs)) a ha

end Amoco.Mapper
