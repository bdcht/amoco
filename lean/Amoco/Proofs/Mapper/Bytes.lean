/-
  Byte-level arithmetic for the mapper proofs (C02, C09): little-endian assembly of byte lists (`leVal`),
  `readN` / `writeN` / `byteAt`, `wrap`.
-/
import Amoco.Model.Mapper

set_option linter.unusedSimpArgs false
set_option linter.unusedVariables false

namespace Amoco.Mapper

/-- little-endian value of a list of bytes (each read modulo 256) -/
def leVal : List Nat → Nat
  | [] => 0
  | b :: bs => b % 256 + 256 * leVal bs

/-- two digits in mixed radix -/
theorem add_mul_lt {a b p q : Nat} (ha : a < p) (hb : b < q) : a + b * p < q * p :=
  calc a + b * p < p + b * p := Nat.add_lt_add_right ha _
    _ = (b + 1) * p := by rw [Nat.add_mul, Nat.one_mul, Nat.add_comm]
    _ ≤ q * p := Nat.mul_le_mul_right _ hb

theorem leVal_lt : ∀ (l : List Nat), leVal l < 256 ^ l.length
  | [] => Nat.one_pos
  | b :: bs => by
    rw [leVal, List.length_cons, Nat.pow_succ, Nat.mul_comm 256]
    exact add_mul_lt (Nat.mod_lt b (by decide : 0 < 256)) (leVal_lt bs)

theorem leVal_append (l1 l2 : List Nat) : leVal (l1 ++ l2) = leVal l1 + 256 ^ l1.length * leVal l2 := by
  induction l1 with
  | nil => rw [List.nil_append, List.length_nil, Nat.pow_zero, Nat.one_mul]; exact (Nat.zero_add _).symm
  | cons b bs ih =>
    rw [List.cons_append, leVal, ih, leVal, List.length_cons, Nat.pow_succ, Nat.mul_add, Nat.add_assoc,
      Nat.mul_assoc, Nat.mul_left_comm]

theorem leVal_mod : ∀ l : List Nat, leVal (l.map (· % 256)) = leVal l
  | [] => rfl
  | b :: bs => by rw [List.map_cons, leVal, leVal, leVal_mod bs, Nat.mod_mod]

theorem leVal_congr {l1 l2 : List Nat} (h : l1.map (· % 256) = l2.map (· % 256)) : leVal l1 = leVal l2 := by
  rw [← leVal_mod l1, h, leVal_mod]

theorem leVal_shift (b : Nat) (bs : List Nat) : leVal (b :: bs) >>> 8 = leVal bs := by
  rw [Nat.shiftRight_eq_div_pow]
  show (b % 256 + 256 * leVal bs) / 256 = _
  rw [Nat.add_mul_div_left _ _ (by decide), Nat.div_eq_of_lt (Nat.mod_lt _ (by decide)), Nat.zero_add]

theorem leVal_byte : ∀ (l : List Nat) (i : Nat) (h : i < l.length), (leVal l >>> (8 * i)) % 256 = l[i] % 256
  | b :: bs, 0, _ => by
    rw [Nat.mul_zero, Nat.shiftRight_zero, leVal, Nat.add_mul_mod_self_left, Nat.mod_mod]; rfl
  | b :: bs, i + 1, h => by
    rw [Nat.mul_add, Nat.mul_one, Nat.add_comm (8 * i), Nat.shiftRight_add, leVal_shift, List.getElem_cons_succ]
    exact leVal_byte bs i (Nat.lt_of_succ_lt_succ h)

theorem leVal_bytes (n v : Nat) : leVal ((List.range n).map (fun k => (v >>> (8 * k)) % 256)) = v % 256 ^ n := by
  induction n with
  | zero => rw [Nat.pow_zero, Nat.mod_one]; rfl
  | succ n ih =>
    rw [List.range_succ, List.map_append, leVal_append, ih, List.length_map, List.length_range, Nat.mod_pow_succ]
    show _ + _ * ((v >>> (8 * n)) % 256 % 256 + 256 * 0) = _
    rw [Nat.mod_mod, Nat.shiftRight_eq_div_pow, Nat.pow_mul]; rfl

theorem readN_le (μ : Int → Nat) (a : Int) (n : Nat) :
    readN μ a n false = leVal ((List.range n).map (fun (k : Nat) => μ (a + (k : Int)))) := by
  induction n generalizing a with
  | zero => rfl
  | succ n ih =>
    rw [List.range_succ_eq_map, List.map_cons, List.map_map]
    simp only [readN, leVal]
    rw [ih (a + 1)]
    have e0 : a + ((0 : Nat) : Int) = a := by omega
    rw [e0]
    congr 3
    apply List.map_congr_left
    intro k _
    simp only [Function.comp, Nat.succ_eq_add_one]
    congr 1; omega

theorem readN_be (μ : Int → Nat) (a : Int) (n : Nat) :
    readN μ a n true = leVal (((List.range n).map (fun (k : Nat) => μ (a + (k : Int)))).reverse) := by
  induction n with
  | zero => rfl
  | succ n ih =>
    rw [List.range_succ, List.map_append, List.reverse_append]
    simp only [List.map_cons, List.map_nil, List.reverse_cons, List.reverse_nil, List.nil_append,
      List.cons_append, leVal, readN, ih]
    omega

def memList (μ : Int → Nat) (a : Int) (n : Nat) : List Nat := (List.range n).map (fun (k : Nat) => μ (a + (k : Int)))

theorem memList_length (μ : Int → Nat) (a : Int) (n : Nat) : (memList μ a n).length = n := by
  rw [memList, List.length_map, List.length_range]

/-- from memory order to value order (least significant byte first) -/
def ord {α : Type} (be : Bool) (l : List α) : List α := if be then l.reverse else l

theorem map_ord {α β : Type} (f : α → β) (be : Bool) (l : List α) : (ord be l).map f = ord be (l.map f) := by
  cases be
  · rfl
  · exact List.map_reverse

theorem mem_ord {α : Type} (be : Bool) (l : List α) {a : α} : a ∈ ord be l ↔ a ∈ l := by
  cases be
  · exact Iff.rfl
  · exact List.mem_reverse

theorem length_ord {α : Type} (be : Bool) (l : List α) : (ord be l).length = l.length := by
  cases be
  · rfl
  · exact List.length_reverse

theorem readN_eq (μ : Int → Nat) (a : Int) (n : Nat) (be : Bool) :
    readN μ a n be = leVal (ord be (memList μ a n)) := by
  cases be
  · exact readN_le μ a n
  · exact readN_be μ a n

theorem readN_lt (μ : Int → Nat) (a : Int) (n : Nat) (be : Bool) : readN μ a n be < 256 ^ n := by
  have := leVal_lt (ord be (memList μ a n))
  rwa [length_ord, memList_length, ← readN_eq] at this

theorem byteAt_readN (μ : Int → Nat) (a : Int) (n j : Nat) (be : Bool) (hj : j < n) :
    byteAt (readN μ a n be) n j be = μ (a + (j : Int)) % 256 := by
  rw [readN_eq]
  cases be
  · show (leVal (memList μ a n) >>> (8 * j)) % 256 = _
    rw [leVal_byte _ j (by rw [memList_length]; exact hj)]
    simp only [memList, List.getElem_map, List.getElem_range]
  · show (leVal (memList μ a n).reverse >>> (8 * (n - 1 - j))) % 256 = _
    rw [leVal_byte _ (n - 1 - j) (by rw [List.length_reverse, memList_length]; omega)]
    simp only [List.getElem_reverse, memList, List.getElem_map, List.getElem_range, List.length_map, List.length_range]
    congr 3; omega

theorem byteAt_lt (v n j : Nat) (be : Bool) : byteAt v n j be < 256 := by
  unfold byteAt; split <;> exact Nat.mod_lt _ (by decide)

theorem shift_low (L H a p s : Nat) (h : p + s ≤ a) : ((L + H * 2 ^ a) >>> p) % 2 ^ s = (L >>> p) % 2 ^ s := by
  rw [Nat.shiftRight_eq_div_pow, Nat.shiftRight_eq_div_pow]
  have e : 2 ^ a = 2 ^ p * (2 ^ (a - p - s) * 2 ^ s) := by
    rw [← Nat.pow_add, ← Nat.pow_add]; congr 1; omega
  rw [e, ← Nat.mul_assoc, Nat.mul_comm H, Nat.mul_assoc, Nat.add_mul_div_left _ _ (Nat.two_pow_pos _),
    ← Nat.mul_assoc, Nat.add_mul_mod_self_right]

theorem shift_high (L H a p : Nat) (hL : L < 2 ^ a) (h : a ≤ p) : (L + H * 2 ^ a) >>> p = H >>> (p - a) := by
  rw [Nat.shiftRight_eq_div_pow, Nat.shiftRight_eq_div_pow]
  have e : 2 ^ p = 2 ^ a * 2 ^ (p - a) := by rw [← Nat.pow_add]; congr 1; omega
  rw [e, ← Nat.div_div_eq_div_mul, Nat.add_mul_div_right _ _ (Nat.two_pow_pos _), Nat.div_eq_of_lt hL, Nat.zero_add]

theorem byte_cat (a b p j : Nat) (ha : a < 2 ^ (8 * p)) :
    ((a + b * 2 ^ (8 * p)) >>> (8 * j)) % 256 =
      if j < p then (a >>> (8 * j)) % 256 else (b >>> (8 * (j - p))) % 256 := by
  split
  · exact shift_low a b (8 * p) (8 * j) 8 (by omega)
  · rw [shift_high a b (8 * p) (8 * j) ha (by omega), Nat.mul_sub]

/-- two values one after the other in memory, `A` (`na` bytes) first: byte `j` of the whole, in either
    byte order, is a byte of `A` or of `B` -/
theorem byteAt_join (A B na nb j : Nat) (be : Bool) (hA : A < 2 ^ (8 * na)) (hB : B < 2 ^ (8 * nb))
    (hj : j < na + nb) :
    byteAt (if be then B + A * 2 ^ (8 * nb) else A + B * 2 ^ (8 * na)) (na + nb) j be =
      if j < na then byteAt A na j be else byteAt B nb (j - na) be := by
  cases be
  · simp only [byteAt, Bool.false_eq_true, if_false]
    exact byte_cat A B na j hA
  · simp only [byteAt, if_true]
    rw [byte_cat B A nb _ hB]
    by_cases h : j < na
    · rw [if_pos h, if_neg (by omega)]; congr 3; omega
    · rw [if_neg h, if_pos (by omega)]; congr 3; omega

theorem eq_of_bytes (x y n : Nat) (be : Bool) (hx : x < 256 ^ n) (hy : y < 256 ^ n)
    (h : ∀ j, j < n → byteAt x n j be = byteAt y n j be) : x = y := by
  rw [← Nat.mod_eq_of_lt hx, ← Nat.mod_eq_of_lt hy, ← leVal_bytes, ← leVal_bytes]
  refine congrArg leVal (List.map_congr_left fun k hk => ?_)
  have hk := List.mem_range.mp hk
  cases be
  · exact h k hk
  · have := h (n - 1 - k) (by omega)
    simp only [byteAt, if_true] at this
    rwa [show n - 1 - (n - 1 - k) = k by omega] at this

theorem readN_of_bytes (μ : Int → Nat) (a : Int) (n v : Nat) (be : Bool) (hv : v < 256 ^ n)
    (h : ∀ j : Nat, j < n → μ (a + (j : Int)) % 256 = byteAt v n j be) : readN μ a n be = v :=
  eq_of_bytes _ _ n be (readN_lt μ a n be) hv fun j hj => (byteAt_readN μ a n j be hj).trans (h j hj)

theorem readN_congr (μ μ' : Int → Nat) (a : Int) (n : Nat) (be : Bool)
    (h : ∀ k : Nat, k < n → μ (a + (k : Int)) % 256 = μ' (a + (k : Int)) % 256) :
    readN μ a n be = readN μ' a n be :=
  readN_of_bytes μ a n _ be (readN_lt μ' a n be) fun j hj => (h j hj).trans (byteAt_readN μ' a n j be hj).symm

theorem writeN_in (μ : Int → Nat) (a : Int) (n v : Nat) (be : Bool) (j : Nat) (hj : j < n) :
    writeN μ a n v be (a + (j : Int)) = byteAt v n j be := by
  unfold writeN
  have : a ≤ a + (j : Int) ∧ a + (j : Int) < a + (n : Int) := by omega
  rw [if_pos this]
  congr 1; omega

theorem writeN_out (μ : Int → Nat) (a : Int) (n v : Nat) (be : Bool) (x : Int) (h : x < a ∨ a + (n : Int) ≤ x) :
    writeN μ a n v be x = μ x := by
  unfold writeN
  rw [if_neg (by omega)]

theorem writeN_zero (μ : Int → Nat) (a : Int) (v : Nat) (be : Bool) : writeN μ a 0 v be = μ := by
  funext x; exact writeN_out μ a 0 v be x (by omega)

def Bytes (μ : Int → Nat) : Prop := ∀ x, μ x < 256

theorem Bytes.writeN {μ : Int → Nat} (h : Bytes μ) (a : Int) (n v : Nat) (be : Bool) : Bytes (writeN μ a n v be) := by
  intro x
  unfold Amoco.Mapper.writeN
  split
  · exact byteAt_lt _ _ _ _
  · exact h x

theorem wrap_lt (w : Nat) (x : Int) : wrap w x < 2 ^ w := by
  unfold wrap
  have hp : (0 : Int) < ((2 ^ w : Nat) : Int) := by exact_mod_cast Nat.two_pow_pos w
  have h1 := Int.emod_lt_of_pos x hp
  have h0 := Int.emod_nonneg x (Int.ne_of_gt hp)
  omega

theorem wrap_cast (w : Nat) (x : Int) : ((wrap w x : Nat) : Int) = x % ((2 ^ w : Nat) : Int) := by
  unfold wrap
  have hp : (0 : Int) < ((2 ^ w : Nat) : Int) := by exact_mod_cast Nat.two_pow_pos w
  have h0 := Int.emod_nonneg x (Int.ne_of_gt hp)
  omega

theorem wrap_wrap_add (w : Nat) (x c : Int) : wrap w ((wrap w x : Nat) + c) = wrap w (x + c) := by
  unfold wrap
  have hp : (0 : Int) < ((2 ^ w : Nat) : Int) := by exact_mod_cast Nat.two_pow_pos w
  have h0 := Int.emod_nonneg x (Int.ne_of_gt hp)
  rw [Int.toNat_of_nonneg h0, Int.emod_add_emod]

theorem wrap_of_range (w : Nat) (x : Int) (h0 : 0 ≤ x) (h1 : x < ((2 ^ w : Nat) : Int)) : ((wrap w x : Nat) : Int) = x := by
  rw [wrap_cast, Int.emod_eq_of_lt h0 h1]

theorem wrap_natCast (w v : Nat) : wrap w (v : Int) = v % 2 ^ w := by
  unfold wrap
  rw [← Int.natCast_emod, Int.toNat_natCast]

theorem wrap_nat (w v : Nat) (h : v < 2 ^ w) : wrap w (v : Int) = v := by
  rw [wrap_natCast, Nat.mod_eq_of_lt h]

end Amoco.Mapper
