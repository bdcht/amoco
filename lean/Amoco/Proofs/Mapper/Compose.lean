/-
  `rcompose` (`m1 >> m2`): evaluation of arbitrary map values (loads with their mods included) in a map, and
  the composition law.
-/
import Amoco.Proofs.Mapper.Exec

set_option linter.unusedSimpArgs false
set_option linter.unusedVariables false

namespace Amoco.Mapper

variable {c : Ctx}

theorem agrees_refl (σ : St) : σ.agrees σ := ⟨fun _ _ => rfl, fun _ => rfl⟩

theorem agrees_trans {σ1 σ2 σ3 : St} (h1 : σ1.agrees σ2) (h2 : σ2.agrees σ3) : σ1.agrees σ3 :=
  ⟨fun n s => (h1.1 n s).trans (h2.1 n s), fun x => (h1.2 x).trans (h2.2 x)⟩

theorem agrees_symm {σ1 σ2 : St} (h : σ1.agrees σ2) : σ2.agrees σ1 :=
  ⟨fun n s => (h.1 n s).symm, fun x => (h.2 x).symm⟩

theorem applyMap_congr (sem : OpSem) (σ1 σ2 : St) (h : σ1.agrees σ2) (m : MapSt) :
    (applyMap sem σ1 m).agrees (applyMap sem σ2 m) := by
  constructor
  · intro n s
    simp only [applyMap]
    rw [ideal_congr sem σ1 σ2 h.1 h.2]
  · intro x
    simp only [applyMap]
    rw [← replayMods_modsOf, ← replayMods_modsOf]
    exact replayMods_congr sem σ1 σ2 h.1 h.2 _ _ _ h.2 x

def MapSt.untouched (m : MapSt) : Bool := m.entries.isEmpty && m.memEmpty

/-- `mem.eval` on a touched map: the mods are evaluated and replayed on a rebuilt copy, then the read -/
theorem eval_load (cfg : Cfg) (m : MapSt) (b : E) (d : Int) (s : Nat) (be : Bool) (ms : Mods)
    (hne : m.untouched = false) :
    eval cfg m (.load b d s be ms) =
      ((evalMods cfg m ms).foldl (fun acc w => acc.setPtr cfg w.1 w.2.1 w.2.2.1 w.2.2.2) (m.rebuild cfg)).M cfg
        (mkPtr (eval cfg m b) d).1 (mkPtr (eval cfg m b) d).2 s be := by
  show MapSt.M cfg (List.foldl _ (m.rebuild cfg) (if m.untouched = true then ms.toList else evalMods cfg m ms))
    _ _ s be = _
  rw [hne]
  rfl

mutual
/-- **general substitution lemma**: any well-formed expression (loads with mods included) evaluated in a
    touched map that stands for a state has, in the initial state, the value it has in that state. -/
theorem Inv.evalE_sound {μt ρt} {m : MapSt} (h : Inv c μt ρt m) (ok : c.OK) (hne : m.untouched = false) :
    ∀ (e : E), e.ok c.be0 = true → (∀ a ∈ loadsOf c.cfg m e, a ∈ c.acc) →
      ideal c.sem c.σ (eval c.cfg m e) = ideal c.sem ⟨ρt, μt⟩ e ∧ (eval c.cfg m e).size = e.size
  | .cst v s, _, _ => ⟨rfl, rfl⟩
  | .reg n s, _, _ => ⟨h.regs n s, h.s.R_size n s⟩
  | .slc x p s, hok, hacc => by
    obtain ⟨ih1, _⟩ := Inv.evalE_sound h ok hne x hok hacc
    exact ⟨(ideal_mkSlice _ _ _ _ _).trans (by rw [ih1]; rfl), size_mkSlice _ _ _⟩
  | .cat lo hi, hok, hacc => by
    obtain ⟨l1, l2⟩ := Inv.evalE_sound h ok hne lo (Bool.and_eq_true_iff.mp hok).1
      (fun a ha => hacc a (List.mem_append_left _ ha))
    obtain ⟨r1, r2⟩ := Inv.evalE_sound h ok hne hi (Bool.and_eq_true_iff.mp hok).2
      (fun a ha => hacc a (List.mem_append_right _ ha))
    refine ⟨(ideal_mkCat _ _ _ _).trans ?_, (size_mkCat _ _).trans (by rw [l2, r2]; rfl)⟩
    rw [l1, r1, l2]
    exact (ideal_cat _ _ lo hi).symm
  | .addc x k, hok, hacc => by
    obtain ⟨ih1, ih2⟩ := Inv.evalE_sound h ok hne x hok hacc
    exact ⟨(ideal_mkAddc _ _ _ _).trans (by rw [ih1, ih2]; rfl), (size_mkAddc _ _).trans ih2⟩
  | .op o l r s, hok, hacc => by
    obtain ⟨l1, _⟩ := Inv.evalE_sound h ok hne l (Bool.and_eq_true_iff.mp hok).1
      (fun a ha => hacc a (List.mem_append_left _ ha))
    obtain ⟨r1, _⟩ := Inv.evalE_sound h ok hne r (Bool.and_eq_true_iff.mp hok).2
      (fun a ha => hacc a (List.mem_append_right _ ha))
    refine ⟨?_, rfl⟩
    show c.sem o s _ _ % _ = c.sem o s _ _ % _
    rw [l1, r1]
  | .load b d s be ms, hok, hacc => by
    have hok' : (b.ok c.be0 && decide (0 < s / 8) && decide (8 * (s / 8) = s) && (be == c.be0) && ms.ok c.be0) = true := hok
    simp only [Bool.and_eq_true, decide_eq_true_eq, beq_iff_eq] at hok'
    obtain ⟨⟨⟨⟨hob, hs0⟩, hs8⟩, hbe⟩, hom⟩ := hok'
    subst hbe
    obtain ⟨b1, b2⟩ := Inv.evalE_sound h ok hne b hob
      (fun a ha => hacc a (List.mem_append_left _ (List.mem_append_left _ ha)))
    have hmods := Inv.evalMods_sound h ok hne ms hom
      (fun a ha => hacc a (List.mem_append_left _ (List.mem_append_right _ ha))) (m.rebuild c.cfg) μt (h.rebuild ok)
    rw [eval_load _ _ _ _ _ _ _ hne]
    have := hmods.M_sound_mkPtr ok _ d s hs8 (hacc _ (List.mem_append_right _ (List.mem_singleton.mpr rfl)))
    rwa [b1, b2] at this
/-- the mods of a load, evaluated in `m` and folded into any map `m''` that stands for `(ρt, μ)` -/
theorem Inv.evalMods_sound {μt ρt} {m : MapSt} (h : Inv c μt ρt m) (ok : c.OK) (hne : m.untouched = false) :
    ∀ (ms : Mods), ms.ok c.be0 = true → (∀ a ∈ loadsOfMods c.cfg m ms, a ∈ c.acc) →
      ∀ (m'' : MapSt) (μ : Int → Nat), Inv c μ ρt m'' →
        Inv c (replayMods c.sem ⟨ρt, μt⟩ μ ms) ρt
          ((evalMods c.cfg m ms).foldl (fun acc w => acc.setPtr c.cfg w.1 w.2.1 w.2.2.1 w.2.2.2) m'')
  | .nil, _, _, m'', μ, h'' => h''
  | .cons b d v be rest, hok, hacc, m'', μ, h'' => by
    have hok' : (b.ok c.be0 && v.ok c.be0 && decide (0 < v.size / 8) && decide (8 * (v.size / 8) = v.size) &&
        (be == c.be0) && rest.ok c.be0) = true := hok
    simp only [Bool.and_eq_true, decide_eq_true_eq, beq_iff_eq] at hok'
    obtain ⟨⟨⟨⟨⟨hob, hov⟩, hv0⟩, hv8⟩, hbe⟩, hor⟩ := hok'
    subst hbe
    have hunt : (m.entries.isEmpty && m.memEmpty) = false := hne
    have hacc' : ∀ a ∈ loadsOf c.cfg m b ++ loadsOf c.cfg m v ++
        [⟨(mkPtr (eval c.cfg m b) d).1, (mkPtr (eval c.cfg m b) d).2, v.size / 8⟩] ++ loadsOfMods c.cfg m rest,
        a ∈ c.acc := by
      have e : (if (m.entries.isEmpty && m.memEmpty) = true then (b, d) else mkPtr (eval c.cfg m b) d) =
          mkPtr (eval c.cfg m b) d := by rw [hunt]; rfl
      rw [← e]; exact hacc
    simp only [List.mem_append, List.mem_singleton] at hacc'
    obtain ⟨b1, b2⟩ := Inv.evalE_sound h ok hne b hob (fun a ha => hacc' a (Or.inl (Or.inl (Or.inl ha))))
    obtain ⟨v1, v2⟩ := Inv.evalE_sound h ok hne v hov (fun a ha => hacc' a (Or.inl (Or.inl (Or.inr ha))))
    have hin := hacc' ⟨(mkPtr (eval c.cfg m b) d).1, (mkPtr (eval c.cfg m b) d).2, v.size / 8⟩
      (Or.inl (Or.inr rfl))
    exact Inv.evalMods_sound h ok hne rest hor (fun a ha => hacc' a (Or.inr ha)) _ _
      (h''.setPtr ok _ _ _ v2 hv0 hv8 hin ((addrOf_mkPtr _ _ _ _).trans (by rw [b1, b2])) v1)
end

/-- the concrete effect of one item of the second map, its pointer and value taken in the state `σ1` -/
def stepState (sem : OpSem) (σ1 : St) (s : St) (e : Entry) : St :=
  match e.loc with
  | .ptr b d =>
    { s with mem := writeN s.mem (addrOf b.size (ideal sem σ1 b) d) (e.val.size / 8) (ideal sem σ1 e.val) e.be }
  | .reg n sz => s.setReg n sz (spliceVal (s.reg n sz) sz 0 sz (ideal sem σ1 e.val))

/-- one step of the loop of `rcompose` -/
def rcStep (cfg : Cfg) (m1 : MapSt) (acc : MapSt) (e : Entry) : MapSt :=
  match e.loc with
  | .ptr b d =>
    let a := if m1.entries.isEmpty && m1.memEmpty then (b, d) else mkPtr (eval cfg m1 b) d
    acc.setPtr cfg a.1 a.2 (m1.call cfg e.val) e.be
  | .reg n s => acc.setReg n s 0 s (m1.call cfg e.val)

theorem rcompose_eq (cfg : Cfg) (m2 m1 : MapSt) :
    rcompose cfg m2 m1 = m2.entries.foldl (rcStep cfg m1) (m1.rebuild cfg) := rfl

/-- what `MapSt.ok` says about one item -/
def Entry.ok (be0 : Bool) (e : Entry) : Prop :=
  e.val.ok be0 = true ∧
  (∀ n s, e.loc = .reg n s → e.val.size = s) ∧
  (∀ b d, e.loc = .ptr b d → b.ok be0 = true ∧ 0 < e.val.size / 8 ∧ 8 * (e.val.size / 8) = e.val.size ∧ e.be = be0)

def entryAccesses (cfg : Cfg) (m1 : MapSt) (e : Entry) : List Access :=
  match e.loc with
  | .ptr b d =>
    let a := if m1.entries.isEmpty && m1.memEmpty then (b, d) else mkPtr (eval cfg m1 b) d
    loadsOf cfg m1 b ++ loadsOf cfg m1 e.val ++ [⟨a.1, a.2, e.val.size / 8⟩]
  | .reg _ _ => loadsOf cfg m1 e.val

/-- a value of the second map taken through `m1(·)` -/
theorem Inv.callE_sound {μ1 ρ1} {m1 : MapSt} (h1 : Inv c μ1 ρ1 m1) (ok : c.OK) (e : E) (hok : e.ok c.be0 = true)
    (hacc : ∀ a ∈ loadsOf c.cfg m1 e, a ∈ c.acc) :
    ideal c.sem c.σ (m1.call c.cfg e) = ideal c.sem ⟨ρ1, μ1⟩ e ∧ (m1.call c.cfg e).size = e.size := by
  unfold MapSt.call
  split
  · rename_i hs
    exact ⟨((foldE_spec c.sem c.σ e).1).trans (h1.ideal_untouched hs e), (foldE_spec c.sem c.σ e).2⟩
  · rename_i hs
    exact h1.evalE_sound ok (Bool.eq_false_iff.mpr hs) e hok hacc

/-- a pointer of the second map taken through `m1(·)` (as it is on an untouched map) -/
theorem Inv.ptr_sound {μ1 ρ1} {m1 : MapSt} (h1 : Inv c μ1 ρ1 m1) (ok : c.OK) (b : E) (d : Int)
    (hok : b.ok c.be0 = true) (hacc : ∀ a ∈ loadsOf c.cfg m1 b, a ∈ c.acc) :
    locAddr c.sem c.σ (if m1.entries.isEmpty && m1.memEmpty then (b, d) else mkPtr (eval c.cfg m1 b) d).1
      (if m1.entries.isEmpty && m1.memEmpty then (b, d) else mkPtr (eval c.cfg m1 b) d).2 =
    addrOf b.size (ideal c.sem ⟨ρ1, μ1⟩ b) d := by
  by_cases hs : (m1.entries.isEmpty && m1.memEmpty) = true
  · rw [if_pos hs]
    exact congrArg (addrOf b.size · d) (h1.ideal_untouched hs b)
  · obtain ⟨b1, b2⟩ := h1.evalE_sound ok (Bool.eq_false_iff.mpr hs) b hok hacc
    rw [if_neg hs]
    exact (addrOf_mkPtr _ _ _ _).trans (by rw [b1, b2])

theorem Inv.rc_step {μ1 ρ1 μ ρ} {m1 acc : MapSt} (h1 : Inv c μ1 ρ1 m1) (ok : c.OK) (h : Inv c μ ρ acc) (e : Entry)
    (he : e.ok c.be0) (hacc : ∀ a ∈ entryAccesses c.cfg m1 e, a ∈ c.acc) :
    Inv c (stepState c.sem ⟨ρ1, μ1⟩ ⟨ρ, μ⟩ e).mem (stepState c.sem ⟨ρ1, μ1⟩ ⟨ρ, μ⟩ e).reg (rcStep c.cfg m1 acc e) := by
  obtain ⟨hv, hreg, hptr⟩ := he
  unfold rcStep stepState entryAccesses at *
  cases hl : e.loc with
  | reg n s =>
    rw [hl] at hacc
    obtain ⟨v1, v2⟩ := h1.callE_sound ok e.val hv hacc
    exact h.setReg n s 0 s _ (v2.trans (hreg n s hl)) (Nat.le_of_eq (Nat.zero_add s)) v1
  | ptr b d =>
    rw [hl] at hacc
    simp only [List.mem_append, List.mem_singleton] at hacc
    obtain ⟨hob, hn0, hn8, hbe⟩ := hptr b d hl
    obtain ⟨v1, v2⟩ := h1.callE_sound ok e.val hv (fun a ha => hacc a (Or.inl (Or.inr ha)))
    rw [hbe]
    exact h.setPtr ok _ _ _ v2 hn0 hn8 (hacc _ (Or.inr rfl))
      (h1.ptr_sound ok b d hob fun a ha => hacc a (Or.inl (Or.inl ha))) v1

theorem Inv.rc_fold {μ1 ρ1} {m1 : MapSt} (h1 : Inv c μ1 ρ1 m1) (ok : c.OK) :
    ∀ (es : List Entry) (acc : MapSt) (s : St), Inv c s.mem s.reg acc → (∀ e ∈ es, e.ok c.be0) →
      (∀ e ∈ es, ∀ a ∈ entryAccesses c.cfg m1 e, a ∈ c.acc) →
      Inv c (es.foldl (stepState c.sem ⟨ρ1, μ1⟩) s).mem (es.foldl (stepState c.sem ⟨ρ1, μ1⟩) s).reg
        (es.foldl (rcStep c.cfg m1) acc)
  | [], _, _, h, _, _ => h
  | e :: rest, acc, s, h, hok, hacc => by
    have hstep := h1.rc_step ok h e (hok e List.mem_cons_self) (hacc e List.mem_cons_self)
    exact Inv.rc_fold h1 ok rest _ _ hstep (fun e' he' => hok e' (List.mem_cons_of_mem _ he'))
      (fun e' he' => hacc e' (List.mem_cons_of_mem _ he'))

theorem foldl_stepState_mem (sem : OpSem) (σ1 : St) : ∀ (es : List Entry) (s : St),
    (es.foldl (stepState sem σ1) s).mem = replayEntries sem σ1 s.mem es
  | [], s => rfl
  | e :: rest, s => by
    rw [List.foldl_cons, foldl_stepState_mem sem σ1 rest]
    conv => rhs; unfold replayEntries
    unfold stepState
    cases hl : e.loc <;> simp [St.setReg]

theorem foldl_stepState_reg (sem : OpSem) (σ1 : St) (n : String) (sz : Nat) : ∀ (es : List Entry) (s : St),
    (es.map Entry.loc).Nodup →
    (es.foldl (stepState sem σ1) s).reg n sz % 2 ^ sz =
      match es.find? (fun e => e.loc = .reg n sz) with
      | some e => ideal sem σ1 e.val % 2 ^ sz
      | none => s.reg n sz % 2 ^ sz
  | [], s, _ => rfl
  | e :: rest, s, hnd => by
    rw [List.map_cons, List.nodup_cons] at hnd
    rw [List.foldl_cons, foldl_stepState_reg sem σ1 n sz rest _ hnd.2, List.find?_cons]
    by_cases hl : e.loc = .reg n sz
    · have hnone : rest.find? (fun e => decide (e.loc = .reg n sz)) = none := by
        rw [List.find?_eq_none]
        intro x hx hd
        apply hnd.1
        rw [hl]
        exact List.mem_map.mpr ⟨x, hx, of_decide_eq_true hd⟩
      simp only [hl, decide_true, hnone]
      unfold stepState
      rw [hl]
      simp only [St.setReg, and_self, if_true, spliceVal_full, Nat.mod_mod]
    · simp only [hl, decide_false]
      cases hf : rest.find? (fun e => decide (e.loc = .reg n sz)) with
      | some e' => rfl
      | none =>
        simp only
        unfold stepState
        cases hl' : e.loc with
        | ptr b d => rfl
        | reg n' s' =>
          simp only [St.setReg]
          have : ¬ (n = n' ∧ sz = s') := by
            intro hc; apply hl; rw [hl', hc.1, hc.2]
          rw [if_neg this]

theorem MapSt.ok_spec (be0 : Bool) (m : MapSt) (h : m.ok be0 = true) :
    (m.entries.map Entry.loc).Nodup ∧ ∀ e ∈ m.entries, e.ok be0 := by
  simp only [MapSt.ok, Bool.and_eq_true, decide_eq_true_eq, List.all_eq_true] at h
  refine ⟨h.1, ?_⟩
  intro e he
  have := h.2 e he
  refine ⟨this.1, ?_, ?_⟩
  · intro n s hl
    rw [hl] at this
    simpa using this.2
  · intro b d hl
    rw [hl] at this
    simp only [Bool.and_eq_true, decide_eq_true_eq, beq_iff_eq] at this
    exact ⟨this.2.1.1.1, this.2.1.1.2, this.2.1.2, this.2.2⟩

theorem rcomposeAccesses_mem (cfg : Cfg) (m2 m1 : MapSt) (e : Entry) (he : e ∈ m2.entries) (a : Access)
    (ha : a ∈ entryAccesses cfg m1 e) : a ∈ rcomposeAccesses cfg m2 m1 := by
  unfold rcomposeAccesses
  rw [List.mem_flatMap]
  refine ⟨e, he, ?_⟩
  unfold entryAccesses at ha
  cases hl : e.loc with
  | ptr b d => rw [hl] at ha; exact ha
  | reg n s => rw [hl] at ha; exact ha

/-- **composition**: `σ >> (m1 >> m2)` is `m2` applied to the state `m1` stands for. -/
theorem rcompose_sound (ok : c.OK) {μ1 ρ1} {m1 : MapSt} (h1 : Inv c μ1 ρ1 m1) (m2 : MapSt)
    (hm2 : m2.ok c.be0 = true) (hacc : ∀ a ∈ rcomposeAccesses c.cfg m2 m1, a ∈ c.acc) :
    (applyMap c.sem c.σ (rcompose c.cfg m2 m1)).agrees (applyMap c.sem ⟨ρ1, μ1⟩ m2) := by
  obtain ⟨hnd, hoks⟩ := MapSt.ok_spec _ _ hm2
  have hfold := h1.rc_fold ok m2.entries (m1.rebuild c.cfg) ⟨ρ1, μ1⟩ (h1.rebuild ok) hoks
    (fun e he a ha => hacc a (rcomposeAccesses_mem _ _ _ e he a ha))
  rw [← rcompose_eq] at hfold
  refine agrees_trans (agrees_of_inv hfold) ?_
  constructor
  · intro n s
    rw [foldl_stepState_reg c.sem ⟨ρ1, μ1⟩ n s m2.entries ⟨ρ1, μ1⟩ hnd]
    simp only [applyMap]
    unfold MapSt.R MapSt.lookup
    cases hf : m2.entries.find? (fun e => decide (e.loc = .reg n s)) with
    | none => simp only [ideal, Nat.mod_mod]
    | some e =>
      simp only
  · intro x
    rw [foldl_stepState_mem]
    rfl

end Amoco.Mapper
