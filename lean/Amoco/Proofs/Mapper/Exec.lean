/-
  Substitution lemma (`e.eval(m)` / `m(e)` evaluates to the value of `e` in the current concrete state), one IR
  statement, whole programs.
-/
import Amoco.Proofs.Mapper.Rebuild

set_option linter.unusedSimpArgs false
set_option linter.unusedVariables false

namespace Amoco.Mapper

variable {c : Ctx}

def St.agrees (σ1 σ2 : St) : Prop :=
  (∀ n s, σ1.reg n s % 2 ^ s = σ2.reg n s % 2 ^ s) ∧ ∀ x, σ1.mem x = σ2.mem x

theorem eval_load_nil (cfg : Cfg) (m : MapSt) (b : E) (d : Int) (s : Nat) (be : Bool) :
    eval cfg m (.load b d s be .nil) =
      (m.rebuild cfg).M cfg (mkPtr (eval cfg m b) d).1 (mkPtr (eval cfg m b) d).2 s be := by
  show MapSt.M cfg (List.foldl _ (m.rebuild cfg) (if (m.entries.isEmpty && m.memEmpty) = true then [] else []))
    _ _ s be = _
  rw [ite_self]
  rfl

/-- **substitution lemma**: evaluating a right-hand side in the map gives an expression whose value in
    the initial state is the value of the right-hand side in the current state. -/
theorem Inv.eval_sound {μt ρt} {m : MapSt} (h : Inv c μt ρt m) :
    ∀ (x : X), (x.loadFree = true ∨ c.OK) → x.wf = true → (∀ a ∈ loadsOf c.cfg m (x.toE c.be0), a ∈ c.acc) →
      ideal c.sem c.σ (eval c.cfg m (x.toE c.be0)) = x.val c.sem c.be0 ⟨ρt, μt⟩ ∧
      (eval c.cfg m (x.toE c.be0)).size = x.size
  | .cst v s, _, _, _ => ⟨rfl, rfl⟩
  | .reg n s, _, _, _ => ⟨h.regs n s, h.s.R_size n s⟩
  | .slc x p s, ok, hwf, hacc => by
    obtain ⟨ih1, _⟩ := Inv.eval_sound h x ok (Bool.and_eq_true_iff.mp hwf).1 hacc
    exact ⟨(ideal_mkSlice _ _ _ _ _).trans (by rw [ih1]; rfl), size_mkSlice _ _ _⟩
  | .cat lo hi, ok, hwf, hacc => by
    obtain ⟨l1, l2⟩ := Inv.eval_sound h lo (ok.imp (fun h => (Bool.and_eq_true_iff.mp h).1) id)
      (Bool.and_eq_true_iff.mp hwf).1 (fun a ha => hacc a (List.mem_append_left _ ha))
    obtain ⟨r1, r2⟩ := Inv.eval_sound h hi (ok.imp (fun h => (Bool.and_eq_true_iff.mp h).2) id)
      (Bool.and_eq_true_iff.mp hwf).2 (fun a ha => hacc a (List.mem_append_right _ ha))
    have hl := ideal_lt c.sem c.σ (eval c.cfg m (lo.toE c.be0))
    have hr := ideal_lt c.sem c.σ (eval c.cfg m (hi.toE c.be0))
    rw [l1, l2] at hl
    rw [r1, r2] at hr
    refine ⟨(ideal_mkCat _ _ _ _).trans ?_, (size_mkCat _ _).trans (by rw [l2, r2]; rfl)⟩
    rw [l1, r1, l2]
    show _ = _ % _ + _ % _ * _
    rw [Nat.mod_eq_of_lt hl, Nat.mod_eq_of_lt hr]
  | .addc x k, ok, hwf, hacc => by
    obtain ⟨ih1, ih2⟩ := Inv.eval_sound h x ok hwf hacc
    exact ⟨(ideal_mkAddc _ _ _ _).trans (by rw [ih1, ih2]; rfl), (size_mkAddc _ _).trans ih2⟩
  | .op o l r s, ok, hwf, hacc => by
    obtain ⟨l1, _⟩ := Inv.eval_sound h l (ok.imp (fun h => (Bool.and_eq_true_iff.mp h).1) id)
      (Bool.and_eq_true_iff.mp hwf).1 (fun a ha => hacc a (List.mem_append_left _ ha))
    obtain ⟨r1, _⟩ := Inv.eval_sound h r (ok.imp (fun h => (Bool.and_eq_true_iff.mp h).2) id)
      (Bool.and_eq_true_iff.mp hwf).2 (fun a ha => hacc a (List.mem_append_right _ ha))
    refine ⟨?_, rfl⟩
    show c.sem o s _ _ % _ = c.sem o s _ _ % _
    rw [l1, r1]
  | .load b d s, ok', hwf, hacc => by
    have ok : c.OK := ok'.resolve_left fun h => Bool.false_ne_true h
    have hwf' := Bool.and_eq_true_iff.mp (Bool.and_eq_true_iff.mp hwf).1
    have hwb := hwf'.1
    have hs0 : 0 < s := of_decide_eq_true hwf'.2
    have hs8 : s % 8 = 0 := of_decide_eq_true (Bool.and_eq_true_iff.mp hwf).2
    obtain ⟨b1, b2⟩ := Inv.eval_sound h b (Or.inr ok) hwb
      (fun a ha => hacc a (List.mem_append_left _ (List.mem_append_left _ ha)))
    show ideal c.sem c.σ (eval c.cfg m (.load (b.toE c.be0) d s c.be0 .nil)) =
      readN μt (addrOf b.size (b.val c.sem c.be0 ⟨ρt, μt⟩) d) (s / 8) c.be0 ∧
      (eval c.cfg m (.load (b.toE c.be0) d s c.be0 .nil)).size = s
    rw [eval_load_nil]
    have := (h.rebuild ok).M_sound_mkPtr ok _ d s (by omega)
      (hacc _ (List.mem_append_right _ (List.mem_singleton.mpr rfl)))
    rwa [b1, b2] at this

/-- on an untouched map the current state is the initial one -/
theorem Inv.ideal_untouched {μt ρt} {m : MapSt} (h : Inv c μt ρt m) (hs : (m.entries.isEmpty && m.memEmpty) = true)
    (e : E) : ideal c.sem c.σ e = ideal c.sem ⟨ρt, μt⟩ e := by
  have he : m.entries = [] := List.isEmpty_iff.mp (Bool.and_eq_true_iff.mp hs).1
  refine ideal_congr _ _ _ (fun n s => ?_) (fun x => ?_) e
  · have := h.regs n s
    unfold MapSt.R MapSt.lookup at this
    rw [he] at this
    exact this
  · have := h.mem x
    rw [he] at this
    exact this

/-- `m(e)` (with its shortcut on an untouched map) -/
theorem Inv.call_sound {μt ρt} {m : MapSt} (h : Inv c μt ρt m) (x : X) (ok : x.loadFree = true ∨ c.OK)
    (hwf : x.wf = true)
    (hacc : ∀ a ∈ loadsOf c.cfg m (x.toE c.be0), a ∈ c.acc) :
    ideal c.sem c.σ (m.call c.cfg (x.toE c.be0)) = x.val c.sem c.be0 ⟨ρt, μt⟩ ∧
    (m.call c.cfg (x.toE c.be0)).size = x.size := by
  unfold MapSt.call
  split
  · rename_i hs
    exact ⟨((foldE_spec c.sem c.σ _).1.trans (h.ideal_untouched hs _)).trans (ideal_toE _ _ _ x),
      (foldE_spec c.sem c.σ _).2.trans (size_toE _ x)⟩
  · exact h.eval_sound x ok hwf hacc

/-- **one statement**: the symbolic step stands for the concrete step -/
theorem Inv.step {μt ρt} {m : MapSt} (h : Inv c μt ρt m) (st : Stmt) (ok' : st.regsOnly = true ∨ c.OK)
    (hwf : st.wf = true)
    (hacc : ∀ a ∈ stmtAccesses c.cfg c.be0 m st, a ∈ c.acc) :
    Inv c (concStep c.sem c.be0 ⟨ρt, μt⟩ st).mem (concStep c.sem c.be0 ⟨ρt, μt⟩ st).reg
      (symStep c.cfg c.be0 m st) := by
  cases st with
  | set n rs pos size e =>
    simp only [Stmt.wf, Bool.and_eq_true, decide_eq_true_eq] at hwf
    obtain ⟨⟨hwe, hsz⟩, hps⟩ := hwf
    obtain ⟨v1, v2⟩ := h.call_sound e (by simpa [Stmt.regsOnly] using ok') hwe hacc
    exact h.setReg n rs pos size _ (v2.trans hsz) hps v1
  | store b d size e =>
    have ok : c.OK := ok'.resolve_left Bool.false_ne_true
    simp only [Stmt.wf, Bool.and_eq_true, decide_eq_true_eq] at hwf
    obtain ⟨⟨⟨⟨hwb, hwe⟩, hsz⟩, hs0⟩, hs8⟩ := hwf
    simp only [stmtAccesses, List.mem_append, List.mem_singleton] at hacc
    obtain ⟨v1, v2⟩ := h.call_sound e (Or.inr ok) hwe (fun a ha => hacc a (Or.inl (Or.inl ha)))
    obtain ⟨b1, b2⟩ := h.eval_sound b (Or.inr ok) hwb (fun a ha => hacc a (Or.inl (Or.inr ha)))
    exact h.setPtr ok _ _ _ (v2.trans hsz) (by omega) (by omega) (hacc _ (Or.inr rfl))
      ((addrOf_mkPtr _ _ _ _).trans (by rw [b1, b2])) v1

/-- the final step shared by the property theorems: the invariant of the final map is the statement -/
theorem agrees_of_inv {μt ρt} {m : MapSt} (h : Inv c μt ρt m) : (applyMap c.sem c.σ m).agrees ⟨ρt, μt⟩ :=
  ⟨fun n s => (congrArg (· % 2 ^ s) (h.regs n s)).trans (Nat.mod_mod _ _), h.mem⟩

theorem Inv.init (c : Ctx) : Inv c c.σ.mem c.σ.reg MapSt.empty := by
  refine ⟨⟨zonesWF_nil, ?_, ?_, List.nodup_nil, ?_, ?_, ?_⟩, ?_, ?_⟩
  · intro zk x w k hx
    simp [MapSt.empty, zoneOf, Amoco.Memory.Zone.empty_abs] at hx
  · intro i hi; simp [MapSt.empty] at hi
  · intro e he; simp [MapSt.empty] at he
  · intro e he; simp [MapSt.empty] at he
  · intro zk x
    simp [zbyte, MapSt.empty, zoneOf, Amoco.Memory.Zone.empty_abs, lastZ, noBg]
  · intro n s; rfl
  · intro x; rfl

/-- **whole programs**, from any map that stands for a state -/
theorem Inv.prog : ∀ (stmts : List Stmt) (m : MapSt) (μt : Int → Nat) (ρt : String → Nat → Nat),
    Inv c μt ρt m → ((∀ s ∈ stmts, s.regsOnly = true) ∨ c.OK) →
    (∀ s ∈ stmts, s.wf = true) → (∀ a ∈ progAccesses c.cfg c.be0 m stmts, a ∈ c.acc) →
    Inv c (stmts.foldl (concStep c.sem c.be0) ⟨ρt, μt⟩).mem (stmts.foldl (concStep c.sem c.be0) ⟨ρt, μt⟩).reg
      (stmts.foldl (symStep c.cfg c.be0) m)
  | [], m, μt, ρt, h, _, _, _ => h
  | s :: rest, m, μt, ρt, h, ok, hwf, hacc => by
    simp only [progAccesses, List.mem_append] at hacc
    have h1 := h.step s (ok.imp (fun h => h s List.mem_cons_self) id) (hwf s List.mem_cons_self)
      (fun a ha => hacc a (Or.inl ha))
    exact Inv.prog rest _ _ _ h1 (ok.imp (fun h s' hs' => h s' (List.mem_cons_of_mem _ hs')) id)
      (fun s' hs' => hwf s' (List.mem_cons_of_mem _ hs')) (fun a ha => hacc a (Or.inr ha))

end Amoco.Mapper
