/-
  Meaning and size of the expression constructors of the mapper model (`mkSlice`, `mkCat`, `catList`, `mkAddc`,
  `mkPtr`, `splice`), and of `X.toE`.
-/
import Amoco.Proofs.Mapper.Bytes

set_option linter.unusedSimpArgs false
set_option linter.unusedVariables false

namespace Amoco.Mapper

variable (sem : OpSem) (σ : St)

def nbytes (e : E) : Nat := e.size / 8

theorem pow256 (n : Nat) : 256 ^ n = 2 ^ (8 * n) := by
  rw [show (256 : Nat) = 2 ^ 8 by decide, ← Nat.pow_mul]

theorem ideal_lt (e : E) : ideal sem σ e < 2 ^ e.size := by
  cases e with
  | cst | reg | slc | op => exact Nat.mod_lt _ (Nat.two_pow_pos _)
  | cat lo hi =>
    simp only [ideal, E.size]
    rw [Nat.pow_add, Nat.mul_comm (2 ^ lo.size)]
    exact add_mul_lt (Nat.mod_lt _ (Nat.two_pow_pos _)) (Nat.mod_lt _ (Nat.two_pow_pos _))
  | addc x c => exact wrap_lt _ _
  | load b d s be ms =>
    simp only [ideal, E.size]
    have h := readN_lt (replayMods sem σ σ.mem ms) (addrOf b.size (ideal sem σ b) d) (s / 8) be
    rw [pow256] at h
    exact Nat.lt_of_lt_of_le h (Nat.pow_le_pow_right (by decide) (Nat.mul_div_le s 8))

theorem ideal_mod (e : E) : ideal sem σ e % 2 ^ e.size = ideal sem σ e := Nat.mod_eq_of_lt (ideal_lt sem σ e)

theorem ideal_cat (lo hi : E) : ideal sem σ (.cat lo hi) = ideal sem σ lo + ideal sem σ hi * 2 ^ lo.size := by
  simp only [ideal, ideal_mod]

theorem slice_slice (X p' s' p s : Nat) (h : p + s ≤ s') :
    (((X >>> p') % 2 ^ s') >>> p) % 2 ^ s = (X >>> (p' + p)) % 2 ^ s := by
  rw [Nat.shiftRight_add]
  generalize X >>> p' = Y
  -- Y % 2^s' = low part; write Y = (Y % 2^s') + (Y / 2^s') * 2^s'
  have hY : Y = Y % 2 ^ s' + (Y / 2 ^ s') * 2 ^ s' := by
    rw [Nat.mul_comm]; exact (Nat.mod_add_div Y (2 ^ s')).symm
  conv => rhs; rw [hY]
  exact (shift_low _ _ _ _ _ h).symm

theorem size_mkWhole (x : E) (p n : Nat) : (mkWhole x p n).size = n := by
  unfold mkWhole; split
  · rename_i h; exact h.2.symm
  · rfl

theorem ideal_mkWhole (x : E) (p n : Nat) : ideal sem σ (mkWhole x p n) = (ideal sem σ x >>> p) % 2 ^ n := by
  unfold mkWhole; split
  · rename_i h; rw [h.1, h.2, Nat.shiftRight_zero]; exact (ideal_mod sem σ x).symm
  · simp only [ideal]

theorem mkSlice_spec : ∀ (x : E) (p s : Nat),
    ideal sem σ (mkSlice x p s) = (ideal sem σ x >>> p) % 2 ^ s ∧ (mkSlice x p s).size = s
  | .cst v sz, p, s => by
    unfold mkSlice; split
    · rename_i h; rw [h.1, h.2, Nat.shiftRight_zero]; exact ⟨(ideal_mod sem σ (.cst v sz)).symm, rfl⟩
    · exact ⟨Nat.mod_mod _ _, rfl⟩
  | .cat lo hi, p, s => by
    unfold mkSlice; split
    · rename_i h; rw [h.1, h.2, Nat.shiftRight_zero]; exact ⟨(ideal_mod sem σ (.cat lo hi)).symm, rfl⟩
    · split
      · rename_i h
        refine ⟨?_, (mkSlice_spec lo p s).2⟩
        rw [(mkSlice_spec lo p s).1, ideal_cat]
        exact (shift_low _ _ _ _ _ h).symm
      · split
        · rename_i h
          refine ⟨?_, (mkSlice_spec hi _ s).2⟩
          rw [(mkSlice_spec hi _ s).1, ideal_cat, shift_high _ _ _ _ (ideal_lt sem σ lo) h]
        · exact ⟨rfl, rfl⟩
  | .slc y p' s', p, s => by
    unfold mkSlice; split
    · rename_i h; rw [h.1, h.2, Nat.shiftRight_zero]; exact ⟨(ideal_mod sem σ (.slc y p' s')).symm, rfl⟩
    · split
      · rename_i h
        refine ⟨?_, (mkSlice_spec y _ s).2⟩
        rw [(mkSlice_spec y _ s).1]
        exact (slice_slice _ _ _ _ _ h).symm
      · exact ⟨rfl, rfl⟩
  | .reg n sz, p, s => ⟨ideal_mkWhole sem σ (.reg n sz) p s, size_mkWhole (.reg n sz) p s⟩
  | .addc x c, p, s => ⟨ideal_mkWhole sem σ (.addc x c) p s, size_mkWhole (.addc x c) p s⟩
  | .op o l r sz, p, s => ⟨ideal_mkWhole sem σ (.op o l r sz) p s, size_mkWhole (.op o l r sz) p s⟩
  | .load b d sz be ms, p, s => ⟨ideal_mkWhole sem σ (.load b d sz be ms) p s, size_mkWhole (.load b d sz be ms) p s⟩

theorem ideal_mkSlice (x : E) (p s : Nat) : ideal sem σ (mkSlice x p s) = (ideal sem σ x >>> p) % 2 ^ s :=
  (mkSlice_spec sem σ x p s).1

-- the size half of `mkSlice_spec` does not depend on `sem` and `σ`: any instance will do (`size_catListJ` likewise)
omit sem σ in
theorem size_mkSlice (x : E) (p s : Nat) : (mkSlice x p s).size = s :=
  (mkSlice_spec (fun _ _ _ _ => 0) ⟨fun _ _ => 0, fun _ => 0⟩ x p s).2

theorem size_mkCat (lo hi : E) : (mkCat lo hi).size = lo.size + hi.size := by
  unfold mkCat
  split <;> rfl

theorem ideal_mkCat (lo hi : E) : ideal sem σ (mkCat lo hi) = ideal sem σ lo + ideal sem σ hi * 2 ^ lo.size := by
  unfold mkCat
  split
  · rename_i a sa b sb
    have h := ideal_lt sem σ (.cat (.cst a sa) (.cst b sb))
    simp only [ideal, E.size, Nat.mod_mod] at h ⊢
    rw [Nat.mod_eq_of_lt h]
  · exact ideal_cat sem σ lo hi

/-- two whole-byte parts composed so that `A` comes first in memory: length, and the bytes of the whole -/
theorem memCat_spec (be : Bool) (A B : E) (hA : 8 * nbytes A = A.size) (hB : 8 * nbytes B = B.size) :
    nbytes (if be then mkCat B A else mkCat A B) = nbytes A + nbytes B ∧
    8 * nbytes (if be then mkCat B A else mkCat A B) = (if be then mkCat B A else mkCat A B).size ∧
    ∀ j, j < nbytes A + nbytes B →
      byteAt (ideal sem σ (if be then mkCat B A else mkCat A B)) (nbytes A + nbytes B) j be =
        if j < nbytes A then byteAt (ideal sem σ A) (nbytes A) j be
        else byteAt (ideal sem σ B) (nbytes B) (j - nbytes A) be := by
  have hAl : ideal sem σ A < 2 ^ (8 * nbytes A) := hA ▸ ideal_lt sem σ A
  have hBl : ideal sem σ B < 2 ^ (8 * nbytes B) := hB ▸ ideal_lt sem σ B
  have hs : (if be then mkCat B A else mkCat A B).size = A.size + B.size := by
    cases be
    · exact size_mkCat A B
    · exact (size_mkCat B A).trans (Nat.add_comm _ _)
  have hn : nbytes (if be then mkCat B A else mkCat A B) = nbytes A + nbytes B := by
    unfold nbytes at *; omega
  refine ⟨hn, by rw [hn, hs]; omega, fun j hj => ?_⟩
  rw [← byteAt_join _ _ _ _ _ be hAl hBl hj]
  cases be
  · exact congrArg (byteAt · _ _ _) ((ideal_mkCat sem σ A B).trans (by rw [hA]; rfl))
  · exact congrArg (byteAt · _ _ _) ((ideal_mkCat sem σ B A).trans (by rw [hB]; rfl))

omit sem σ in
theorem size_catList_cons (e : E) (rest : List E) : (catList (e :: rest)).size = e.size + (catList rest).size := by
  cases rest with
  | nil => rfl
  | cons e' r => exact size_mkCat _ _

theorem ideal_catList_cons (e : E) (rest : List E) :
    ideal sem σ (catList (e :: rest)) = ideal sem σ e + ideal sem σ (catList rest) * 2 ^ e.size := by
  cases rest with
  | nil => rw [show ideal sem σ (catList []) = 0 from rfl, Nat.zero_mul]; rfl
  | cons e' r => exact ideal_mkCat sem σ _ _

theorem catList_append : ∀ (l1 l2 : List E),
    ideal sem σ (catList (l1 ++ l2)) = ideal sem σ (catList l1) + ideal sem σ (catList l2) * 2 ^ (catList l1).size ∧
    (catList (l1 ++ l2)).size = (catList l1).size + (catList l2).size
  | [], l2 => ⟨by rw [show (catList []).size = 0 from rfl, Nat.pow_zero, Nat.mul_one]; exact (Nat.zero_add _).symm,
      (Nat.zero_add _).symm⟩
  | e :: l1, l2 => by
    obtain ⟨ih1, ih2⟩ := catList_append l1 l2
    rw [List.cons_append, ideal_catList_cons, size_catList_cons, ideal_catList_cons, size_catList_cons, ih1, ih2, Nat.pow_add, Nat.add_mul, ← Nat.mul_assoc, Nat.mul_right_comm _ (2 ^ _) (2 ^ e.size)]
    exact ⟨by omega, by omega⟩

/-- a part that is left out when it is empty counts as if it were there -/
theorem catList_opt (c : Prop) [Decidable c] (x : E) (h : ¬ c → x.size = 0) :
    ideal sem σ (catList (if c then [x] else [])) = ideal sem σ x ∧
    (catList (if c then [x] else [])).size = x.size := by
  by_cases hc : c
  · rw [if_pos hc]; exact ⟨rfl, rfl⟩
  · have hl := ideal_lt sem σ x
    rw [if_neg hc, h hc] at *
    exact ⟨(Nat.lt_one_iff.mp hl).symm, rfl⟩

theorem merge_slices (X p s t : Nat) :
    (X >>> p) % 2 ^ s + ((X >>> (p + s)) % 2 ^ t) * 2 ^ s = (X >>> p) % 2 ^ (s + t) := by
  rw [Nat.shiftRight_add, Nat.shiftRight_eq_div_pow (X >>> p) s, Nat.pow_add, Nat.mod_mul, Nat.mul_comm]

theorem mkCatJ_spec (lo hi : E) :
    ideal sem σ (mkCatJ lo hi) = ideal sem σ lo + ideal sem σ hi * 2 ^ lo.size ∧
    (mkCatJ lo hi).size = lo.size + hi.size := by
  unfold mkCatJ
  split
  · rename_i x p s y q t
    split
    · rename_i h
      obtain ⟨rfl, rfl⟩ := h
      refine ⟨?_, by simp only [size_mkWhole, E.size]⟩
      rw [ideal_mkWhole]
      simp only [ideal, E.size]
      exact (merge_slices _ _ _ _).symm
    · exact ⟨ideal_mkCat sem σ _ _, size_mkCat _ _⟩
  · rename_i x p s y q t rest
    split
    · rename_i h
      obtain ⟨rfl, rfl⟩ := h
      refine ⟨?_, by simp only [E.size, size_mkWhole]; omega⟩
      rw [ideal_cat, ideal_cat, ideal_mkWhole, size_mkWhole]
      simp only [ideal, E.size]
      rw [← merge_slices, Nat.pow_add, Nat.add_mul, ← Nat.mul_assoc, Nat.add_assoc,
        Nat.mul_right_comm (ideal sem σ rest) (2 ^ s) (2 ^ t)]
    · exact ⟨ideal_mkCat sem σ _ _, size_mkCat _ _⟩
  · exact ⟨ideal_mkCat sem σ _ _, size_mkCat _ _⟩

theorem catListJ_spec : ∀ (es : List E),
    ideal sem σ (catListJ es) = ideal sem σ (catList es) ∧ (catListJ es).size = (catList es).size
  | [] => ⟨rfl, rfl⟩
  | [e] => ⟨rfl, rfl⟩
  | e :: e' :: rest => by
    obtain ⟨ih1, ih2⟩ := catListJ_spec (e' :: rest)
    obtain ⟨h1, h2⟩ := mkCatJ_spec sem σ e (catListJ (e' :: rest))
    have hc : catList (e :: e' :: rest) = mkCat e (catList (e' :: rest)) := rfl
    have hj : catListJ (e :: e' :: rest) = mkCatJ e (catListJ (e' :: rest)) := rfl
    rw [hc, hj, h1, h2, ideal_mkCat, size_mkCat, ih1, ih2]
    exact ⟨rfl, rfl⟩

omit sem σ in
theorem size_catListJ (es : List E) : (catListJ es).size = (catList es).size :=
  (catListJ_spec (fun _ _ _ _ => 0) ⟨fun _ _ => 0, fun _ => 0⟩ es).2

theorem ideal_catList_bytes : ∀ (es : List E), (∀ e ∈ es, e.size = 8) →
    ideal sem σ (catList es) = leVal (es.map (ideal sem σ))
  | [], _ => rfl
  | e :: rest, h => by
    have hl := ideal_lt sem σ e
    rw [h e List.mem_cons_self] at hl
    rw [ideal_catList_cons, ideal_catList_bytes rest (fun x hx => h x (List.mem_cons_of_mem _ hx)),
      h e List.mem_cons_self, List.map_cons, leVal, Nat.mod_eq_of_lt hl, Nat.mul_comm]

omit sem σ in
theorem size_catList_bytes : ∀ (es : List E), (∀ e ∈ es, e.size = 8) → (catList es).size = 8 * es.length
  | [], _ => rfl
  | e :: rest, h => by
    rw [size_catList_cons, size_catList_bytes rest (fun x hx => h x (List.mem_cons_of_mem _ hx)),
      h e List.mem_cons_self, List.length_cons, Nat.mul_add, Nat.add_comm]

theorem size_mkAddc (x : E) (c : Int) : (mkAddc x c).size = x.size := by
  unfold mkAddc
  split
  · rfl
  · split
    · rfl
    · split <;> rfl
    · rfl

theorem ideal_mkAddc (x : E) (c : Int) : ideal sem σ (mkAddc x c) = wrap x.size ((ideal sem σ x : Int) + c) := by
  unfold mkAddc
  split
  · rename_i h
    subst h
    have := wrap_nat x.size (ideal sem σ x) (ideal_lt sem σ x)
    simpa using this.symm
  · split
    · rename_i v s
      simp only [ideal, E.size]
      rw [Nat.mod_eq_of_lt (wrap_lt _ _), ← wrap_natCast, wrap_wrap_add]
    · rename_i y c'
      split
      · rename_i h0
        simp only [ideal, E.size]
        rw [wrap_wrap_add, Int.add_assoc, h0, Int.add_zero]
        exact (wrap_nat _ _ (ideal_lt sem σ y)).symm
      · simp only [ideal, E.size]
        rw [wrap_wrap_add, Int.add_assoc]
    · simp only [ideal]

theorem size_mkPtr (b : E) (d : Int) : (mkPtr b d).1.size = b.size := by
  unfold mkPtr
  split <;> rfl

/-- `ptr` normalisation does not change the address -/
theorem addrOf_mkPtr (b : E) (d : Int) :
    addrOf (mkPtr b d).1.size (ideal sem σ (mkPtr b d).1) (mkPtr b d).2 = addrOf b.size (ideal sem σ b) d := by
  unfold mkPtr
  split
  · rename_i x c
    simp only [ideal, E.size, addrOf]
    rw [wrap_wrap_add]
    congr 2; omega
  · rfl

theorem shiftRight_lt {x rs k : Nat} (hx : x < 2 ^ rs) (h : k ≤ rs) : x >>> k < 2 ^ (rs - k) := by
  rw [Nat.shiftRight_eq_div_pow]
  apply Nat.div_lt_of_lt_mul
  rwa [← Nat.pow_add, Nat.add_sub_cancel' h]

theorem spliceVal_lt (old rs pos size v : Nat) (h : pos + size ≤ rs) : spliceVal old rs pos size v < 2 ^ rs := by
  unfold spliceVal
  have := add_mul_lt (add_mul_lt (Nat.mod_lt old (Nat.two_pow_pos pos)) (Nat.mod_lt v (Nat.two_pow_pos size)))
    (shiftRight_lt (Nat.mod_lt old (Nat.two_pow_pos rs)) h)
  rwa [← Nat.pow_add, ← Nat.pow_add, Nat.add_comm size pos, Nat.sub_add_cancel h] at this

theorem spliceVal_full (old sz v : Nat) : spliceVal old sz 0 sz v = v % 2 ^ sz := by
  unfold spliceVal
  rw [Nat.zero_add, Nat.shiftRight_eq_div_pow, Nat.div_eq_of_lt (Nat.mod_lt _ (Nat.two_pow_pos _)), Nat.pow_zero,
    Nat.mod_one, Nat.zero_mul, Nat.mul_one, Nat.zero_add, Nat.add_zero]

theorem splice_spec (old : E) (rs pos size : Nat) (v : E) (ho : old.size = rs) (hv : v.size = size)
    (h : pos + size ≤ rs) :
    ideal sem σ (splice old rs pos size v) = spliceVal (ideal sem σ old) rs pos size (ideal sem σ v) ∧
    (splice old rs pos size v).size = rs := by
  have hvl := ideal_mod sem σ v
  have hol := ideal_lt sem σ old
  rw [hv] at hvl
  rw [ho] at hol
  unfold splice
  by_cases h0 : pos = 0 ∧ size = rs
  · rw [if_pos h0]
    obtain ⟨rfl, rfl⟩ := h0
    exact ⟨by rw [spliceVal_full, hvl], hv⟩
  · rw [if_neg h0]
    -- the parts below and above the slice, present or not
    obtain ⟨l1, l2⟩ := catList_opt sem σ (0 < pos) (mkSlice old 0 pos) (by rw [size_mkSlice]; omega)
    obtain ⟨h1, h2⟩ := catList_opt sem σ (pos + size < rs) (mkSlice old (pos + size) (rs - (pos + size)))
      (by rw [size_mkSlice]; omega)
    have hhi := Nat.mod_eq_of_lt (shiftRight_lt hol h)
    dsimp only
    rw [List.append_assoc, (catList_append sem σ _ _).1, (catList_append sem σ _ _).2,
      (catList_append sem σ [v] _).1, (catList_append sem σ [v] _).2, l1, l2, h1, h2, ideal_mkSlice, ideal_mkSlice,
      size_mkSlice, size_mkSlice, hhi, show catList [v] = v from rfl, hv, Nat.shiftRight_zero]
    refine ⟨?_, by omega⟩
    unfold spliceVal
    rw [Nat.mod_eq_of_lt hol, hvl, Nat.add_mul, Nat.mul_assoc, ← Nat.pow_add, Nat.add_comm size pos, Nat.add_assoc]

theorem foldE_spec : ∀ e : E, ideal sem σ (foldE e) = ideal sem σ e ∧ (foldE e).size = e.size
  | .cst _ _ => ⟨rfl, rfl⟩
  | .reg _ _ => ⟨rfl, rfl⟩
  | .slc x p s => by
    obtain ⟨h1, _⟩ := foldE_spec x
    simp only [foldE, ideal_mkSlice, size_mkSlice, ideal, E.size, h1, and_self]
  | .cat lo hi => by
    obtain ⟨l1, l2⟩ := foldE_spec lo
    obtain ⟨r1, r2⟩ := foldE_spec hi
    simp only [foldE, ideal_mkCat, size_mkCat, ideal_cat, E.size, l1, l2, r1, r2, and_self]
  | .addc x c => by
    obtain ⟨h1, h2⟩ := foldE_spec x
    simp only [foldE, ideal_mkAddc, size_mkAddc, ideal, E.size, h1, h2, and_self]
  | .op o l r s => by
    obtain ⟨l1, _⟩ := foldE_spec l
    obtain ⟨r1, _⟩ := foldE_spec r
    simp only [foldE, ideal, E.size, l1, r1, and_self]
  | .load b d s be ms => by
    obtain ⟨h1, h2⟩ := foldE_spec b
    simp only [foldE, ideal, E.size, h1, h2, and_self]

theorem size_toE (be : Bool) (x : X) : (x.toE be).size = x.size := by
  induction x with
  | cst | reg | slc | op | load => rfl
  | cat lo hi ih1 ih2 => simp only [X.toE, E.size, X.size, ih1, ih2]
  | addc x c ih => simp only [X.toE, E.size, X.size, ih]

theorem ideal_toE (be : Bool) (x : X) : ideal sem σ (x.toE be) = x.val sem be σ := by
  induction x with
  | cst | reg => rfl
  | slc x p s ih => simp only [X.toE, ideal, X.val, ih]
  | cat lo hi ih1 ih2 => simp only [X.toE, ideal, X.val, ih1, ih2, size_toE]
  | addc x c ih => simp only [X.toE, ideal, X.val, ih, size_toE]
  | op o l r s ih1 ih2 => simp only [X.toE, ideal, X.val, ih1, ih2]
  | load b d s ih => simp only [X.toE, ideal, X.val, ih, size_toE, replayMods]

mutual
theorem ideal_congr (sem : OpSem) (σ1 σ2 : St) (hr : ∀ n s, σ1.reg n s % 2 ^ s = σ2.reg n s % 2 ^ s)
    (hm : ∀ x, σ1.mem x = σ2.mem x) : ∀ e : E, ideal sem σ1 e = ideal sem σ2 e
  | .cst _ _ => rfl
  | .reg n s => hr n s
  | .slc x p s => by simp only [ideal, ideal_congr sem σ1 σ2 hr hm x]
  | .cat lo hi => by simp only [ideal, ideal_congr sem σ1 σ2 hr hm lo, ideal_congr sem σ1 σ2 hr hm hi]
  | .addc x k => by simp only [ideal, ideal_congr sem σ1 σ2 hr hm x]
  | .op o l r s => by simp only [ideal, ideal_congr sem σ1 σ2 hr hm l, ideal_congr sem σ1 σ2 hr hm r]
  | .load b d s be ms => by
    simp only [ideal, ideal_congr sem σ1 σ2 hr hm b]
    apply readN_congr
    intro k _
    rw [replayMods_congr sem σ1 σ2 hr hm ms σ1.mem σ2.mem hm]
theorem replayMods_congr (sem : OpSem) (σ1 σ2 : St) (hr : ∀ n s, σ1.reg n s % 2 ^ s = σ2.reg n s % 2 ^ s)
    (hm : ∀ x, σ1.mem x = σ2.mem x) : ∀ (ms : Mods) (μ1 μ2 : Int → Nat), (∀ x, μ1 x = μ2 x) →
      ∀ x, replayMods sem σ1 μ1 ms x = replayMods sem σ2 μ2 ms x
  | .nil, μ1, μ2, h, x => h x
  | .cons b d v be rest, μ1, μ2, h, x => by
    simp only [replayMods]
    apply replayMods_congr sem σ1 σ2 hr hm rest
    intro y
    rw [ideal_congr sem σ1 σ2 hr hm b, ideal_congr sem σ1 σ2 hr hm v]
    unfold writeN
    split
    · rfl
    · exact h y
end

end Amoco.Mapper
