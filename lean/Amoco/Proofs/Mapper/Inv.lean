/-
  The invariant tying a symbolic map to the concrete state it stands for, and the soundness of `M` (a load
  through the map reads the bytes of that state).
-/
import Amoco.Proofs.Mapper.Trace

set_option linter.unusedSimpArgs false
set_option linter.unusedVariables false

namespace Amoco.Mapper

/-- what is fixed during a symbolic run: operator meaning, initial state, settings, byte order and the
    list of all accesses of the program, with the hypotheses made on them -/
structure Ctx where
  sem : OpSem
  σ : St
  cfg : Cfg
  be0 : Bool
  acc : List Access

/-- hypotheses on the context: memory writes are recorded, memory holds bytes, no access wraps around the
    address space and — under the no-aliasing assumption — accesses through different zones do not overlap -/
structure Ctx.OK (c : Ctx) : Prop where
  recs : c.cfg.records = true
  bytes : Bytes c.σ.mem
  nowrap : ∀ a ∈ c.acc, a.noWrap c.sem c.σ
  apart : c.cfg.noaliasing = true → ∀ a ∈ c.acc, ∀ b ∈ c.acc, Access.apart c.sem c.σ a b

/-- structural invariant of a map.  `zone`: a byte of a zone is that of the last pointer item that covers
    it, else what the background `bg` holds.  In a run `bg = noBg` (`Inv.s`): the zones hold only what the
    items wrote.  `SInv.rebuild` (`use()`) replays the items into a map with no items over a copy of the
    zones, and takes that copy's content for `bg` meanwhile. -/
structure SInv (c : Ctx) (bg : ZK → Int → Option Nat) (m : MapSt) : Prop where
  zwf : ZonesWF m.zones
  atoms : AtomsOK m
  lastw : ∀ i (hi : i < m.entries.length), (m.entries[i]).loc.isPtr = true → i < m.lastw
  nodup : (m.entries.map Entry.loc).Nodup
  regsz : ∀ e ∈ m.entries, ∀ n s, e.loc = .reg n s → e.val.size = s ∧ e.be = false
  pent : ∀ e ∈ m.entries, ∀ b d, e.loc = .ptr b d →
    e.be = c.be0 ∧ 0 < nbytes e.val ∧ 8 * nbytes e.val = e.val.size ∧ (⟨b, d, nbytes e.val⟩ : Access) ∈ c.acc
  zone : ∀ zk x, zbyte c.sem c.σ m zk x = (lastZ c.sem c.σ m.entries zk x).or (bg zk x)

def noBg : ZK → Int → Option Nat := fun _ _ => none

/-- the map stands for the concrete state (`ρt`, `μt`) reached from `σ` -/
structure Inv (c : Ctx) (μt : Int → Nat) (ρt : String → Nat → Nat) (m : MapSt) : Prop where
  s : SInv c noBg m
  regs : ∀ n s, ideal c.sem c.σ (m.R n s) = ρt n s % 2 ^ s
  mem : ∀ x, replayEntries c.sem c.σ c.σ.mem m.entries x = μt x

variable {c : Ctx}

theorem lookup_some {m : MapSt} {l : Loc} {e : Entry} (h : m.lookup l = some e) : e ∈ m.entries ∧ e.loc = l :=
  have h' : m.entries.find? (fun e => e.loc = l) = some e := h
  ⟨List.mem_of_find?_eq_some h', of_decide_eq_true (List.find?_some (p := fun e : Entry => decide (e.loc = l)) h')⟩

theorem SInv.R_size {bg} {m : MapSt} (h : SInv c bg m) (n : String) (s : Nat) : (m.R n s).size = s := by
  unfold MapSt.R
  cases hf : m.lookup (.reg n s) with
  | none => rfl
  | some e => exact (h.regsz e (lookup_some hf).1 n s (lookup_some hf).2).1

theorem SInv.entry_nowrap {bg} {m : MapSt} (h : SInv c bg m) (ok : c.OK) (e : Entry) (he : e ∈ m.entries)
    (b : E) (d : Int) (hl : e.loc = .ptr b d) : (⟨b, d, nbytes e.val⟩ : Access).noWrap c.sem c.σ :=
  ok.nowrap _ (h.pent e he b d hl).2.2.2

theorem Inv.mem_bytes {μt ρt} {m : MapSt} (h : Inv c μt ρt m) (ok : c.OK) : Bytes μt := by
  intro x
  rw [← h.mem x, replayEntries_eq]
  cases hl : lastAddr c.sem c.σ m.entries x with
  | none => exact ok.bytes x
  | some v => exact lastAddr_lt c.sem c.σ _ _ _ hl

/-- inside a read that `M` answers from the zone, the last item covering an address is the last item covering
    the zone offset: items of other zones are apart (no-aliasing assumption), or all are through the same base,
    or an item of this very location covers the read and only items through the same base follow it -/
theorem Inv.lastAddr_zone {μt ρt} {m : MapSt} (h : Inv c μt ρt m) (ok : c.OK) (b : E) (d : Int) (size : Nat)
    (hw : (⟨b, d, size / 8⟩ : Access).noWrap c.sem c.σ)
    (hap : c.cfg.noaliasing = true → ∀ e ∈ m.entries, ∀ b' d', e.loc = .ptr b' d' →
      Access.apart c.sem c.σ ⟨b', d', nbytes e.val⟩ ⟨b, d, size / 8⟩)
    (h0 : aliasing c.cfg m b d size = 0) (x : Int)
    (hx : (zref b d).2 ≤ x ∧ x < (zref b d).2 + ((size / 8 : Nat) : Int)) :
    lastAddr c.sem c.σ m.entries (zbase c.sem c.σ (zref b d).1 + x) = lastZ c.sem c.σ m.entries (zref b d).1 x := by
  have hwE : ∀ e ∈ m.entries, ∀ b' d', e.loc = .ptr b' d' →
      locAddr c.sem c.σ b' d' = zbase c.sem c.σ (zref b' d').1 + (zref b' d').2 :=
    fun e he b' d' hl' => (h.s.entry_nowrap ok e he b' d' hl').1
  by_cases hna : c.cfg.noaliasing = true
  · refine lastAddr_eq_lastZ c.sem c.σ _ _ _ hwE fun e he b' d' hl' hcov => ?_
    rcases hap hna e he b' d' hl' with hsame | hdis
    · exact hsame
    · exfalso
      rw [Entry.atAddr_ptr c.sem c.σ hl'] at hcov
      have hA : addrOf b.size (ideal c.sem c.σ b) d = zbase c.sem c.σ (zref b d).1 + (zref b d).2 := hw.1
      simp only [hA] at hdis
      split at hcov
      · rename_i hc; unfold locAddr at hc; omega
      · cases hcov
  · rcases aliasing_zero c.cfg m b d size (Bool.eq_false_iff.mpr hna) h0 h.s.lastw with
      hall | ⟨pre, ei, post, hsplit, hli, hsize, hpost⟩
    · refine lastAddr_eq_lastZ c.sem c.σ _ _ _ hwE fun e he b' d' hl' _ => ?_
      rw [hall e he b' d' hl']
      exact zref_key b d d'
    · have hsuf : ∀ e ∈ ei :: post, e ∈ m.entries := fun e he => hsplit ▸ List.mem_append_right _ he
      have hnb : size / 8 ≤ nbytes ei.val := by
        have := (h.s.pent ei (hsuf ei List.mem_cons_self) b d hli).2.2.1
        unfold nbytes at this ⊢
        omega
      have hcovZ : (ei.atZone c.sem c.σ (zref b d).1 x).isSome := by
        rw [Entry.atZone_ptr c.sem c.σ hli, if_pos ⟨rfl, hx.1, by omega⟩]; rfl
      rw [lastZ_eq, hsplit]
      refine lastOf_congr_suffix pre (ei :: post) (fun e he => ?_) (lastOf_isSome hcovZ List.mem_cons_self)
      refine atAddr_eq_atZone c.sem c.σ e _ _ (hwE e (hsuf e he)) fun b' d' hl' _ => ?_
      rcases List.mem_cons.mp he with rfl | he
      · rw [hli] at hl'
        cases hl'; rfl
      · rw [hpost e he b' d' hl']
        exact zref_key b d d'

/-- the zone-read answer of `M` -/
theorem Inv.M_sound_zone {μt ρt} {m : MapSt} (h : Inv c μt ρt m) (ok : c.OK) (b : E) (d : Int) (size : Nat)
    (h8 : 8 * (size / 8) = size) (hw : (⟨b, d, size / 8⟩ : Access).noWrap c.sem c.σ)
    (hap : c.cfg.noaliasing = true → ∀ e ∈ m.entries, ∀ b' d', e.loc = .ptr b' d' →
      Access.apart c.sem c.σ ⟨b', d', nbytes e.val⟩ ⟨b, d, size / 8⟩)
    (h0 : aliasing c.cfg m b d size = 0) :
    ideal c.sem c.σ (memRead m b d (size / 8) c.be0) = readN μt (locAddr c.sem c.σ b d) (size / 8) c.be0 ∧
    (memRead m b d (size / 8) c.be0).size = size := by
  obtain ⟨hsz, hid⟩ := memRead_spec c.sem c.σ m b d (size / 8) c.be0 h.s.zwf
  refine ⟨hid μt (locAddr c.sem c.σ b d) fun k hk => ?_, by rw [hsz, h8]⟩
  have e3 : locAddr c.sem c.σ b d + (k : Int) = zbase c.sem c.σ (zref b d).1 + ((zref b d).2 + (k : Int)) := by
    have hA : locAddr c.sem c.σ b d = zbase c.sem c.σ (zref b d).1 + (zref b d).2 := hw.1
    omega
  rw [← h.mem, replayEntries_eq, h.s.zone, ← h.lastAddr_zone ok b d size hw hap h0 _ ⟨by omega, by omega⟩, e3]
  cases hq : lastAddr c.sem c.σ m.entries (zbase c.sem c.σ (zref b d).1 + ((zref b d).2 + (k : Int))) with
  | some v => exact (Nat.mod_eq_of_lt (lastAddr_lt c.sem c.σ _ _ _ hq)).symm
  | none =>
    show c.σ.mem (locAddr c.sem c.σ b (d + (k : Int))) % 256 = _
    rw [(sub_access c.sem c.σ b d (size / 8) k hw hk).1, e3]; rfl

/-- **`M` is sound**: a load of `size` bits at `ptr(b, d)` through the map evaluates to the bytes of the
    current concrete memory, whichever way `M` answers (mods or zone read). -/
theorem Inv.M_sound {μt ρt} {m : MapSt} (h : Inv c μt ρt m) (ok : c.OK) (b : E) (d : Int) (size : Nat)
    (h8 : 8 * (size / 8) = size)
    (hw : (⟨b, d, size / 8⟩ : Access).noWrap c.sem c.σ)
    (hap : c.cfg.noaliasing = true → ∀ e ∈ m.entries, ∀ b' d', e.loc = .ptr b' d' →
      Access.apart c.sem c.σ ⟨b', d', nbytes e.val⟩ ⟨b, d, size / 8⟩) :
    ideal c.sem c.σ (m.M c.cfg b d size c.be0) = readN μt (locAddr c.sem c.σ b d) (size / 8) c.be0 ∧
    (m.M c.cfg b d size c.be0).size = size := by
  unfold MapSt.M
  simp only
  by_cases hpos : aliasing c.cfg m b d size > 0
  · -- answered with mods: all pointer items, in order
    have hn : aliasing c.cfg m b d size = m.lastw := by
      rcases aliasing_cases c.cfg m b d size with h0 | hn
      · omega
      · exact hn
    rw [if_pos hpos, hn]
    refine ⟨?_, rfl⟩
    simp only [ideal]
    rw [replayMods_modsOf, replayEntries_take _ _ _ _ _ h.s.lastw]
    have : replayEntries c.sem c.σ c.σ.mem m.entries = μt := funext h.mem
    rw [this]; rfl
  · rw [if_neg hpos]
    exact h.M_sound_zone ok b d size h8 hw hap (by omega)

theorem Inv.M_sound_mkPtr {μt ρt} {m : MapSt} (h : Inv c μt ρt m) (ok : c.OK) (b : E) (d : Int) (s : Nat)
    (h8 : 8 * (s / 8) = s) (hin : (⟨(mkPtr b d).1, (mkPtr b d).2, s / 8⟩ : Access) ∈ c.acc) :
    ideal c.sem c.σ (m.M c.cfg (mkPtr b d).1 (mkPtr b d).2 s c.be0) =
      readN μt (addrOf b.size (ideal c.sem c.σ b) d) (s / 8) c.be0 ∧
    (m.M c.cfg (mkPtr b d).1 (mkPtr b d).2 s c.be0).size = s := by
  have := h.M_sound ok _ _ s h8 (ok.nowrap _ hin) fun hna e he b' d' hl =>
    ok.apart hna _ (h.s.pent e he b' d' hl).2.2.2 _ hin
  unfold locAddr at this
  rwa [addrOf_mkPtr] at this

theorem Inv.M_sound_sub {μt ρt} {m : MapSt} (h : Inv c μt ρt m) (ok : c.OK) (b : E) (d : Int) (n j n' : Nat)
    (hacc : (⟨b, d, n⟩ : Access) ∈ c.acc) (hj : j + n' ≤ n) (hn' : 0 < n') :
    ideal c.sem c.σ (m.M c.cfg b (d + (j : Int)) (8 * n') c.be0) =
      readN μt (locAddr c.sem c.σ b d + (j : Int)) n' c.be0 ∧
    (m.M c.cfg b (d + (j : Int)) (8 * n') c.be0).size = 8 * n' := by
  have hw := ok.nowrap _ hacc
  have e : 8 * n' / 8 = n' := Nat.mul_div_cancel_left n' (by decide)
  have := h.M_sound ok b (d + (j : Int)) (8 * n') (by rw [e])
    (by rw [e]; exact sub_noWrap c.sem c.σ b d n j n' hw hj hn')
    (by
      rw [e]
      intro hna e' he' b' d' hl'
      exact apart_symm _ _ _ _ (sub_apart c.sem c.σ b d n j n' _ hw hj hn'
        (ok.apart hna _ hacc _ (h.s.pent e' he' b' d' hl').2.2.2)))
  rwa [e, (sub_access c.sem c.σ b d n j hw (by omega)).1] at this

end Amoco.Mapper
