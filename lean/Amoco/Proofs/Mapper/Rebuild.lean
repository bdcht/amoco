/-
  `use()` (`eval(mapper())`): writing every item again, in order, on a copy of the memory yields a map with the
  same items and the same bytes; the invariant carries over.
-/
import Amoco.Proofs.Mapper.Store

set_option linter.unusedSimpArgs false
set_option linter.unusedVariables false

namespace Amoco.Mapper

variable {c : Ctx}

/-- one step of the rebuild loop -/
def rebuildStep (cfg : Cfg) (acc : MapSt) (e : Entry) : MapSt :=
  match e.loc with
  | .ptr b d => acc.setPtr cfg b d e.val e.be
  | .reg n s => acc.setReg n s 0 s e.val

theorem rebuild_eq (cfg : Cfg) (m : MapSt) :
    m.rebuild cfg = m.entries.foldl (rebuildStep cfg)
      { entries := [], lastw := 0, zones := copyZones m.zones, tbl := m.tbl } := rfl

theorem rebuildStep_spec {bg} {acc : MapSt} (h : SInv c bg acc) (ok : c.OK) (e : Entry)
    (hfresh : ∀ e' ∈ acc.entries, e'.loc ≠ e.loc)
    (hreg : ∀ n s, e.loc = .reg n s → e.val.size = s ∧ e.be = false)
    (hptr : ∀ b d, e.loc = .ptr b d →
      e.be = c.be0 ∧ 0 < nbytes e.val ∧ 8 * nbytes e.val = e.val.size ∧ (⟨b, d, nbytes e.val⟩ : Access) ∈ c.acc) :
    SInv c bg (rebuildStep c.cfg acc e) ∧ (rebuildStep c.cfg acc e).entries = acc.entries ++ [e] := by
  unfold rebuildStep
  cases hl : e.loc with
  | ptr b d =>
    obtain ⟨hbe, h0, h8, hacc⟩ := hptr b d hl
    have hf : ∀ e' ∈ acc.entries, e'.loc ≠ .ptr b d := fun e' he' => by rw [← hl]; exact hfresh e' he'
    have hval : setPtrVal c.cfg acc b d e.val e.be = e.val := by
      unfold setPtrVal
      cases hlk : acc.lookup (.ptr b d) with
      | none => rfl
      | some old => exact absurd (lookup_some hlk).2 (hf old (lookup_some hlk).1)
    dsimp only
    rw [setPtr_eq _ _ _ _ _ _ ok.recs, hval, hbe]
    refine ⟨h.putPtr b d e.val h0 h8 hacc fun e' he' hl' => absurd hl' (hf e' he'), ?_⟩
    rw [putPtr_entries, List.filter_eq_self.mpr fun e' he' => by simpa using hf e' he', ← hbe, ← hl]
  | reg n s =>
    obtain ⟨hsz, hbe⟩ := hreg n s hl
    refine ⟨h.setReg n s 0 s e.val hsz (Nat.le_of_eq (Nat.zero_add s)), ?_⟩
    show setEntry acc.entries (.reg n s) (splice (acc.R n s) s 0 s e.val) = _
    unfold setEntry splice
    rw [if_neg fun ha => ?_, if_pos ⟨rfl, rfl⟩, ← hl, ← hbe]
    obtain ⟨e', he', hl'⟩ := List.any_eq_true.mp ha
    exact hfresh e' he' ((of_decide_eq_true hl').trans hl.symm)

theorem rebuild_fold {bg} (ok : c.OK) : ∀ (es : List Entry) (acc : MapSt), SInv c bg acc →
    ((acc.entries ++ es).map Entry.loc).Nodup →
    (∀ e ∈ es, ∀ n s, e.loc = .reg n s → e.val.size = s ∧ e.be = false) →
    (∀ e ∈ es, ∀ b d, e.loc = .ptr b d →
      e.be = c.be0 ∧ 0 < nbytes e.val ∧ 8 * nbytes e.val = e.val.size ∧ (⟨b, d, nbytes e.val⟩ : Access) ∈ c.acc) →
    SInv c bg (es.foldl (rebuildStep c.cfg) acc) ∧ (es.foldl (rebuildStep c.cfg) acc).entries = acc.entries ++ es
  | [], acc, h, _, _, _ => ⟨h, (List.append_nil _).symm⟩
  | e :: rest, acc, h, hnd, hreg, hptr => by
    have hfresh : ∀ e' ∈ acc.entries, e'.loc ≠ e.loc := by
      intro e' he' heq
      rw [List.map_append, List.nodup_append] at hnd
      exact hnd.2.2 _ (List.mem_map_of_mem he') _ (List.mem_map_of_mem List.mem_cons_self) heq
    obtain ⟨h1, h2⟩ := rebuildStep_spec h ok e hfresh (hreg e List.mem_cons_self) (hptr e List.mem_cons_self)
    have hnd' : (((rebuildStep c.cfg acc e).entries ++ rest).map Entry.loc).Nodup := by
      rw [h2, List.append_assoc]; exact hnd
    obtain ⟨h3, h4⟩ := rebuild_fold ok rest (rebuildStep c.cfg acc e) h1 hnd'
      (fun e' he' => hreg e' (List.mem_cons_of_mem _ he')) (fun e' he' => hptr e' (List.mem_cons_of_mem _ he'))
    refine ⟨h3, ?_⟩
    rw [List.foldl_cons, h4, h2, List.append_assoc]; rfl

theorem SInv.rebuild {m : MapSt} (h : SInv c noBg m) (ok : c.OK) :
    SInv c noBg (m.rebuild c.cfg) ∧ (m.rebuild c.cfg).entries = m.entries := by
  -- the copied memory as background
  have h0 : SInv c (fun zk x => zbyte c.sem c.σ m zk x)
      { entries := [], lastw := 0, zones := copyZones m.zones, tbl := m.tbl } := by
    refine ⟨h.zwf.copy, ?_, ?_, List.nodup_nil, ?_, ?_, ?_⟩
    · intro zk x w k hx
      simp only at hx
      rw [(zoneOf_copy_abs m.zones h.zwf zk).2] at hx
      exact h.atoms zk x w k hx
    · intro i hi; simp at hi
    · intro e he; simp at he
    · intro e he; simp at he
    · intro zk x
      simp only [lastZ, Option.none_or]
      unfold zbyte
      simp only
      rw [(zoneOf_copy_abs m.zones h.zwf zk).2]
  obtain ⟨h1, h2⟩ := rebuild_fold ok m.entries _ h0 (by simpa using h.nodup) h.regsz h.pent
  rw [← rebuild_eq] at h1 h2
  simp only [List.nil_append] at h2
  refine ⟨⟨h1.zwf, h1.atoms, h1.lastw, h1.nodup, h1.regsz, h1.pent, ?_⟩, h2⟩
  intro zk x
  rw [h1.zone, h2, h.zone]
  simp only [noBg, Option.or_none]
  cases lastZ c.sem c.σ m.entries zk x <;> rfl

theorem Inv.rebuild {μt ρt} {m : MapSt} (h : Inv c μt ρt m) (ok : c.OK) : Inv c μt ρt (m.rebuild c.cfg) := by
  obtain ⟨h1, h2⟩ := h.s.rebuild ok
  refine ⟨h1, ?_, ?_⟩
  · intro n s
    rw [R_eq, h2, ← R_eq]; exact h.regs n s
  · intro x; rw [h2]; exact h.mem x

end Amoco.Mapper
