/-
  `__setitem__` preserves the invariant: register branch (`setReg`) and pointer branch (`setPtr`:
  partial-overwrite composition with read-back, delete-then-reinsert, `lastw`).
-/
import Amoco.Proofs.Mapper.Inv

set_option linter.unusedSimpArgs false
set_option linter.unusedVariables false

namespace Amoco.Mapper

variable {c : Ctx}


theorem lookup_filter_ne (es : List Entry) (l l' : Loc) (h : l' ≠ l) :
    (es.filter (fun e => e.loc != l)).find? (fun e => e.loc = l') = es.find? (fun e => e.loc = l') := by
  rw [List.find?_filter]
  refine congrArg (List.find? · es) (funext fun e => ?_)
  by_cases h1 : e.loc = l'
  · simp [h1, h]
  · simp [h1]

theorem find_append_ne (es : List Entry) (e : Entry) (l' : Loc) (h : e.loc ≠ l') :
    (es ++ [e]).find? (fun x => x.loc = l') = es.find? (fun x => x.loc = l') := by
  rw [List.find?_append, List.find?_cons_of_neg (by simpa using h), List.find?_nil, Option.or_none]

theorem find_setEntry (es : List Entry) (l : Loc) (v : E) (l' : Loc) :
    ((setEntry es l v).find? (fun x => x.loc = l')).map Entry.val =
      if l' = l then some v else (es.find? (fun x => x.loc = l')).map Entry.val := by
  unfold setEntry
  rw [find_upsert Entry.loc l (fun e => { e with val := v }) ⟨l, v, false⟩ (fun _ h => h) rfl]
  by_cases hl : l' = l
  · rw [if_pos hl, if_pos hl]
    cases es.find? (fun a => decide (a.loc = l)) <;> rfl
  · rw [if_neg hl, if_neg hl]

theorem R_eq (m : MapSt) (n : String) (s : Nat) :
    m.R n s = ((m.entries.find? (fun e => e.loc = .reg n s)).map Entry.val).getD (.reg n s) := by
  unfold MapSt.R MapSt.lookup
  cases m.entries.find? (fun e => decide (e.loc = .reg n s)) <;> rfl

theorem R_setReg (m : MapSt) (n : String) (rs pos size : Nat) (v : E) (n' : String) (s' : Nat) :
    (m.setReg n rs pos size v).R n' s' =
      if n' = n ∧ s' = rs then splice (m.R n rs) rs pos size v else m.R n' s' := by
  rw [R_eq]
  simp only [MapSt.setReg]
  rw [find_setEntry]
  by_cases h : n' = n ∧ s' = rs
  · obtain ⟨h1, h2⟩ := h
    subst h1 h2
    simp
  · have : ¬ Loc.reg n' s' = Loc.reg n rs := by
      intro e; cases e; exact h ⟨rfl, rfl⟩
    simp only [this, h, if_false]
    exact (R_eq m n' s').symm

/-- `dict[l] = v`: every item updated in place (location and byte order kept), or a new one appended -/
theorem setEntry_cases (es : List Entry) (l : Loc) (v : E) :
    (∃ g : Entry → Entry, setEntry es l v = es.map g ∧
      ∀ e, (g e).loc = e.loc ∧ (g e).be = e.be ∧ ((g e).val = e.val ∨ e.loc = l ∧ (g e).val = v)) ∨
    (setEntry es l v = es ++ [⟨l, v, false⟩] ∧ ∀ e ∈ es, e.loc ≠ l) := by
  unfold setEntry
  split
  · refine Or.inl ⟨_, rfl, fun e => ?_⟩
    by_cases h : e.loc = l
    · rw [if_pos h]; exact ⟨rfl, rfl, Or.inr ⟨h, rfl⟩⟩
    · rw [if_neg h]; exact ⟨rfl, rfl, Or.inl rfl⟩
  · rename_i hany
    exact Or.inr ⟨rfl, fun e he hl => hany (List.any_eq_true.mpr ⟨e, he, decide_eq_true hl⟩)⟩

theorem SInv.setReg {bg} {m : MapSt} (h : SInv c bg m) (n : String) (rs pos size : Nat) (v : E)
    (hv : v.size = size) (hps : pos + size ≤ rs) : SInv c bg (m.setReg n rs pos size v) := by
  have hsz : (splice (m.R n rs) rs pos size v).size = rs := (splice_spec c.sem c.σ _ _ _ _ _ (h.R_size n rs) hv hps).2
  have hz : ∀ zk x, zbyte c.sem c.σ (m.setReg n rs pos size v) zk x =
      (lastZ c.sem c.σ (m.setReg n rs pos size v).entries zk x).or (bg zk x) := fun zk x => by
    rw [lastZ_eq, show (m.setReg n rs pos size v).entries = setEntry m.entries _ _ from rfl,
      lastOf_setEntry_reg _ (fun e he => Entry.atZone_reg c.sem c.σ he zk x), ← lastZ_eq]
    exact h.zone zk x
  rcases setEntry_cases m.entries (.reg n rs) (splice (m.R n rs) rs pos size v) with ⟨g, hg, hp⟩ | ⟨hg, hne⟩
  · -- updated in place
    have hent : (m.setReg n rs pos size v).entries = m.entries.map g := hg
    refine ⟨h.zwf, h.atoms, ?_, ?_, ?_, ?_, hz⟩
    · rw [hent]
      intro i hi hp'
      rw [List.getElem_map, (hp _).1] at hp'
      exact h.lastw i (by rw [List.length_map] at hi; exact hi) hp'
    · rw [hent, List.map_map, show Entry.loc ∘ g = Entry.loc from funext fun e => (hp e).1]
      exact h.nodup
    · rw [hent]
      intro e he n' s' hl
      obtain ⟨e0, he0, rfl⟩ := List.mem_map.mp he
      obtain ⟨h1, h2, h3⟩ := hp e0
      rw [h1] at hl
      rw [h2]
      refine ⟨?_, (h.regsz e0 he0 n' s' hl).2⟩
      rcases h3 with h3 | ⟨h3, h4⟩
      · rw [h3]; exact (h.regsz e0 he0 n' s' hl).1
      · rw [h3] at hl; cases hl; rw [h4]; exact hsz
    · rw [hent]
      intro e he b d hl
      obtain ⟨e0, he0, rfl⟩ := List.mem_map.mp he
      obtain ⟨h1, h2, h3⟩ := hp e0
      rw [h1] at hl
      rw [h2]
      rcases h3 with h3 | ⟨h3, _⟩
      · rw [h3]; exact h.pent e0 he0 b d hl
      · rw [h3] at hl; cases hl
  · -- a new register item at the end
    have hent : (m.setReg n rs pos size v).entries = m.entries ++ [⟨.reg n rs, _, false⟩] := hg
    refine ⟨h.zwf, h.atoms, ?_, ?_, ?_, ?_, hz⟩
    · rw [hent]
      intro i hi hp'
      rw [List.length_append] at hi
      by_cases hlt : i < m.entries.length
      · rw [List.getElem_append_left hlt] at hp'
        exact h.lastw i hlt hp'
      · rw [List.getElem_append_right (Nat.le_of_not_lt hlt), List.getElem_singleton] at hp'
        cases hp'
    · rw [hent, List.map_append, List.nodup_append]
      refine ⟨h.nodup, by simp, fun a ha b hb hab => ?_⟩
      obtain ⟨e0, he0, hl0⟩ := List.mem_map.mp ha
      exact hne e0 he0 (hl0.trans (hab.trans (List.mem_singleton.mp hb)))
    · rw [hent]
      intro e he n' s' hl
      rcases List.mem_append.mp he with he | he
      · exact h.regsz e he n' s' hl
      · rw [List.mem_singleton.mp he] at hl ⊢; cases hl; exact ⟨hsz, rfl⟩
    · rw [hent]
      intro e he b d hl
      rcases List.mem_append.mp he with he | he
      · exact h.pent e he b d hl
      · rw [List.mem_singleton.mp he] at hl; cases hl

theorem spliceVal_mod (old rs pos size v : Nat) (h : pos + size ≤ rs) :
    spliceVal (old % 2 ^ rs) rs pos size v = spliceVal old rs pos size v := by
  unfold spliceVal
  rw [Nat.mod_mod]
  congr 2
  exact Nat.mod_mod_of_dvd _ (Nat.pow_dvd_pow 2 (by omega))

theorem Inv.setReg {μt ρt} {m : MapSt} (h : Inv c μt ρt m) (n : String) (rs pos size : Nat) (v : E)
    (hv : v.size = size) (hps : pos + size ≤ rs) {V : Nat} (hV : ideal c.sem c.σ v = V) :
    Inv c μt (fun n' s' => if n' = n ∧ s' = rs then spliceVal (ρt n rs) rs pos size V else ρt n' s')
      (m.setReg n rs pos size v) := by
  subst hV
  refine ⟨h.s.setReg n rs pos size v hv hps, fun n' s' => ?_, fun x => ?_⟩
  · rw [R_setReg]
    by_cases hc : n' = n ∧ s' = rs
    · rw [if_pos hc, if_pos hc, (splice_spec _ _ _ _ _ _ _ (h.s.R_size n rs) hv hps).1, h.regs, hc.2,
        spliceVal_mod _ _ _ _ _ hps]
      exact (Nat.mod_eq_of_lt (spliceVal_lt _ _ _ _ _ hps)).symm
    · rw [if_neg hc, if_neg hc]
      exact h.regs n' s'
  · exact (replayEntries_setEntry_reg c.sem c.σ _ _ _ _ _ x).trans (h.mem x)

/-- write `r` at `ptr(b, d)` and record it as the last item (what `setPtr` does once `r` is known) -/
def MapSt.putPtr (m : MapSt) (b : E) (d : Int) (r : E) (be : Bool) : MapSt :=
  { memWrite m b d r be with
      lastw := (memWrite m b d r be).entries.length + 1
      entries := (memWrite m b d r be).entries ++ [⟨.ptr b d, r, be⟩] }

/-- the right-value `setPtr` writes: `v`, or `v` composed with the bytes of a previous wider write -/
def setPtrVal (cfg : Cfg) (m : MapSt) (b : E) (d : Int) (v : E) (be : Bool) : E :=
  match m.lookup (.ptr b d) with
  | some old =>
    if old.val.size > v.size then
      if be then mkCat (m.M cfg b (d + (v.size / 8 : Nat)) (old.val.size - v.size) be) v
      else mkCat v (m.M cfg b (d + (v.size / 8 : Nat)) (old.val.size - v.size) be)
    else v
  | none => v

theorem setPtr_eq (cfg : Cfg) (m : MapSt) (b : E) (d : Int) (v : E) (be : Bool) (h : cfg.records = true) :
    m.setPtr cfg b d v be = m.putPtr b d (setPtrVal cfg m b d v be) be := by
  unfold MapSt.setPtr MapSt.putPtr setPtrVal
  simp only [h, if_true]
  cases m.lookup (.ptr b d) with
  | none => rfl
  | some old => simp only

theorem putPtr_entries (m : MapSt) (b : E) (d : Int) (r : E) (be : Bool) :
    (m.putPtr b d r be).entries = m.entries.filter (fun e => e.loc != .ptr b d) ++ [⟨.ptr b d, r, be⟩] := rfl

theorem zbyte_putPtr (m : MapSt) (b : E) (d : Int) (r : E) (be : Bool) (zk : ZK) (x : Int) :
    zbyte c.sem c.σ (m.putPtr b d r be) zk x = zbyte c.sem c.σ (memWrite m b d r be) zk x := rfl

/-- structural part: writing `r` (covering every earlier item of the location) keeps `SInv` -/
theorem SInv.putPtr {bg} {m : MapSt} (h : SInv c bg m) (b : E) (d : Int) (r : E)
    (hr0 : 0 < nbytes r) (hr8 : 8 * nbytes r = r.size) (hacc : (⟨b, d, nbytes r⟩ : Access) ∈ c.acc)
    (hcov : ∀ e ∈ m.entries, e.loc = .ptr b d → nbytes e.val ≤ nbytes r) :
    SInv c bg (m.putPtr b d r c.be0) := by
  obtain ⟨w1, w2, w3⟩ := memWrite_spec c.sem c.σ m b d r c.be0 h.zwf h.atoms hr0
  have hent := putPtr_entries m b d r c.be0
  have hmem : ∀ e ∈ (m.putPtr b d r c.be0).entries, (e ∈ m.entries ∧ e.loc ≠ .ptr b d) ∨ e = ⟨.ptr b d, r, c.be0⟩ := by
    intro e he
    rcases List.mem_append.mp (hent ▸ he) with he | he
    · exact Or.inl ⟨(List.mem_filter.mp he).1, by simpa using (List.mem_filter.mp he).2⟩
    · exact Or.inr (List.mem_singleton.mp he)
  refine ⟨w1, w2, fun i hi _ => ?_, ?_, fun e he n s hl => ?_, fun e he b' d' hl => ?_, fun zk x => ?_⟩
  · rw [hent, List.length_append] at hi
    exact hi
  · rw [hent, List.map_append, List.nodup_append]
    refine ⟨h.nodup.sublist (List.filter_sublist.map _), by simp, fun a ha b' hb' hab => ?_⟩
    obtain ⟨e0, he0, hl0⟩ := List.mem_map.mp ha
    rcases hmem e0 (hent ▸ List.mem_append_left _ he0) with h0 | h0
    · exact h0.2 (hl0.trans (hab.trans (List.mem_singleton.mp hb')))
    · rw [h0] at he0
      simp at he0
  · rcases hmem e he with h0 | rfl
    · exact h.regsz e h0.1 n s hl
    · cases hl
  · rcases hmem e he with h0 | rfl
    · exact h.pent e h0.1 b' d' hl
    · cases hl
      exact ⟨rfl, hr0, hr8, hacc⟩
  · rw [zbyte_putPtr, w3, hent, lastZ_eq, lastOf_replace _ _ _ _ fun e he hl hn =>
      Entry.atZone_none_of_le c.sem c.σ rfl hl (hcov e he hl) hn, Entry.atZone_ptr c.sem c.σ rfl, h.zone, lastZ_eq]
    by_cases hc : (zref b d).1 = zk ∧ (zref b d).2 ≤ x ∧ x < (zref b d).2 + (nbytes r : Int)
    · rw [if_pos hc, if_pos hc]; rfl
    · rw [if_neg hc, if_neg hc]; rfl

theorem lastAddr_putPtr (m : MapSt) (b : E) (d : Int) (r : E) (be : Bool) (x : Int)
    (hcov : ∀ e ∈ m.entries, e.loc = .ptr b d → nbytes e.val ≤ nbytes r) :
    lastAddr c.sem c.σ (m.putPtr b d r be).entries x =
      ((⟨.ptr b d, r, be⟩ : Entry).atAddr c.sem c.σ x).or (lastAddr c.sem c.σ m.entries x) :=
  lastOf_replace _ _ _ _ fun e he hl hn => Entry.atAddr_none_of_le c.sem c.σ rfl hl (hcov e he hl) hn

theorem R_putPtr (m : MapSt) (b : E) (d : Int) (r : E) (be : Bool) (n : String) (s : Nat) :
    (m.putPtr b d r be).R n s = m.R n s := by
  rw [R_eq, R_eq]
  rw [putPtr_entries, find_append_ne _ _ _ (by simp), lookup_filter_ne _ _ _ (by simp)]

/-- **the pointer branch, semantically**: if the bytes of `r` are those of `v` followed by the current
    memory, writing `r` at `ptr(b, d)` yields the map of the state after storing `v` there. -/
theorem Inv.putPtr {μt ρt} {m : MapSt} (h : Inv c μt ρt m) (b : E) (d : Int) (v r : E)
    (hr0 : 0 < nbytes r) (hr8 : 8 * nbytes r = r.size) (hacc : (⟨b, d, nbytes r⟩ : Access) ∈ c.acc)
    (hcov : ∀ e ∈ m.entries, e.loc = .ptr b d → nbytes e.val ≤ nbytes r)
    (hvr : nbytes v ≤ nbytes r)
    (hbytes : ∀ j, j < nbytes r → byteAt (ideal c.sem c.σ r) (nbytes r) j c.be0 =
      if j < nbytes v then byteAt (ideal c.sem c.σ v) (nbytes v) j c.be0
      else μt (locAddr c.sem c.σ b d + (j : Int))) :
    Inv c (writeN μt (locAddr c.sem c.σ b d) (nbytes v) (ideal c.sem c.σ v) c.be0) ρt (m.putPtr b d r c.be0) := by
  refine ⟨h.s.putPtr b d r hr0 hr8 hacc hcov, ?_, ?_⟩
  · intro n s
    rw [R_putPtr]; exact h.regs n s
  · intro x
    rw [replayEntries_eq, lastAddr_putPtr m b d r c.be0 x hcov, Entry.atAddr_ptr c.sem c.σ rfl]
    by_cases hc : locAddr c.sem c.σ b d ≤ x ∧ x < locAddr c.sem c.σ b d + (nbytes r : Int)
    · have hj : (x - locAddr c.sem c.σ b d).toNat < nbytes r := by omega
      have hx : x = locAddr c.sem c.σ b d + ((x - locAddr c.sem c.σ b d).toNat : Int) := by omega
      rw [if_pos hc, Option.some_or, Option.getD_some, hbytes _ hj]
      by_cases hjv : (x - locAddr c.sem c.σ b d).toNat < nbytes v
      · rw [if_pos hjv]
        conv => rhs; rw [hx]
        exact (writeN_in _ _ _ _ _ _ hjv).symm
      · rw [if_neg hjv, writeN_out _ _ _ _ _ _ (by omega), ← hx]
    · rw [if_neg hc, Option.none_or, writeN_out _ _ _ _ _ _ (by omega), ← h.mem x, replayEntries_eq]

theorem SInv.lookup_of_mem {bg} {m : MapSt} (h : SInv c bg m) {e : Entry} (he : e ∈ m.entries) :
    m.lookup e.loc = some e :=
  go m.entries h.nodup he
where
  go : ∀ (es : List Entry), (es.map Entry.loc).Nodup → e ∈ es → es.find? (fun x => x.loc = e.loc) = some e
    | a :: rest, hnd, he => by
      rw [List.map_cons, List.nodup_cons] at hnd
      rw [List.find?_cons]
      rcases List.mem_cons.mp he with rfl | he'
      · rw [decide_eq_true rfl]
      · have hne : ¬ a.loc = e.loc := fun hq => hnd.1 (hq ▸ List.mem_map_of_mem he')
        rw [decide_eq_false hne]
        exact go rest hnd.2 he'

/-- **overwriting the head of a wider item**: `v` composed with `R`, the bytes of the current memory that
    follow it up to the length `no` of the item in place, written at `ptr(b, d)` -/
theorem Inv.putPtr_over {μt ρt} {m : MapSt} (h : Inv c μt ρt m) (ok : c.OK) (b : E) (d : Int) (v R : E)
    (hv8 : 8 * nbytes v = v.size) (no : Nat) (hlt : nbytes v < no) (hoacc : (⟨b, d, no⟩ : Access) ∈ c.acc)
    (hcov : ∀ e ∈ m.entries, e.loc = .ptr b d → nbytes e.val = no)
    (hRs : R.size = 8 * (no - nbytes v))
    (hRv : ideal c.sem c.σ R = readN μt (locAddr c.sem c.σ b d + (nbytes v : Int)) (no - nbytes v) c.be0) :
    Inv c (writeN μt (locAddr c.sem c.σ b d) (nbytes v) (ideal c.sem c.σ v) c.be0) ρt
      (m.putPtr b d (if c.be0 then mkCat R v else mkCat v R) c.be0) := by
  have hRn : nbytes R = no - nbytes v := by unfold nbytes; rw [hRs]; exact Nat.mul_div_cancel_left _ (by decide)
  obtain ⟨hn, hn8, hby⟩ := memCat_spec c.sem c.σ c.be0 v R hv8 (by rw [hRn, hRs])
  rw [hRn, Nat.add_sub_cancel' (Nat.le_of_lt hlt)] at hn hby
  refine h.putPtr b d v _ (by omega) hn8 (by rw [hn]; exact hoacc)
    (fun e he hl => by rw [hn, hcov e he hl]; exact Nat.le_refl _) (by omega) ?_
  intro j hj
  rw [hn] at hj ⊢
  rw [hby j hj]
  by_cases hjv : j < nbytes v
  · rw [if_pos hjv, if_pos hjv]
  · rw [if_neg hjv, if_neg hjv, hRv, byteAt_readN _ _ _ _ _ (by omega), Nat.mod_eq_of_lt (h.mem_bytes ok _)]
    congr 1; omega

/-- **`__setitem__`, pointer branch** (`m[mem(ptr(b,d))] = v`): the map of the state after the store of the
    `s / 8` bytes of `v` at the address of `ptr(b, d)`. -/
theorem Inv.setPtr {μt ρt} {m : MapSt} (h : Inv c μt ρt m) (ok : c.OK) (b : E) (d : Int) (v : E) {s : Nat}
    (hs : v.size = s) (hv0 : 0 < s / 8) (hv8 : 8 * (s / 8) = s) (hacc : (⟨b, d, s / 8⟩ : Access) ∈ c.acc)
    {A : Int} (hA : locAddr c.sem c.σ b d = A) {V : Nat} (hV : ideal c.sem c.σ v = V) :
    Inv c (writeN μt A (s / 8) V c.be0) ρt (m.setPtr c.cfg b d v c.be0) := by
  -- `s`, `A` and `V` are variables tied by equations so that the statement unifies with a caller's goal,
  -- where size, address and value appear in the caller's form (`Inv.step`, `Compose`)
  subst hs hA hV
  change 0 < nbytes v at hv0
  change 8 * nbytes v = v.size at hv8
  change (⟨b, d, nbytes v⟩ : Access) ∈ c.acc at hacc
  show Inv c (writeN μt _ (nbytes v) _ c.be0) ρt _
  rw [setPtr_eq _ _ _ _ _ _ ok.recs]
  have hone : ∀ e ∈ m.entries, e.loc = .ptr b d → m.lookup (.ptr b d) = some e :=
    fun e he hl => hl ▸ h.s.lookup_of_mem he
  unfold setPtrVal
  cases hlk : m.lookup (.ptr b d) with
  | none =>
    exact h.putPtr b d v v hv0 hv8 hacc (fun e he hl => by rw [hone e he hl] at hlk; cases hlk)
      (Nat.le_refl _) (fun j hj => by rw [if_pos hj])
  | some old =>
    have hold : ∀ e ∈ m.entries, e.loc = .ptr b d → e = old :=
      fun e he hl => by rw [hone e he hl] at hlk; exact Option.some.inj hlk
    obtain ⟨_, _, ho8, hoacc⟩ := h.s.pent old (lookup_some hlk).1 b d (lookup_some hlk).2
    dsimp only
    by_cases hgt : old.val.size > v.size
    · -- the bytes of the wider item that stay in place are read back through `M`
      rw [if_pos hgt, show old.val.size - v.size = 8 * (nbytes old.val - nbytes v) by omega]
      obtain ⟨hRv, hRs⟩ := h.M_sound_sub ok b d (nbytes old.val) (nbytes v) (nbytes old.val - nbytes v) hoacc
        (by omega) (by omega)
      exact h.putPtr_over ok b d v _ hv8 (nbytes old.val) (by omega) hoacc
        (fun e he hl => by rw [hold e he hl]) hRs hRv
    · rw [if_neg hgt]
      exact h.putPtr b d v v hv0 hv8 hacc (fun e he hl => by rw [hold e he hl]; unfold nbytes; omega)
        (Nat.le_refl _) (fun j hj => by rw [if_pos hj])

end Amoco.Mapper
