/-
  The pointer items of a map as a history of byte writes: `lastAddr` (last item covering a concrete address),
  `lastZ` (last item covering an offset of a zone), their relation under "no wrap-around", and what
  `aliasing(k)` establishes.
-/
import Amoco.Proofs.Mapper.Zones

set_option linter.unusedSimpArgs false
set_option linter.unusedVariables false

namespace Amoco.Mapper

variable (sem : OpSem) (σ : St)

def locAddr (b : E) (d : Int) : Int := addrOf b.size (ideal sem σ b) d

/-- the byte a pointer item holds for the concrete address `x` (none: not covered, or a register item) -/
def Entry.atAddr (e : Entry) (x : Int) : Option Nat :=
  match e.loc with
  | .ptr b d =>
    if locAddr sem σ b d ≤ x ∧ x < locAddr sem σ b d + (nbytes e.val : Int)
    then some (byteAt (ideal sem σ e.val) (nbytes e.val) (x - locAddr sem σ b d).toNat e.be) else none
  | .reg .. => none

def Entry.atZone (e : Entry) (zk : ZK) (x : Int) : Option Nat :=
  match e.loc with
  | .ptr b d =>
    if (zref b d).1 = zk ∧ (zref b d).2 ≤ x ∧ x < (zref b d).2 + (nbytes e.val : Int)
    then some (byteAt (ideal sem σ e.val) (nbytes e.val) (x - (zref b d).2).toNat e.be) else none
  | .reg .. => none

/-- the answer of the last item of a list that has one -/
def lastOf (f : Entry → Option Nat) : List Entry → Option Nat
  | [] => none
  | e :: rest => (lastOf f rest).or (f e)

/-- byte of the last item (in map order) covering the concrete address `x` -/
def lastAddr (es : List Entry) (x : Int) : Option Nat := lastOf (fun e => e.atAddr sem σ x) es

def lastZ : List Entry → ZK → Int → Option Nat
  | [], _, _ => none
  | e :: rest, zk, x => (lastZ rest zk x).or (e.atZone sem σ zk x)

theorem lastZ_eq (es : List Entry) (zk : ZK) (x : Int) :
    lastZ sem σ es zk x = lastOf (fun e => e.atZone sem σ zk x) es := by
  induction es with
  | nil => rfl
  | cons e rest ih => simp only [lastZ, lastOf, ih]

theorem Entry.atAddr_ptr {e : Entry} {b : E} {d : Int} (hl : e.loc = .ptr b d) (x : Int) :
    e.atAddr sem σ x =
      if locAddr sem σ b d ≤ x ∧ x < locAddr sem σ b d + (nbytes e.val : Int)
      then some (byteAt (ideal sem σ e.val) (nbytes e.val) (x - locAddr sem σ b d).toNat e.be) else none := by
  unfold Entry.atAddr; rw [hl]

theorem Entry.atZone_ptr {e : Entry} {b : E} {d : Int} (hl : e.loc = .ptr b d) (zk : ZK) (x : Int) :
    e.atZone sem σ zk x =
      if (zref b d).1 = zk ∧ (zref b d).2 ≤ x ∧ x < (zref b d).2 + (nbytes e.val : Int)
      then some (byteAt (ideal sem σ e.val) (nbytes e.val) (x - (zref b d).2).toNat e.be) else none := by
  unfold Entry.atZone; rw [hl]

theorem Entry.atAddr_reg {e : Entry} (hl : e.loc.isPtr = false) (x : Int) : e.atAddr sem σ x = none := by
  unfold Entry.atAddr; cases h : e.loc with
  | reg _ _ => rfl
  | ptr _ _ => rw [h] at hl; cases hl

theorem Entry.atZone_reg {e : Entry} (hl : e.loc.isPtr = false) (zk : ZK) (x : Int) : e.atZone sem σ zk x = none := by
  unfold Entry.atZone; cases h : e.loc with
  | reg _ _ => rfl
  | ptr _ _ => rw [h] at hl; cases hl

/-- where a narrower item of the same location answers, so does a wider one -/
theorem Entry.atAddr_none_of_le {e e' : Entry} {b : E} {d : Int} (hl : e.loc = .ptr b d) (hl' : e'.loc = .ptr b d)
    (hle : nbytes e'.val ≤ nbytes e.val) {x : Int} (h : e.atAddr sem σ x = none) : e'.atAddr sem σ x = none := by
  rw [Entry.atAddr_ptr sem σ hl] at h
  rw [Entry.atAddr_ptr sem σ hl']
  refine if_neg fun hq => ?_
  rw [if_pos ⟨hq.1, by omega⟩] at h
  cases h

theorem Entry.atZone_none_of_le {e e' : Entry} {b : E} {d : Int} (hl : e.loc = .ptr b d) (hl' : e'.loc = .ptr b d)
    (hle : nbytes e'.val ≤ nbytes e.val) {zk : ZK} {x : Int} (h : e.atZone sem σ zk x = none) :
    e'.atZone sem σ zk x = none := by
  rw [Entry.atZone_ptr sem σ hl] at h
  rw [Entry.atZone_ptr sem σ hl']
  refine if_neg fun hq => ?_
  rw [if_pos ⟨hq.1, hq.2.1, by omega⟩] at h
  cases h

omit sem σ in
theorem lastOf_append (f : Entry → Option Nat) (l1 l2 : List Entry) :
    lastOf f (l1 ++ l2) = (lastOf f l2).or (lastOf f l1) := by
  induction l1 with
  | nil => simp only [List.nil_append, lastOf, Option.or_none]
  | cons e rest ih => simp only [List.cons_append, lastOf, ih, Option.or_assoc]

omit sem σ in
theorem lastOf_congr {f g : Entry → Option Nat} : ∀ (es : List Entry), (∀ e ∈ es, f e = g e) → lastOf f es = lastOf g es
  | [], _ => rfl
  | e :: rest, h => by
    simp only [lastOf, h e List.mem_cons_self, lastOf_congr rest fun e' he' => h e' (List.mem_cons_of_mem _ he')]

omit sem σ in
theorem lastOf_some {f : Entry → Option Nat} {v : Nat} : ∀ {es : List Entry}, lastOf f es = some v → ∃ e ∈ es, f e = some v
  | e :: rest, h => by
    simp only [lastOf] at h
    cases hr : lastOf f rest with
    | some w =>
      rw [hr, Option.some_or] at h
      obtain ⟨e', he', hv⟩ := lastOf_some (h ▸ hr)
      exact ⟨e', List.mem_cons_of_mem _ he', hv⟩
    | none => rw [hr, Option.none_or] at h; exact ⟨e, List.mem_cons_self, h⟩

omit sem σ in
theorem lastOf_isSome {f : Entry → Option Nat} {e : Entry} (he : (f e).isSome) :
    ∀ {es : List Entry}, e ∈ es → (lastOf f es).isSome
  | a :: rest, hm => by
    simp only [lastOf]
    rcases List.mem_cons.mp hm with rfl | hm'
    · cases lastOf f rest with
      | some _ => rfl
      | none => exact he
    · have := lastOf_isSome he hm'
      cases h : lastOf f rest with
      | some _ => rfl
      | none => rw [h] at this; cases this

omit sem σ in
theorem lastOf_congr_suffix {f g : Entry → Option Nat} (pre suf : List Entry) (h : ∀ e ∈ suf, f e = g e)
    (hs : (lastOf g suf).isSome) : lastOf f (pre ++ suf) = lastOf g (pre ++ suf) := by
  rw [lastOf_append, lastOf_append, lastOf_congr suf h]
  cases hq : lastOf g suf with
  | some v => rfl
  | none => rw [hq] at hs; cases hs

omit sem σ in
theorem lastOf_filter (f : Entry → Option Nat) (p : Entry → Bool) : ∀ (es : List Entry),
    (∀ e ∈ es, p e = false → f e = none) → lastOf f (es.filter p) = lastOf f es
  | [], _ => rfl
  | e :: rest, h => by
    have ih := lastOf_filter f p rest fun e' he' => h e' (List.mem_cons_of_mem _ he')
    cases hp : p e with
    | true => rw [List.filter_cons_of_pos hp]; simp only [lastOf, ih]
    | false =>
      rw [List.filter_cons_of_neg (by rw [hp]; exact Bool.false_ne_true), ih]
      simp only [lastOf, h e List.mem_cons_self hp, Option.or_none]

omit sem σ in
/-- `dict[l] = e` after `del dict[l]`: the new item answers first, provided it answers wherever an item it
    replaces did -/
theorem lastOf_replace (f : Entry → Option Nat) (es : List Entry) (l : Loc) (e : Entry)
    (h : ∀ e' ∈ es, e'.loc = l → f e = none → f e' = none) :
    lastOf f (es.filter (fun e' => e'.loc != l) ++ [e]) = (f e).or (lastOf f es) := by
  rw [lastOf_append]
  simp only [lastOf, Option.none_or]
  cases he : f e with
  | some v => rfl
  | none =>
    rw [Option.none_or, Option.none_or]
    exact lastOf_filter f _ es fun e' he' hl => h e' he' (by simpa using hl) he

theorem lastAddr_lt (es : List Entry) (x : Int) (v : Nat) (h : lastAddr sem σ es x = some v) : v < 256 := by
  obtain ⟨e, _, he⟩ := lastOf_some h
  unfold Entry.atAddr at he
  split at he
  · split at he
    · cases he; exact byteAt_lt _ _ _ _
    · cases he
  · cases he

/-- replaying the items = last write wins -/
theorem replayEntries_eq (es : List Entry) (μ : Int → Nat) (x : Int) :
    replayEntries sem σ μ es x = (lastAddr sem σ es x).getD (μ x) := by
  induction es generalizing μ with
  | nil => rfl
  | cons e rest ih =>
    unfold replayEntries
    show _ = ((lastAddr sem σ rest x).or (e.atAddr sem σ x)).getD (μ x)
    cases hl : e.loc with
    | reg n s =>
      simp only [ih]
      rw [Entry.atAddr_reg sem σ (by rw [hl]; rfl), Option.or_none]
    | ptr b d =>
      simp only [ih]
      cases lastAddr sem σ rest x with
      | some v => rfl
      | none =>
        rw [Option.none_or, Option.getD_none, Entry.atAddr_ptr sem σ hl]
        show writeN μ (locAddr sem σ b d) (nbytes e.val) (ideal sem σ e.val) e.be x = _
        unfold writeN
        split <;> rfl

theorem replayMods_modsOf (es : List Entry) (μ : Int → Nat) :
    replayMods sem σ μ (modsOf es) = replayEntries sem σ μ es := by
  induction es generalizing μ with
  | nil => simp [modsOf, replayMods, replayEntries]
  | cons e rest ih =>
    unfold modsOf replayEntries
    cases hl : e.loc with
    | reg n s => simp only [ih]
    | ptr b d => simp only [replayMods, ih]

theorem zref_key (b : E) (d d' : Int) : (zref b d').1 = (zref b d).1 := by
  unfold zref
  split <;> rfl

/-- an item that does not wrap around covers `zbase + x` exactly when it covers offset `x` of its zone -/
theorem atAddr_eq_atZone (e : Entry) (zk : ZK) (x : Int)
    (hw : ∀ b d, e.loc = .ptr b d → locAddr sem σ b d = zbase sem σ (zref b d).1 + (zref b d).2)
    (hz : ∀ b d, e.loc = .ptr b d → (e.atAddr sem σ (zbase sem σ zk + x)).isSome → (zref b d).1 = zk) :
    e.atAddr sem σ (zbase sem σ zk + x) = e.atZone sem σ zk x := by
  cases hl : e.loc with
  | reg n s => rw [Entry.atAddr_reg sem σ (by rw [hl]; rfl), Entry.atZone_reg sem σ (by rw [hl]; rfl)]
  | ptr b d =>
    by_cases hk : (zref b d).1 = zk
    · rw [Entry.atAddr_ptr sem σ hl, Entry.atZone_ptr sem σ hl, hw b d hl, hk]
      by_cases hc : (zref b d).2 ≤ x ∧ x < (zref b d).2 + (nbytes e.val : Int)
      · rw [if_pos (by omega), if_pos ⟨rfl, hc⟩]
        congr 3; omega
      · rw [if_neg (by omega), if_neg fun h => hc h.2]
    · rw [Entry.atZone_ptr sem σ hl, if_neg fun h => hk h.1]
      cases h : e.atAddr sem σ (zbase sem σ zk + x) with
      | none => rfl
      | some v => exact absurd (hz b d hl (by rw [h]; rfl)) hk

theorem lastAddr_eq_lastZ (es : List Entry) (zk : ZK) (x : Int)
    (hw : ∀ e ∈ es, ∀ b d, e.loc = .ptr b d → locAddr sem σ b d = zbase sem σ (zref b d).1 + (zref b d).2)
    (hz : ∀ e ∈ es, ∀ b d, e.loc = .ptr b d → (e.atAddr sem σ (zbase sem σ zk + x)).isSome → (zref b d).1 = zk) :
    lastAddr sem σ es (zbase sem σ zk + x) = lastZ sem σ es zk x := by
  rw [lastZ_eq]
  exact lastOf_congr es fun e he => atAddr_eq_atZone sem σ e zk x (hw e he) (hz e he)

omit sem σ in
theorem lastOf_none {f : Entry → Option Nat} : ∀ {es : List Entry}, (∀ e ∈ es, f e = none) → lastOf f es = none
  | [], _ => rfl
  | e :: rest, h => by
    rw [lastOf, lastOf_none fun e' he' => h e' (List.mem_cons_of_mem _ he'), h e List.mem_cons_self]; rfl

omit sem σ in
theorem lastOf_map {f : Entry → Option Nat} (g : Entry → Entry) : ∀ (es : List Entry), (∀ e ∈ es, f (g e) = f e) →
    lastOf f (es.map g) = lastOf f es
  | [], _ => rfl
  | e :: rest, h => by
    rw [List.map_cons, lastOf, lastOf, lastOf_map g rest fun e' he' => h e' (List.mem_cons_of_mem _ he'),
      h e List.mem_cons_self]

omit sem σ in
/-- `dict[reg] = v` does not change the answer to a question that register items do not answer -/
theorem lastOf_setEntry_reg (f : Entry → Option Nat) (hf : ∀ e, e.loc.isPtr = false → f e = none)
    (es : List Entry) (n : String) (s : Nat) (v : E) : lastOf f (setEntry es (.reg n s) v) = lastOf f es := by
  unfold setEntry
  split
  · refine lastOf_map _ es fun e _ => ?_
    by_cases hl : e.loc = .reg n s
    · rw [if_pos hl, hf e (hl ▸ rfl), hf { e with val := v } (show e.loc.isPtr = false from hl ▸ rfl)]
    · rw [if_neg hl]
  · rw [lastOf_append]
    exact (congrArg (Option.or · _) (hf ⟨.reg n s, v, false⟩ rfl)).trans Option.none_or

theorem replayEntries_setEntry_reg (es : List Entry) (n : String) (s : Nat) (v : E) (μ : Int → Nat) (x : Int) :
    replayEntries sem σ μ (setEntry es (.reg n s) v) x = replayEntries sem σ μ es x := by
  rw [replayEntries_eq, replayEntries_eq]
  unfold lastAddr
  rw [lastOf_setEntry_reg _ fun e he => Entry.atAddr_reg sem σ he x]

/-- items after the last pointer item do not count -/
theorem replayEntries_take (es : List Entry) (n : Nat) (μ : Int → Nat)
    (h : ∀ i (hi : i < es.length), (es[i]).loc.isPtr = true → i < n) :
    replayEntries sem σ μ (es.take n) = replayEntries sem σ μ es := by
  funext x
  have hd : lastOf (fun e => e.atAddr sem σ x) (es.drop n) = none := by
    refine lastOf_none fun e he => ?_
    obtain ⟨j, hj, rfl⟩ := List.getElem_of_mem he
    rw [List.getElem_drop]
    rw [List.length_drop] at hj
    cases hp : (es[n + j]).loc.isPtr with
    | false => exact Entry.atAddr_reg sem σ hp x
    | true => exact absurd (h (n + j) (by omega) hp) (by omega)
  have := lastOf_append (fun e => e.atAddr sem σ x) (es.take n) (es.drop n)
  rw [List.take_append_drop, hd, Option.none_or] at this
  rw [replayEntries_eq, replayEntries_eq]
  exact congrArg (Option.getD · (μ x)) this.symm

theorem aliasing_cases (cfg : Cfg) (m : MapSt) (b : E) (d : Int) (size : Nat) :
    aliasing cfg m b d size = 0 ∨ aliasing cfg m b d size = m.lastw := by
  unfold aliasing
  by_cases h1 : cfg.noaliasing = true
  · left; rw [if_pos h1]
  · rw [if_neg h1]
    by_cases h2 : ((m.entries.take m.lastw).drop (aliasStart m b d size)).any (Entry.otherBase b) = true
    · right; rw [if_pos h2]
    · left; rw [if_neg h2]

/-- `aliasing` = 0 (with aliasing possible): every pointer item is through the same base, or the location
    has an item at least as wide as the read, followed only by items through the same base. -/
theorem aliasing_zero (cfg : Cfg) (m : MapSt) (b : E) (d : Int) (size : Nat)
    (hna : cfg.noaliasing = false) (h0 : aliasing cfg m b d size = 0)
    (hlw : ∀ i (hi : i < m.entries.length), (m.entries[i]).loc.isPtr = true → i < m.lastw) :
    (∀ e ∈ m.entries, ∀ b' d', e.loc = .ptr b' d' → b' = b) ∨
    (∃ pre e post, m.entries = pre ++ e :: post ∧ e.loc = .ptr b d ∧ size ≤ e.val.size ∧
      ∀ e' ∈ post, ∀ b' d', e'.loc = .ptr b' d' → b' = b) := by
  -- the scanned range contains no item through another base: else `aliasing` = `lastw` = 0, an empty range
  have hscan : (((m.entries.take m.lastw).drop (aliasStart m b d size)).any (Entry.otherBase b)) = false := by
    unfold aliasing at h0
    rw [hna, if_neg Bool.false_ne_true] at h0
    cases hany : (((m.entries.take m.lastw).drop (aliasStart m b d size)).any (Entry.otherBase b)) with
    | false => rfl
    | true =>
      rw [if_pos hany] at h0
      rw [h0, List.take_zero, List.drop_nil] at hany
      exact hany.symm
  have hfrom : ∀ j (hj : j < m.entries.length), aliasStart m b d size ≤ j →
      ∀ b' d', (m.entries[j]).loc = .ptr b' d' → b' = b := by
    intro j hj hsj b' d' hl
    have hjn := hlw j hj (by rw [hl]; rfl)
    have hmem : m.entries[j] ∈ (m.entries.take m.lastw).drop (aliasStart m b d size) :=
      List.mem_iff_getElem.mpr ⟨j - aliasStart m b d size, by rw [List.length_drop, List.length_take]; omega,
        by rw [List.getElem_drop, List.getElem_take]; congr 1; omega⟩
    have := List.any_eq_false.mp hscan _ hmem
    unfold Entry.otherBase at this
    rw [hl] at this
    simpa using this
  have hall : aliasStart m b d size = 0 → ∀ e ∈ m.entries, ∀ b' d', e.loc = .ptr b' d' → b' = b := by
    intro hst e he b' d' hl
    obtain ⟨j, hj, rfl⟩ := List.getElem_of_mem he
    exact hfrom j hj (by omega) b' d' hl
  unfold aliasStart at hall hfrom
  cases hidx : m.entries.findIdx? (fun e => e.loc = .ptr b d) with
  | none => rw [hidx] at hall; exact Or.inl (hall rfl)
  | some i =>
    obtain ⟨hilt, hpi, _⟩ := List.findIdx?_eq_some_iff_getElem.mp hidx
    have hgd : m.entries.getD i default = m.entries[i] := by
      rw [List.getD_eq_getElem?_getD, List.getElem?_eq_getElem hilt]; rfl
    simp only [hidx, hgd] at hall hfrom
    by_cases hsz : (m.entries[i]).val.size < size
    · rw [if_pos hsz] at hall; exact Or.inl (hall rfl)
    · rw [if_neg hsz] at hfrom
      refine Or.inr ⟨m.entries.take i, m.entries[i], m.entries.drop (i + 1),
        by rw [List.getElem_cons_drop, List.take_append_drop], of_decide_eq_true hpi, by omega, ?_⟩
      intro e' he' b' d' hl
      obtain ⟨j, hj, rfl⟩ := List.getElem_of_mem he'
      rw [List.getElem_drop] at hl
      exact hfrom (i + 1 + j) (by rw [List.length_drop] at hj; omega) (by omega) b' d' hl

theorem locAddr_cst (c s : Nat) (d : Int) : locAddr sem σ (.cst c s) d = ((zref (.cst c s) d).2) := by
  unfold locAddr addrOf zref
  simp only [ideal, E.size]
  rw [← wrap_natCast, wrap_wrap_add]

theorem locAddr_nonneg (b : E) (d : Int) : 0 ≤ locAddr sem σ b d := by
  unfold locAddr addrOf; omega

theorem locAddr_lt (b : E) (d : Int) : locAddr sem σ b d < ((2 ^ b.size : Nat) : Int) := by
  unfold locAddr addrOf
  exact_mod_cast wrap_lt _ _

theorem sub_access (b : E) (d : Int) (n j : Nat) (hw : (⟨b, d, n⟩ : Access).noWrap sem σ) (hj : j < n) :
    locAddr sem σ b (d + (j : Int)) = locAddr sem σ b d + (j : Int) ∧
    zref b (d + (j : Int)) = ((zref b d).1, (zref b d).2 + (j : Int)) := by
  obtain ⟨h1, h2⟩ := hw
  simp only at h1 h2
  have hA : locAddr sem σ b d = zbase sem σ (zref b d).1 + (zref b d).2 := h1
  have hlt : locAddr sem σ b d + (j : Int) < ((2 ^ b.size : Nat) : Int) := by
    have : ((2 ^ b.size : Nat) : Int) = (2 : Int) ^ b.size := by push_cast; rfl
    rw [hA, this]; omega
  have hnn := locAddr_nonneg sem σ b d
  have hloc : locAddr sem σ b (d + (j : Int)) = locAddr sem σ b d + (j : Int) := by
    unfold locAddr addrOf at *
    rw [← Int.add_assoc, ← wrap_wrap_add]
    exact wrap_of_range _ _ (by omega) hlt
  refine ⟨hloc, ?_⟩
  cases b with
  | cst c s =>
    have e1 := locAddr_cst sem σ c s (d + (j : Int))
    have e2 := locAddr_cst sem σ c s d
    rw [hloc, e2] at e1
    simp only [zref] at e1 ⊢
    rw [← e1]
  | reg _ _ => rfl
  | slc _ _ _ => rfl
  | cat _ _ => rfl
  | addc _ _ => rfl
  | op _ _ _ _ => rfl
  | load _ _ _ _ _ => rfl

theorem sub_noWrap (b : E) (d : Int) (n j n' : Nat) (hw : (⟨b, d, n⟩ : Access).noWrap sem σ) (hj : j + n' ≤ n)
    (hn' : 0 < n') : (⟨b, d + (j : Int), n'⟩ : Access).noWrap sem σ := by
  obtain ⟨hl, hz⟩ := sub_access sem σ b d n j hw (by omega)
  obtain ⟨h1, h2⟩ := hw
  simp only at h1 h2
  constructor
  · simp only
    have : addrOf b.size (ideal sem σ b) (d + (j : Int)) = locAddr sem σ b (d + (j : Int)) := rfl
    rw [this, hl, hz]
    simp only
    have : locAddr sem σ b d = addrOf b.size (ideal sem σ b) d := rfl
    rw [this, h1]; omega
  · simp only [hz]
    omega

theorem sub_apart (b : E) (d : Int) (n j n' : Nat) (c : Access) (hw : (⟨b, d, n⟩ : Access).noWrap sem σ)
    (hj : j + n' ≤ n) (hn' : 0 < n') (ha : Access.apart sem σ ⟨b, d, n⟩ c) :
    Access.apart sem σ ⟨b, d + (j : Int), n'⟩ c := by
  obtain ⟨hl, hz⟩ := sub_access sem σ b d n j hw (by omega)
  unfold Access.apart at ha ⊢
  simp only at ha ⊢
  rcases ha with h | h
  · left; rw [hz]; exact h
  · right
    have e : addrOf b.size (ideal sem σ b) (d + (j : Int)) = addrOf b.size (ideal sem σ b) d + (j : Int) := hl
    rw [e]
    omega

theorem apart_symm (a c : Access) (h : Access.apart sem σ a c) : Access.apart sem σ c a := by
  unfold Access.apart at h ⊢
  rcases h with h | h | h
  · left; exact h.symm
  · right; right; exact h
  · right; left; exact h

end Amoco.Mapper
