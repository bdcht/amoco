/-
  The memory of a map as byte values: `_Mem_read` and `_Mem_write` of the mapper model against the byte-store
  theorems of C08 (`read_refines`, `abs_write`, `abs_copy`).
-/
import Amoco.Proofs.Mapper.Expr
import Amoco.Props.C08

set_option linter.unusedSimpArgs false
set_option linter.unusedVariables false

namespace Amoco.Mapper

open Amoco.Memory (Endian ByteDesc Zone Item Val flattenItems override absWrite)
open Amoco.Memory.Props

variable (sem : OpSem) (σ : St)

/-- `dict[k] = …` on an association list (update in place, or append) -/
theorem find_upsert {α κ : Type} [DecidableEq κ] (key : α → κ) (k : κ) (f : α → α) (new : α)
    (hf : ∀ a, key a = k → key (f a) = k) (hn : key new = k) (l : List α) (k' : κ) :
    (if l.any (fun a => key a = k) then l.map (fun a => if key a = k then f a else a)
      else l ++ [new]).find? (fun a => key a = k') =
    if k' = k then some ((l.find? (fun a => key a = k)).elim new f) else l.find? (fun a => key a = k') := by
  have hkey : ∀ a, key (if key a = k then f a else a) = key a := by
    intro a; by_cases h : key a = k
    · rw [if_pos h, hf a h, h]
    · rw [if_neg h]
  by_cases hany : l.any (fun a => key a = k) = true
  · rw [if_pos hany, List.find?_map]
    have hp : ((fun a => decide (key a = k')) ∘ fun a => if key a = k then f a else a) =
        fun a => decide (key a = k') := funext fun a => by simp only [Function.comp, hkey]
    rw [hp]
    by_cases hk : k' = k
    · subst hk
      rw [if_pos rfl]
      cases hfd : l.find? (fun a => decide (key a = k')) with
      | none =>
        obtain ⟨a, ha, hka⟩ := List.any_eq_true.mp hany
        exact absurd hka (List.find?_eq_none.mp hfd a ha)
      | some a =>
        have := of_decide_eq_true (List.find?_some (p := fun a => decide (key a = k')) hfd)
        simp only [Option.map_some, Option.elim_some, if_pos this]
    · rw [if_neg hk]
      cases hfd : l.find? (fun a => decide (key a = k')) with
      | none => rfl
      | some a =>
        have := of_decide_eq_true (List.find?_some (p := fun a => decide (key a = k')) hfd)
        simp only [Option.map_some, if_neg (fun h : key a = k => hk (this ▸ h))]
  · have hnone : l.find? (fun a => decide (key a = k)) = none :=
      List.find?_eq_none.mpr fun a ha hd => hany (List.any_eq_true.mpr ⟨a, ha, hd⟩)
    rw [if_neg hany, List.find?_append]
    by_cases hk : k' = k
    · subst hk
      rw [if_pos rfl, hnone]
      simp only [Option.none_or, Option.elim_none, List.find?_cons, hn, decide_true]
    · rw [if_neg hk]
      have : ¬ key new = k' := fun h => hk (h ▸ hn)
      simp only [List.find?_cons, this, decide_false, List.find?_nil, Option.or_none]

theorem zoneOf_setZone (zs : List (ZK × Zone)) (k k' : ZK) (z : Zone) :
    zoneOf (setZone zs k z) k' = if k' = k then z else zoneOf zs k' := by
  unfold zoneOf setZone
  rw [find_upsert Prod.fst k (fun _ => (k, z)) (k, z) (fun _ _ => rfl) rfl]
  by_cases hk : k' = k
  · rw [if_pos hk, if_pos hk]
    cases zs.find? (fun a => decide (a.1 = k)) <;> rfl
  · rw [if_neg hk, if_neg hk]

def ZonesWF (zs : List (ZK × Zone)) : Prop := ∀ k, (zoneOf zs k).WF

theorem zonesWF_nil : ZonesWF [] := fun _ => zoneWF_empty

theorem ZonesWF.set {zs : List (ZK × Zone)} (h : ZonesWF zs) (k : ZK) (z : Zone) (hz : z.WF) :
    ZonesWF (setZone zs k z) := by
  intro k'
  rw [zoneOf_setZone]
  split
  · exact hz
  · exact h k'

theorem zoneOf_copyZones (zs : List (ZK × Zone)) (k : ZK) :
    zoneOf (copyZones zs) k = match zs.find? (fun kz => kz.1 = k) with
      | some kz => kz.2.copy
      | none => Zone.empty := by
  unfold zoneOf copyZones
  induction zs with
  | nil => rfl
  | cons kz rest ih =>
    simp only [List.map_cons, List.find?_cons]
    by_cases h : kz.1 = k
    · simp [h]
    · simp only [h, decide_false]
      exact ih

theorem zoneOf_copy_abs (zs : List (ZK × Zone)) (h : ZonesWF zs) (k : ZK) :
    (zoneOf (copyZones zs) k).WF ∧ (zoneOf (copyZones zs) k).abs = (zoneOf zs k).abs := by
  have hk := h k
  rw [zoneOf_copyZones]
  unfold zoneOf at hk ⊢
  cases hf : zs.find? (fun kz => decide (kz.1 = k)) with
  | none => exact ⟨zoneWF_empty, rfl⟩
  | some kz =>
    rw [hf] at hk
    exact ⟨zoneWF_copy _ hk, abs_copy _ hk⟩

theorem ZonesWF.copy {zs : List (ZK × Zone)} (h : ZonesWF zs) : ZonesWF (copyZones zs) :=
  fun k => (zoneOf_copy_abs zs h k).1

def byteVal (tbl : List E) : ByteDesc → Nat
  | .raw b => b % 256
  | .sym w k => (ideal sem σ (tbl.getD w (.cst 0 0)) >>> (8 * k)) % 256

theorem size_byteE (tbl : List E) (bd : ByteDesc) : (byteE tbl bd).size = 8 := by
  cases bd with
  | raw b => rfl
  | sym w k => exact size_mkSlice _ _ _

theorem ideal_byteE (tbl : List E) (bd : ByteDesc) : ideal sem σ (byteE tbl bd) = byteVal sem σ tbl bd := by
  cases bd with
  | raw b => simp [byteE, ideal, byteVal]
  | sym w k => simp only [byteE, ideal_mkSlice, byteVal]

/-- the byte at zone offset `x` of zone `zk`, as a value (none: never written) -/
def zbyte (m : MapSt) (zk : ZK) (x : Int) : Option Nat :=
  ((zoneOf m.zones zk).abs x).map (byteVal sem σ m.tbl)

def AtomsOK (m : MapSt) : Prop :=
  ∀ zk x w k, (zoneOf m.zones zk).abs x = some (.sym w k) → w < m.tbl.length

/-- value of the byte `cur` bytes after `(b, d)`: the stored byte, or the input memory -/
def partVal (tbl : List E) (b : E) (d : Int) (cur : Nat) : Option ByteDesc → Nat
  | some bd => byteVal sem σ tbl bd
  | none => σ.mem (addrOf b.size (ideal sem σ b) (d + (cur : Int))) % 256

theorem readParts_cons (tbl : List E) (b : E) (d : Int) (be : Bool) (cur : Nat) (ob : Option ByteDesc)
    (rest : List (Option ByteDesc)) :
    readParts tbl b d be cur (ob :: rest) =
        (match ob with
          | some bd => byteE tbl bd
          | none => .load b (d + (cur : Int)) 8 be .nil) :: readParts tbl b d be (cur + 1) rest := by
  cases ob <;> simp [readParts]

theorem readParts_shape (tbl : List E) (b : E) (d : Int) (be : Bool) :
    ∀ (bytes : List (Option ByteDesc)) (cur : Nat),
      (readParts tbl b d be cur bytes).length = bytes.length ∧
      (∀ e ∈ readParts tbl b d be cur bytes, e.size = 8)
  | [], cur => by simp [readParts]
  | ob :: rest, cur => by
    obtain ⟨ih1, ih2⟩ := readParts_shape tbl b d be rest (cur + 1)
    rw [readParts_cons]
    refine ⟨by simp [ih1], ?_⟩
    intro e he
    rcases List.mem_cons.mp he with rfl | he
    · cases ob with
      | some bd => exact size_byteE _ _
      | none => rfl
    · exact ih2 e he

theorem ideal_readParts (tbl : List E) (b : E) (d : Int) (be : Bool) (f : Nat → Option ByteDesc) : ∀ (n cur : Nat),
    (readParts tbl b d be cur ((List.range' cur n).map f)).map (ideal sem σ) =
      (List.range' cur n).map (fun k => partVal sem σ tbl b d k (f k))
  | 0, _ => rfl
  | n + 1, cur => by
    rw [List.range'_succ, List.map_cons, List.map_cons, readParts_cons, List.map_cons, ideal_readParts tbl b d be f n]
    congr 1
    cases f cur with
    | some bd => exact ideal_byteE sem σ tbl bd
    | none =>
      show readN σ.mem _ 1 be = _
      cases be <;> simp [readN, partVal]

omit sem σ in
theorem memRead_eq (m : MapSt) (b : E) (d : Int) (l : Nat) (be : Bool) :
    memRead m b d l be = catListJ (ord be (readParts m.tbl b d be 0
      (flattenItems ((zoneOf m.zones (zref b d).1).read (zref b d).2 l)))) := rfl

/-- **`_Mem_read` is a byte-store read**: the result has `l` bytes, and if every byte of the window — the
    stored byte where the zone has one, the input memory elsewhere — is the byte of `μ` at `A + k`, it
    evaluates to the `l` bytes of `μ` at `A`. -/
theorem memRead_spec (m : MapSt) (b : E) (d : Int) (l : Nat) (be : Bool) (wf : ZonesWF m.zones) :
    (memRead m b d l be).size = 8 * l ∧
    ∀ (μ : Int → Nat) (A : Int), (∀ k : Nat, k < l →
      (match zbyte sem σ m (zref b d).1 ((zref b d).2 + (k : Int)) with
        | some v => v
        | none => σ.mem (addrOf b.size (ideal sem σ b) (d + (k : Int))) % 256) = μ (A + (k : Int)) % 256) →
      ideal sem σ (memRead m b d l be) = readN μ A l be := by
  rw [memRead_eq]
  obtain ⟨hlen, h8⟩ := readParts_shape m.tbl b d be
    (flattenItems ((zoneOf m.zones (zref b d).1).read (zref b d).2 l)) 0
  have h8' := fun e he => h8 e ((mem_ord be _).mp he)
  refine ⟨by rw [size_catListJ, size_catList_bytes _ h8', length_ord, hlen, read_length _ _ _ (wf _)],
    fun μ A h => ?_⟩
  rw [(catListJ_spec sem σ _).1, ideal_catList_bytes sem σ _ h8', readN_eq]
  apply leVal_congr
  rw [map_ord, map_ord, map_ord, read_refines _ _ _ (wf _), List.range_eq_range', ideal_readParts, memList,
    ← List.range_eq_range', List.map_map, List.map_map]
  refine congrArg (ord be) (List.map_congr_left fun k hk => ?_)
  have := h k (List.mem_range.mp hk)
  unfold zbyte at this
  show partVal sem σ m.tbl b d k _ % 256 = μ (A + (k : Int)) % 256
  cases hx : (zoneOf m.zones (zref b d).1).abs ((zref b d).2 + (k : Int)) <;> rw [hx] at this <;>
    exact (congrArg (· % 256) this).trans (Nat.mod_mod _ _)

theorem toVal_len (w : Nat) (v : E) (n : Nat) : (toVal w v n).len = n := by
  unfold toVal
  split <;> simp [Val.len]

theorem byteVal_append (tbl : List E) (v : E) (bd : ByteDesc)
    (h : ∀ w k, bd = .sym w k → w < tbl.length) : byteVal sem σ (tbl ++ [v]) bd = byteVal sem σ tbl bd := by
  cases bd with
  | raw b => rfl
  | sym w k =>
    have hw := h w k rfl
    simp only [byteVal]
    rw [List.getD_eq_getElem?_getD, List.getD_eq_getElem?_getD, List.getElem?_append_left hw]

/-- byte `j` (memory order) of an `n`-byte stored expression whose byte `k` (value order) is `g k` -/
theorem ex_memBytes_get (g : Nat → ByteDesc) (n j : Nat) (be : Bool) (hj : j < n) :
    ((Val.ex ((List.range n).map g)).memBytes (enOf be))[j]? = some (g (if be then n - 1 - j else j)) := by
  cases be
  · show ((List.range n).map g)[j]? = _
    rw [List.getElem?_map, List.getElem?_range hj]; rfl
  · show ((List.range n).map g).reverse[j]? = _
    rw [List.getElem?_reverse (by rw [List.length_map, List.length_range]; exact hj), List.length_map,
      List.length_range, List.getElem?_map, List.getElem?_range (by omega)]; rfl

theorem toVal_bytes (tbl : List E) (v : E) (n : Nat) (be : Bool) (j : Nat) (hj : j < n) :
    ∃ bd, ((toVal tbl.length v n).memBytes (enOf be))[j]? = some bd ∧
      byteVal sem σ (tbl ++ [v]) bd = byteAt (ideal sem σ v) n j be ∧
      (∀ w k, bd = .sym w k → w < (tbl ++ [v]).length) := by
  have hb : byteAt (ideal sem σ v) n j be = (ideal sem σ v >>> (8 * (if be then n - 1 - j else j))) % 256 := by
    cases be <;> rfl
  rw [hb]
  unfold toVal
  split
  · exact ⟨_, ex_memBytes_get _ n j be hj, Nat.mod_mod _ _, fun w k h => by cases h⟩
  · refine ⟨_, ex_memBytes_get _ n j be hj, ?_, fun w k h => by cases h; rw [List.length_append]; exact Nat.lt_succ_self _⟩
    show (ideal sem σ ((tbl ++ [v]).getD tbl.length (.cst 0 0)) >>> _) % 256 = _
    rw [List.getD_eq_getElem?_getD, List.getElem?_append_right (Nat.le_refl _), Nat.sub_self]; rfl

theorem memWrite_spec (m : MapSt) (b : E) (d : Int) (v : E) (be : Bool)
    (wf : ZonesWF m.zones) (hat : AtomsOK m) (hn : 0 < v.size / 8) :
    ZonesWF (memWrite m b d v be).zones ∧ AtomsOK (memWrite m b d v be) ∧
    ∀ zk x, zbyte sem σ (memWrite m b d v be) zk x =
      if (zref b d).1 = zk ∧ (zref b d).2 ≤ x ∧ x < (zref b d).2 + (nbytes v : Int)
      then some (byteAt (ideal sem σ v) (nbytes v) (x - (zref b d).2).toNat be)
      else zbyte sem σ m zk x := by
  have hlen : 0 < (toVal m.tbl.length v (v.size / 8)).len := by rw [toVal_len]; exact hn
  have hnb : nbytes v = v.size / 8 := rfl
  -- the new content of every zone: inside the written range a byte of `v`, elsewhere what was there
  have key : ∀ zk x,
      (((zref b d).1 = zk ∧ (zref b d).2 ≤ x ∧ x < (zref b d).2 + (nbytes v : Int)) ∧
        ∃ bd, (zoneOf (memWrite m b d v be).zones zk).abs x = some bd ∧
          byteVal sem σ (m.tbl ++ [v]) bd = byteAt (ideal sem σ v) (nbytes v) (x - (zref b d).2).toNat be ∧
          ∀ w k, bd = .sym w k → w < (m.tbl ++ [v]).length) ∨
      (¬ ((zref b d).1 = zk ∧ (zref b d).2 ≤ x ∧ x < (zref b d).2 + (nbytes v : Int)) ∧
        (zoneOf (memWrite m b d v be).zones zk).abs x = (zoneOf m.zones zk).abs x) := by
    intro zk x
    simp only [memWrite]
    rw [zoneOf_setZone]
    by_cases hz : zk = (zref b d).1
    · subst hz
      rw [if_pos rfl, abs_write _ _ _ _ (wf _) hlen]
      simp only [override, absWrite]
      by_cases hr : (zref b d).2 ≤ x ∧ x < (zref b d).2 + (nbytes v : Int)
      · obtain ⟨bd, hbd, hb⟩ := toVal_bytes sem σ m.tbl v (v.size / 8) be (x - (zref b d).2).toNat (by omega)
        exact Or.inl ⟨⟨trivial, hr⟩, bd, by rw [if_pos hr.1, hbd]; rfl, hb⟩
      · refine Or.inr ⟨fun h => hr h.2, ?_⟩
        by_cases h1 : (zref b d).2 ≤ x
        · rw [if_pos h1, List.getElem?_eq_none_iff.mpr
            (by rw [Amoco.Memory.Val.memBytes_length, toVal_len]; omega)]; rfl
        · rw [if_neg h1]; rfl
    · rw [if_neg hz]
      exact Or.inr ⟨fun h => hz h.1.symm, rfl⟩
  refine ⟨wf.set _ _ (zoneWF_write _ _ _ _ (wf _) hlen), fun zk x w k hx => ?_, fun zk x => ?_⟩
  · show w < (m.tbl ++ [v]).length
    rcases key zk x with ⟨_, bd, hbd, _, hb3⟩ | ⟨_, he⟩
    · exact hb3 w k (Option.some.inj (hbd.symm.trans hx))
    · rw [List.length_append]
      exact Nat.lt_succ_of_lt (hat zk x w k (he ▸ hx))
  · show Option.map (byteVal sem σ (m.tbl ++ [v])) _ = _
    rcases key zk x with ⟨hc, bd, hbd, hb2, _⟩ | ⟨hc, he⟩
    · rw [if_pos hc, hbd, ← hb2]; rfl
    · rw [if_neg hc, he]
      unfold zbyte
      cases hx : (zoneOf m.zones zk).abs x with
      | none => rfl
      | some bd => exact congrArg some (byteVal_append sem σ _ _ _ fun w k hbd => hat zk x w k (hbd ▸ hx))

end Amoco.Mapper
