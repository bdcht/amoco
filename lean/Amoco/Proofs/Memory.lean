/-
  Objects, zones and maps are read as partial maps from addresses to bytes (`absMo`, `absL`, `Zone.abs`); each
  operation of the model keeps a zone well formed and acts on that byte map as the byte-store operation it
  stands for.  The core is `addtomapL_spec`: `addtomap m z` is `z` written over `m`.
-/
import Amoco.Model.Memory
namespace Amoco.Memory

theorem absL_nil (a : Int) : absL [] a = none := rfl
theorem absL_cons (o : Mo) (m : List Mo) (a : Int) : absL (o :: m) a = (absMo o a).or (absL m a) := by
  unfold absL
  rw [List.findSome?_cons]
  cases absMo o a <;> rfl
theorem absL_append (m1 m2 : List Mo) (a : Int) : absL (m1 ++ m2) a = (absL m1 a).or (absL m2 a) := by
  unfold absL; exact List.findSome?_append

/-- `b` is the stop index that `slice(sta, s).indices(len)` computes. -/
theorem slice_clamp {α} (l : List α) (sta s b : Nat) (hb : b = min s l.length) :
    (l.drop (min sta l.length)).take (b - min sta l.length) = (l.drop sta).take (s - sta) := by
  subst hb
  rw [← List.drop_take, ← List.drop_take, ← List.take_eq_take_min, List.drop_eq_drop_iff, List.length_take,
    Nat.min_assoc, Nat.min_eq_right (Nat.min_le_right s _)]

/-- the mirrored slice a big-endian `exp.bytes` takes is the plain slice of the reversed list. -/
theorem reverse_slice {α} (l : List α) (a b : Nat) (ha : a ≤ l.length) (hb : b ≤ l.length) :
    ((l.drop (l.length - b)).take ((l.length - a) - (l.length - b))).reverse = (l.reverse.drop a).take (b - a) := by
  rw [← List.drop_take, List.reverse_drop, List.reverse_take, List.length_take,
    Nat.min_eq_left (Nat.sub_le _ _), Nat.sub_sub_self ha]
  congr 1
  omega

theorem Ex.bytes_mem (e : Ex) (sta : Nat) (sto : Option Nat) (en : Endian) :
    (Val.ex (e.bytes sta sto en)).memBytes en =
      (((Val.ex e).memBytes en).drop sta).take ((sto.getD e.length) - sta) := by
  have big (s b : Nat) (hb : b = min s e.length) :
      ((e.drop (e.length - b)).take ((e.length - min sta e.length) - (e.length - b))).reverse =
        (e.reverse.drop sta).take (s - sta) := by
    rw [reverse_slice e _ b (Nat.min_le_right _ _) (hb ▸ Nat.min_le_right _ _), ← List.length_reverse]
    exact slice_clamp e.reverse sta s b (by rw [List.length_reverse]; exact hb)
  cases en with
  | little =>
    cases sto with
    | none => exact slice_clamp e sta e.length e.length (Nat.min_self _).symm
    | some s => exact slice_clamp e sta s _ rfl
  | big =>
    cases sto with
    | none => exact big e.length e.length (Nat.min_self _).symm
    | some s => exact big s _ rfl

theorem Val.memBytes_length (v : Val) (en : Endian) : (v.memBytes en).length = v.len := by
  cases v <;> cases en <;> simp [Val.memBytes, Val.len]

theorem DD.memBytes_length (d : DD) : d.memBytes.length = d.len := Val.memBytes_length _ _

theorem map_raw_rawVal (e : Ex) (h : e.isCst = true) : (e.map ByteDesc.rawVal).map ByteDesc.raw = e := by
  rw [List.map_map]
  refine (List.map_congr_left fun x hx => ?_).trans (List.map_id e)
  have hx := List.all_eq_true.mp h x hx
  cases x with
  | raw b => rfl
  | sym w k => cases hx

theorem DD.new_memBytes (v : Val) (en : Endian) : (DD.new v en).memBytes = v.memBytes en := by
  cases v with
  | raw bs => rfl
  | ex e =>
    unfold DD.new
    dsimp only
    by_cases h : e.isCst = true
    · rw [if_pos h]
      cases en with
      | little => exact map_raw_rawVal e h
      | big => exact (List.map_reverse).trans (congrArg List.reverse (map_raw_rawVal e h))
    · rw [if_neg h]; rfl

theorem DD.new_endian (v : Val) (en : Endian) : (DD.new v en).endian = en := by
  cases v with
  | raw bs => rfl
  | ex e =>
    unfold DD.new
    dsimp only
    by_cases h : e.isCst = true
    · rw [if_pos h]
    · rw [if_neg h]

theorem DD.new_len (v : Val) (en : Endian) : (DD.new v en).len = v.len := by
  rw [← DD.memBytes_length, DD.new_memBytes, Val.memBytes_length]

theorem DD.cut_memBytes (d : DD) (l : Nat) : (d.cut l).memBytes = d.memBytes.drop l := by
  unfold DD.cut DD.memBytes
  cases d.val with
  | raw bs => exact List.map_drop
  | ex e =>
    refine (Ex.bytes_mem e l none d.endian).trans (List.take_of_length_le ?_)
    rw [List.length_drop, Val.memBytes_length]; exact Nat.le_refl _

theorem DD.cut_endian (d : DD) (l : Nat) : (d.cut l).endian = d.endian := by
  unfold DD.cut; cases d.val <;> rfl

theorem DD.getpart_cases (d : DD) (o l : Nat) :
    (∃ v, d.getpart o l = (some v, l - v.len) ∧ v.memBytes d.endian = (d.memBytes.drop o).take l) ∨
    ((d.getpart o l).1 = none ∧ d.len ≤ o) := by
  unfold DD.getpart
  by_cases h : o = 0 ∧ l = d.len
  · obtain ⟨rfl, rfl⟩ := h
    refine .inl ⟨d.val, by rw [if_pos ⟨rfl, rfl⟩, DD.len, Nat.sub_self], ?_⟩
    exact (List.take_of_length_le (Nat.le_of_eq (DD.memBytes_length d))).symm
  · rw [if_neg h]
    unfold DD.memBytes
    cases d.val with
    | raw bs => exact .inl ⟨_, rfl, by rw [Val.memBytes, Val.memBytes, List.map_take, List.map_drop]⟩
    | ex e =>
      dsimp only
      by_cases h2 : o ≥ d.len
      · exact .inr ⟨by rw [if_pos h2], h2⟩
      · refine .inl ⟨_, by rw [if_neg h2]; rfl, ?_⟩
        rw [Ex.bytes_mem, Option.getD_some, Nat.add_sub_cancel_left]

theorem DD.getpart_spec (d : DD) (o l : Nat) (ho : o < d.len) :
    ∃ v, d.getpart o l = (some v, l - v.len) ∧ v.memBytes d.endian = (d.memBytes.drop o).take l :=
  (DD.getpart_cases d o l).resolve_right fun h => Nat.not_le_of_lt ho h.2

theorem DD.partVal_memBytes (d : DD) (o l : Nat) :
    (d.partVal o l).memBytes d.endian = (d.memBytes.drop o).take l := by
  unfold DD.partVal
  rcases DD.getpart_cases d o l with ⟨v, hv, hm⟩ | ⟨hn, ho⟩
  · rw [hv]; exact hm
  · rw [hn, List.drop_of_length_le (by rw [DD.memBytes_length]; exact ho), List.take_nil]; rfl

def flat (P : List DD) : List ByteDesc := P.flatMap DD.memBytes

theorem flat_cons (p : DD) (P : List DD) : flat (p :: P) = p.memBytes ++ flat P := List.flatMap_cons

theorem flat_singleton (p : DD) : flat [p] = p.memBytes := List.append_nil _

theorem flat_append (P Q : List DD) : flat (P ++ Q) = flat P ++ flat Q := List.flatMap_append

theorem DD.mergeGo_spec (cur : DD) (P : List DD) :
    flat (DD.mergeGo cur P) = cur.memBytes ++ flat P ∧ DD.mergeGo cur P ≠ [] ∧
    (0 < cur.len → (∀ p ∈ P, 0 < p.len) → ∀ q ∈ DD.mergeGo cur P, 0 < q.len) := by
  induction P generalizing cur with
  | nil => exact ⟨rfl, List.cons_ne_nil _ _, fun hc _ q hq => List.mem_singleton.mp hq ▸ hc⟩
  | cons p rest ih =>
    unfold DD.mergeGo
    split
    · rename_i a b ha hb
      obtain ⟨h1, h2, h3⟩ := ih { cur with val := .raw (a ++ b) }
      refine ⟨?_, h2, fun hc hP => h3 ?_ fun q hq => hP q (List.mem_cons_of_mem _ hq)⟩
      · rw [h1, flat_cons, ← List.append_assoc]
        simp only [DD.memBytes, ha, hb, Val.memBytes, List.map_append]
      · simp only [DD.len, ha, Val.len] at hc
        simp only [DD.len, Val.len, List.length_append]
        omega
    · obtain ⟨h1, _, h3⟩ := ih p
      refine ⟨by rw [flat_cons, h1, flat_cons], List.cons_ne_nil _ _, fun hc hP q hq => ?_⟩
      rcases List.mem_cons.mp hq with rfl | h
      · exact hc
      · exact h3 (hP p List.mem_cons_self) (fun q hq => hP q (List.mem_cons_of_mem _ hq)) q h

theorem DD.mergeparts_spec (P : List DD) (h : P ≠ []) :
    flat (DD.mergeparts P) = flat P ∧ DD.mergeparts P ≠ [] ∧
    ((∀ p ∈ P, 0 < p.len) → ∀ q ∈ DD.mergeparts P, 0 < q.len) := by
  cases P with
  | nil => exact absurd rfl h
  | cons p rest =>
    obtain ⟨h1, h2, h3⟩ := DD.mergeGo_spec p rest
    exact ⟨h1.trans (flat_cons p rest).symm, h2, fun hP =>
      h3 (hP p List.mem_cons_self) fun q hq => hP q (List.mem_cons_of_mem _ hq)⟩

/-- the part of `d` that `setpart` keeps before (after) the new data: bytes `[a, a + n)`, present when `c`. -/
def DD.keep (d : DD) (c : Prop) [Decidable c] (a n : Nat) : List DD :=
  if c then [DD.new (d.partVal a n) d.endian] else []

theorem DD.keep_flat (d : DD) (c : Prop) [Decidable c] (a n : Nat) (hn : ¬ c → n = 0) :
    flat (d.keep c a n) = (d.memBytes.drop a).take n := by
  unfold DD.keep
  by_cases hc : c
  · rw [if_pos hc, flat_singleton, DD.new_memBytes, DD.partVal_memBytes]
  · rw [if_neg hc, hn hc]; rfl

theorem DD.keep_pos (d : DD) (c : Prop) [Decidable c] (a n : Nat) (hp : c → 0 < n ∧ a < d.len) :
    ∀ q ∈ d.keep c a n, 0 < q.len := by
  unfold DD.keep
  by_cases hc : c
  · intro q hq
    rw [if_pos hc] at hq
    rw [List.mem_singleton.mp hq, DD.new_len, ← Val.memBytes_length _ d.endian, DD.partVal_memBytes,
      List.length_take, List.length_drop, DD.memBytes_length]
    have := hp hc
    omega
  · rw [if_neg hc]; intro q hq; cases hq

/-- the candidate parts of `setpart` before merging. -/
def DD.setparts (d : DD) (o : Nat) (data : Val) (en : Endian) : List DD :=
  d.keep (o > 0) 0 o ++ [DD.new data en] ++ d.keep (o + data.len < d.len) (o + data.len) (d.len - (o + data.len))

theorem DD.setpart_eq (d : DD) (o : Nat) (data : Val) (en : Endian) :
    d.setpart o data en = DD.mergeparts (d.setparts o data en) := by
  unfold DD.setpart DD.setparts DD.keep
  by_cases h1 : o > 0 <;> by_cases h2 : o + data.len < d.len <;> simp [h1, h2]

theorem DD.setpart_spec (d : DD) (o : Nat) (data : Val) (en : Endian) :
    flat (d.setpart o data en) = d.memBytes.take o ++ data.memBytes en ++ d.memBytes.drop (o + data.len) ∧
    d.setpart o data en ≠ [] ∧
    (o ≤ d.len → 0 < data.len → ∀ q ∈ d.setpart o data en, 0 < q.len) := by
  obtain ⟨h1, h2, h3⟩ := DD.mergeparts_spec (d.setparts o data en) (by unfold DD.setparts; simp)
  rw [DD.setpart_eq]
  refine ⟨?_, h2, fun ho hd => h3 fun q hq => ?_⟩
  · rw [h1, DD.setparts, flat_append, flat_append, d.keep_flat _ 0 o (by omega), d.keep_flat _ _ _ (by omega),
      flat_singleton, DD.new_memBytes, List.drop_zero,
      List.take_of_length_le (l := d.memBytes.drop _) (by rw [List.length_drop, DD.memBytes_length]; exact Nat.le_refl _)]
  · rcases List.mem_append.mp hq with hq | hq
    · rcases List.mem_append.mp hq with hq | hq
      · exact d.keep_pos _ 0 o (by omega) q hq
      · rw [List.mem_singleton.mp hq, DD.new_len]; exact hd
    · exact d.keep_pos _ _ _ (by omega) q hq

theorem Mo.fin_eq (o : Mo) : o.fin = o.vaddr + (o.len : Int) := rfl
theorem Mo.len_eq (o : Mo) : o.len = o.data.memBytes.length := (DD.memBytes_length _).symm
theorem Mo.lt_fin (o : Mo) (h : 0 < o.len) : o.vaddr < o.fin := by rw [Mo.fin_eq]; omega

def ZoneWF (m : List Mo) : Prop := (∀ o ∈ m, 0 < o.len) ∧ m.Pairwise (fun a b => a.fin ≤ b.vaddr)

theorem ZoneWF.nil : ZoneWF [] := ⟨by simp, List.Pairwise.nil⟩

theorem zoneWF_cons (x : Mo) (m : List Mo) :
    ZoneWF (x :: m) ↔ 0 < x.len ∧ (∀ y ∈ m, x.fin ≤ y.vaddr) ∧ ZoneWF m := by
  unfold ZoneWF
  simp only [List.mem_cons, forall_eq_or_imp, List.pairwise_cons]
  constructor
  · rintro ⟨⟨h1, h2⟩, h3, h4⟩; exact ⟨h1, h3, h2, h4⟩
  · rintro ⟨h1, h3, h2, h4⟩; exact ⟨⟨h1, h2⟩, h3, h4⟩

theorem zoneWF_append (m1 m2 : List Mo) :
    ZoneWF (m1 ++ m2) ↔ ZoneWF m1 ∧ ZoneWF m2 ∧ ∀ a ∈ m1, ∀ b ∈ m2, a.fin ≤ b.vaddr := by
  unfold ZoneWF
  simp only [List.mem_append, List.pairwise_append]
  constructor
  · rintro ⟨h1, h2, h3, h4⟩
    exact ⟨⟨fun o ho => h1 o (Or.inl ho), h2⟩, ⟨fun o ho => h1 o (Or.inr ho), h3⟩, h4⟩
  · rintro ⟨⟨h1, h2⟩, ⟨h3, h4⟩, h5⟩
    exact ⟨fun o ho => ho.elim (h1 o) (h3 o), h2, h4, h5⟩

theorem ZoneWF.head_le {x : Mo} {rest : List Mo} (wf : ZoneWF (x :: rest)) : ∀ o ∈ x :: rest, x.vaddr ≤ o.vaddr := by
  obtain ⟨hx, hxr, _⟩ := (zoneWF_cons x rest).mp wf
  intro o ho
  rcases List.mem_cons.mp ho with rfl | ho
  · exact Int.le_refl _
  · have := hxr o ho; have := Mo.lt_fin x hx; omega

/-- the byte map that holds `bs` from address `v` on: `absMo o` is `place o.vaddr o.data.memBytes` and
    `absWrite a v en` is `place a (v.memBytes en)`, both by definition. -/
def place (v : Int) (bs : List ByteDesc) : ByteMap := fun q => if v ≤ q then bs[(q - v).toNat]? else none

theorem place_eq_none_iff (v : Int) (bs : List ByteDesc) (q : Int) :
    place v bs q = none ↔ q < v ∨ v + (bs.length : Int) ≤ q := by
  unfold place
  by_cases h : v ≤ q
  · rw [if_pos h, List.getElem?_eq_none_iff]; omega
  · rw [if_neg h]; exact ⟨fun _ => Or.inl (by omega), fun _ => rfl⟩

theorem place_append (v : Int) (xs ys : List ByteDesc) (q : Int) :
    place v (xs ++ ys) q = (place v xs q).or (place (v + (xs.length : Int)) ys q) := by
  unfold place
  by_cases h : v ≤ q
  · rw [if_pos h, if_pos h]
    by_cases h2 : v + (xs.length : Int) ≤ q
    · have hx : xs[(q - v).toNat]? = none := List.getElem?_eq_none_iff.mpr (by omega)
      rw [if_pos h2, hx, Option.none_or, List.getElem?_append_right (by omega)]
      congr 1; omega
    · have hi : (q - v).toNat < xs.length := by omega
      rw [if_neg h2, Option.or_none, List.getElem?_append_left hi]
  · rw [if_neg h, if_neg h, if_neg (by omega)]; rfl

theorem place_take (v : Int) (bs : List ByteDesc) (k : Nat) (q : Int) (h : q < v + (k : Int)) :
    place v (bs.take k) q = place v bs q := by
  unfold place
  by_cases hq : v ≤ q
  · rw [if_pos hq, if_pos hq, List.getElem?_take_of_lt (by omega)]
  · rw [if_neg hq, if_neg hq]

theorem place_drop (v : Int) (bs : List ByteDesc) (k : Nat) (q : Int) (h : v + (k : Int) ≤ q) :
    place (v + (k : Int)) (bs.drop k) q = place v bs q := by
  unfold place
  rw [if_pos h, if_pos (by omega), List.getElem?_drop]
  congr 1; omega

theorem place_splice (v : Int) (bs zs : List ByteDesc) (k : Nat) (hk : k ≤ bs.length) (q : Int) :
    place v (bs.take k ++ zs ++ bs.drop (k + zs.length)) q = (place (v + (k : Int)) zs q).or (place v bs q) := by
  have hl : (bs.take k).length = k := by rw [List.length_take]; omega
  have e : v + (k : Int) + (zs.length : Int) = v + ((k + zs.length : Nat) : Int) := by omega
  rw [List.append_assoc, place_append, place_append, hl]
  cases hz : place (v + (k : Int)) zs q with
  | some d =>
    have hr : ¬ (q < v + (k : Int) ∨ v + (k : Int) + (zs.length : Int) ≤ q) := fun h => by
      rw [(place_eq_none_iff _ _ _).mpr h] at hz; cases hz
    rw [(place_eq_none_iff v (bs.take k) q).mpr (Or.inr (by omega))]; rfl
  | none =>
    simp only [Option.none_or]
    rcases (place_eq_none_iff _ _ _).mp hz with h | h
    · rw [place_take v bs k q h, (place_eq_none_iff _ (bs.drop _) q).mpr (Or.inl (by omega)), Option.or_none]
    · rw [(place_eq_none_iff v (bs.take k) q).mpr (Or.inr (by omega)), Option.none_or, e,
        place_drop v bs _ q (by omega)]

theorem absMo_eq (o : Mo) (q : Int) (h : o.vaddr ≤ q) : absMo o q = o.data.memBytes[(q - o.vaddr).toNat]? :=
  if_pos h

theorem absMo_eq_none_iff {o : Mo} {q : Int} : absMo o q = none ↔ q < o.vaddr ∨ o.fin ≤ q := by
  rw [Mo.fin_eq, Mo.len_eq]; exact place_eq_none_iff _ _ _

theorem absMo_isSome_iff {o : Mo} {q : Int} : (absMo o q).isSome ↔ o.vaddr ≤ q ∧ q < o.fin := by
  rw [Option.isSome_iff_ne_none, Ne, absMo_eq_none_iff]; omega

theorem absL_singleton (o : Mo) (q : Int) : absL [o] q = absMo o q := by
  rw [absL_cons, absL_nil, Option.or_none]

theorem absL_none_of (m : List Mo) (q : Int) (h : ∀ o ∈ m, q < o.vaddr ∨ o.fin ≤ q) : absL m q = none := by
  induction m with
  | nil => rfl
  | cons o m ih =>
    rw [absL_cons, absMo_eq_none_iff.mpr (h o List.mem_cons_self),
      ih (fun o ho => h o (List.mem_cons_of_mem _ ho))]; rfl

theorem Mo.new_vaddr (v : Int) (d : Val) (e : Endian) : (Mo.new v d e).vaddr = v := rfl
theorem Mo.new_memBytes (v : Int) (d : Val) (e : Endian) : (Mo.new v d e).data.memBytes = d.memBytes e :=
  DD.new_memBytes d e
theorem Mo.new_len (v : Int) (d : Val) (e : Endian) : (Mo.new v d e).len = d.len := DD.new_len d e
theorem Mo.new_fin (v : Int) (d : Val) (e : Endian) : (Mo.new v d e).fin = v + (d.len : Int) := by
  rw [Mo.fin_eq, Mo.new_len]; rfl

def absWrite (a : Int) (v : Val) (en : Endian) : ByteMap := fun q =>
  if a ≤ q then (v.memBytes en)[(q - a).toNat]? else none

theorem absMo_new (a : Int) (v : Val) (en : Endian) : absMo (Mo.new a v en) = absWrite a v en :=
  congrArg (place a) (Mo.new_memBytes a v en)

theorem copy_absMo (o : Mo) : absMo o.copy = absMo o :=
  congrArg (place o.vaddr) (Mo.new_memBytes _ _ _)
theorem copy_len (o : Mo) : o.copy.len = o.len := Mo.new_len _ _ _
theorem copy_vaddr (o : Mo) : o.copy.vaddr = o.vaddr := rfl
theorem copy_fin (o : Mo) : o.copy.fin = o.fin := by rw [Mo.fin_eq, Mo.fin_eq, copy_len, copy_vaddr]

def Contig : Int → List Mo → Prop
  | _, [] => True
  | v, o :: ms => o.vaddr = v ∧ Contig o.fin ms

def flatM (ms : List Mo) : List ByteDesc := ms.flatMap (fun o => o.data.memBytes)

theorem flatM_cons (o : Mo) (ms : List Mo) : flatM (o :: ms) = o.data.memBytes ++ flatM ms := List.flatMap_cons

theorem Contig.absL {v : Int} {ms : List Mo} (h : Contig v ms) (q : Int) : absL ms q = place v (flatM ms) q := by
  induction ms generalizing v with
  | nil => exact ((place_eq_none_iff v [] q).mpr (by rw [List.length_nil]; omega)).symm
  | cons o ms ih =>
    obtain ⟨rfl, h2⟩ := h
    rw [absL_cons, ih h2, flatM_cons, place_append, Mo.fin_eq, Mo.len_eq]; rfl

theorem Contig.within {v : Int} {ms : List Mo} (h : Contig v ms) :
    ∀ o ∈ ms, v ≤ o.vaddr ∧ o.fin ≤ v + ((flatM ms).length : Int) := by
  induction ms generalizing v with
  | nil => intro o ho; cases ho
  | cons o ms ih =>
    obtain ⟨rfl, h2⟩ := h
    intro w hw
    rw [flatM_cons, List.length_append, ← Mo.len_eq]
    have hf := Mo.fin_eq o
    rcases List.mem_cons.mp hw with rfl | hw
    · omega
    · have := ih h2 w hw; omega

theorem Contig.pairwise {v : Int} {ms : List Mo} (h : Contig v ms) :
    ms.Pairwise (fun a b => a.fin ≤ b.vaddr) := by
  induction ms generalizing v with
  | nil => exact List.Pairwise.nil
  | cons o ms ih => exact List.Pairwise.cons (fun w hw => (h.2.within w hw).1) (ih h.2)

theorem chain_contig (v : Int) (ps : List DD) : Contig v (Mo.chain v ps) := by
  induction ps generalizing v with
  | nil => trivial
  | cons p ps ih => exact ⟨rfl, Mo.new_fin v p.val p.endian ▸ ih _⟩

theorem chain_flatM (v : Int) (ps : List DD) : flatM (Mo.chain v ps) = flat ps := by
  induction ps generalizing v with
  | nil => rfl
  | cons p ps ih => rw [Mo.chain, flatM_cons, flat_cons, ih, Mo.new_memBytes]; rfl

theorem chain_pos (v : Int) (ps : List DD) (h : ∀ p ∈ ps, 0 < p.len) : ∀ o ∈ Mo.chain v ps, 0 < o.len := by
  induction ps generalizing v with
  | nil => intro o ho; cases ho
  | cons p ps ih =>
    intro o ho
    rcases List.mem_cons.mp ho with rfl | ho
    · rw [Mo.new_len]; exact h p List.mem_cons_self
    · exact ih _ (fun p hp => h p (List.mem_cons_of_mem _ hp)) o ho

/-- the objects replacing `o` after `o.write(z.vaddr, z.data.val, z.data.endian)`. -/
def writeL (o z : Mo) : List Mo :=
  let r := o.write z.vaddr z.data.val z.data.endian
  r.1 :: r.2

theorem writeL_in (o z : Mo) (h1 : o.vaddr ≤ z.vaddr) (h2 : z.vaddr ≤ o.fin) :
    Contig o.vaddr (writeL o z) ∧
    flatM (writeL o z) = o.data.memBytes.take (z.vaddr - o.vaddr).toNat ++ z.data.memBytes ++
        o.data.memBytes.drop ((z.vaddr - o.vaddr).toNat + z.len) ∧
    ((0 < z.len) → ∀ w ∈ writeL o z, 0 < w.len) := by
  have hc : (o.contains z.vaddr || z.vaddr == o.fin) = true := by
    simp only [Mo.contains, Bool.or_eq_true, Bool.and_eq_true, decide_eq_true_eq, beq_iff_eq]; omega
  have hk : (z.vaddr - o.vaddr).toNat ≤ o.data.len := by
    rw [Mo.fin_eq] at h2; unfold Mo.len at h2; omega
  unfold writeL Mo.write
  rw [if_pos hc]
  obtain ⟨hf, hn, hp⟩ := DD.setpart_spec o.data (z.vaddr - o.vaddr).toNat z.data.val z.data.endian
  replace hp := hp hk
  cases hs : o.data.setpart (z.vaddr - o.vaddr).toNat z.data.val z.data.endian with
  | nil => exact absurd hs hn
  | cons p0 ps =>
    rw [hs] at hf hp
    refine ⟨⟨rfl, chain_contig _ _⟩, ?_, fun hz w hw => ?_⟩
    · rw [flatM_cons, chain_flatM, ← flat_cons]; exact hf
    · rcases List.mem_cons.mp hw with rfl | hw
      · exact hp hz p0 List.mem_cons_self
      · exact chain_pos _ ps (fun p hp2 => hp hz p (List.mem_cons_of_mem _ hp2)) w hw

theorem writeL_out (o z : Mo) (h2 : o.fin < z.vaddr) : writeL o z = [o, z.copy] := by
  have hc : (o.contains z.vaddr || z.vaddr == o.fin) = false := by
    simp only [Mo.contains, Bool.or_eq_false_iff, Bool.and_eq_false_iff, decide_eq_false_iff_not, beq_eq_false_iff_ne]
    omega
  unfold writeL Mo.write
  rw [hc]; rfl

theorem gap_spec (x z : Mo) (h : x.fin ≤ z.vaddr) (hx : 0 < x.len) (hz : 0 < z.len) :
    ZoneWF [x, z] ∧ (∀ w ∈ [x, z], x.vaddr ≤ w.vaddr ∧ w.fin ≤ max x.fin z.fin) ∧
    ∀ q, absL [x, z] q = (absMo z q).or (absMo x q) := by
  have hfx := Mo.fin_eq x
  have hfz := Mo.fin_eq z
  have wfz : ZoneWF [z] := (zoneWF_cons z []).mpr ⟨hz, fun _ hy => (nomatch hy), ZoneWF.nil⟩
  refine ⟨(zoneWF_cons x [z]).mpr ⟨hx, fun y hy => List.mem_singleton.mp hy ▸ h, wfz⟩, ?_, fun q => ?_⟩
  · intro w hw
    rcases List.mem_cons.mp hw with rfl | hw
    · omega
    · rw [List.mem_singleton.mp hw]; omega
  · rw [absL_cons, absL_singleton]
    cases hxq : absMo x q with
    | none => rw [Option.none_or, Option.or_none]
    | some d =>
      have := absMo_isSome_iff.mp (hxq ▸ rfl : (absMo x q).isSome)
      rw [absMo_eq_none_iff.mpr (Or.inl (by omega))]; rfl

theorem writeL_spec (o z : Mo) (h1 : o.vaddr ≤ z.vaddr) (ho : 0 < o.len) (hz : 0 < z.len) :
    ZoneWF (writeL o z) ∧ (∀ w ∈ writeL o z, o.vaddr ≤ w.vaddr ∧ w.fin ≤ max o.fin z.fin) ∧
    ∀ q, absL (writeL o z) q = (absMo z q).or (absMo o q) := by
  by_cases h2 : z.vaddr ≤ o.fin
  · obtain ⟨hc, hf, hp⟩ := writeL_in o z h1 h2
    have hfo := Mo.fin_eq o
    have hk : (z.vaddr - o.vaddr).toNat ≤ o.data.memBytes.length := by rw [← Mo.len_eq]; omega
    refine ⟨⟨hp hz, hc.pairwise⟩, fun w hw => ?_, fun q => ?_⟩
    · have := hc.within w hw
      rw [hf, List.length_append, List.length_append, List.length_take, List.length_drop, ← Mo.len_eq,
        ← Mo.len_eq] at this
      have hfz := Mo.fin_eq z
      omega
    · have e : o.vaddr + ((z.vaddr - o.vaddr).toNat : Int) = z.vaddr := by omega
      rw [hc.absL q, hf, Mo.len_eq z, place_splice _ _ _ _ hk, e]; rfl
  · rw [writeL_out o z (by omega)]
    have := gap_spec o z.copy (by rw [copy_vaddr]; omega) ho (by rw [copy_len]; exact hz)
    rw [copy_fin, copy_absMo] at this
    exact this

theorem contains_iff (y : Mo) (b : Int) : y.contains b = true ↔ y.vaddr ≤ b ∧ b < y.fin := by
  simp [Mo.contains]

theorem trim_props (y : Mo) (b : Int) (h : y.contains b = true) :
    (y.trim b).vaddr = b ∧ (y.trim b).fin = y.fin ∧
    (y.trim b).data.memBytes = y.data.memBytes.drop (b - y.vaddr).toNat := by
  have hr := (contains_iff y b).mp h
  have hf := Mo.fin_eq y
  unfold Mo.trim
  rw [if_pos h]
  dsimp only
  by_cases hl : (b - y.vaddr).toNat > 0
  · rw [if_pos hl]
    refine ⟨rfl, ?_, DD.cut_memBytes _ _⟩
    have h1 : (y.data.cut (b - y.vaddr).toNat).len = y.data.len - (b - y.vaddr).toNat := by
      rw [← DD.memBytes_length, DD.cut_memBytes, List.length_drop, DD.memBytes_length]
    unfold Mo.len at hf
    simp only [Mo.fin, h1]
    omega
  · rw [if_neg hl]
    have : (b - y.vaddr).toNat = 0 := by omega
    refine ⟨rfl, ?_, by rw [this]; rfl⟩
    simp only [Mo.fin]; omega

theorem trim_abs (y : Mo) (b : Int) (h : y.contains b = true) (q : Int) :
    absMo (y.trim b) q = if b ≤ q then absMo y q else none := by
  obtain ⟨h1, _, h3⟩ := trim_props y b h
  have hr := (contains_iff y b).mp h
  have e : y.vaddr + ((b - y.vaddr).toNat : Int) = b := by omega
  show place (y.trim b).vaddr (y.trim b).data.memBytes q = _
  rw [h1, h3]
  by_cases hq : b ≤ q
  · have := place_drop y.vaddr y.data.memBytes (b - y.vaddr).toNat q (by omega)
    rw [e] at this
    rw [if_pos hq]; exact this
  · rw [if_neg hq]; exact (place_eq_none_iff _ _ _).mpr (Or.inl (by omega))

theorem locate_cons_eq (a : Int) (p : List Int) : locate (a :: p) a = some 0 := by
  simp [locate]

theorem locate_cons_lt (x a : Int) (p : List Int) (h : x < a) :
    locate (x :: p) a = some ((locate p a).elim 0 (· + 1)) := by
  have hax : (a == x) = false := beq_false_of_ne (by omega)
  have hxa : (x == a) = false := beq_false_of_ne (by omega)
  unfold locate bisectLeft
  rw [List.contains_cons, hax, Bool.false_or, List.takeWhile_cons, decide_eq_true h, if_pos rfl, List.length_cons]
  by_cases hc : p.contains a = true
  · rw [if_pos hc, if_pos hc, List.idxOf_cons, hxa]; rfl
  · rw [if_neg hc, if_neg hc]
    cases (p.takeWhile fun y => decide (y < a)).length <;> rfl

theorem locate_none_of (p : List Int) (a : Int) (h : ∀ y ∈ p, a < y) : locate p a = none := by
  unfold locate
  have hc : ¬ p.contains a = true := by
    rw [List.contains_iff_mem]
    intro hm; have := h a hm; omega
  rw [if_neg hc]
  cases p with
  | nil => rfl
  | cons y p =>
    have : ¬ y < a := by have := h y List.mem_cons_self; omega
    simp [bisectLeft, this]

def starts (m : List Mo) : List Int := m.map Mo.vaddr

theorem locateM_none_of (m : List Mo) (a : Int) (h : ∀ y ∈ m, a < y.vaddr) : locate (starts m) a = none := by
  apply locate_none_of
  intro y hy
  obtain ⟨o, ho, rfl⟩ := List.mem_map.mp hy
  exact h o ho

theorem locateM_of_decomp (pre : List Mo) (x : Mo) (post : List Mo) (a : Int)
    (wf : ZoneWF (pre ++ x :: post)) (h1 : x.vaddr ≤ a) (h2 : ∀ y ∈ post, a < y.vaddr) :
    locate (starts (pre ++ x :: post)) a = some pre.length := by
  induction pre with
  | nil =>
    by_cases h : x.vaddr = a
    · exact h ▸ locate_cons_eq _ _
    · exact (locate_cons_lt x.vaddr a (starts post) (by omega)).trans (by rw [locateM_none_of post a h2]; rfl)
  | cons w pre ih =>
    obtain ⟨hw, hwm, wfm⟩ := (zoneWF_cons w _).mp wf
    have := Mo.lt_fin w hw
    have := hwm x (List.mem_append_right _ List.mem_cons_self)
    exact (locate_cons_lt w.vaddr a (starts (pre ++ x :: post)) (by omega)).trans (by rw [ih wfm]; rfl)

theorem exists_split (m : List Mo) (a : Int) :
    (∀ y ∈ m, a < y.vaddr) ∨
    ∃ pre x post, m = pre ++ x :: post ∧ x.vaddr ≤ a ∧ ∀ y ∈ post, a < y.vaddr := by
  induction m with
  | nil => exact .inl fun y hy => nomatch hy
  | cons x m ih =>
    rcases ih with h | ⟨pre, x', post, rfl, hx', hpost⟩
    · by_cases hx : x.vaddr ≤ a
      · exact .inr ⟨[], x, m, rfl, hx, h⟩
      · exact .inl fun y hy => by
          rcases List.mem_cons.mp hy with rfl | hy
          · omega
          · exact h y hy
    · exact .inr ⟨x :: pre, x', post, rfl, hx', hpost⟩

theorem locateM_spec (m : List Mo) (a : Int) (wf : ZoneWF m) :
    match locate (starts m) a with
    | none => ∀ y ∈ m, a < y.vaddr
    | some i => ∃ pre x post, m = pre ++ x :: post ∧ pre.length = i ∧ x.vaddr ≤ a ∧ ∀ y ∈ post, a < y.vaddr := by
  rcases exists_split m a with h | ⟨pre, x, post, rfl, hx, hpost⟩
  · rw [locateM_none_of m a h]; exact h
  · rw [locateM_of_decomp pre x post a wf hx hpost]; exact ⟨pre, x, post, rfl, rfl, hx, hpost⟩

theorem locateM_none (m : List Mo) (a : Int) (wf : ZoneWF m) (h : locate (starts m) a = none) :
    ∀ y ∈ m, a < y.vaddr := by
  have := locateM_spec m a wf; rw [h] at this; exact this

theorem locateM_some (m : List Mo) (a : Int) (i : Nat) (wf : ZoneWF m) (h : locate (starts m) a = some i) :
    ∃ pre x post, m = pre ++ x :: post ∧ pre.length = i ∧ x.vaddr ≤ a ∧ ∀ y ∈ post, a < y.vaddr := by
  have := locateM_spec m a wf; rw [h] at this; exact this

/-- what remains of `y`, the last object that starts at or before `b = z.end` (it need not reach `b`),
    and of everything after it. -/
def tailPart (y : Mo) (post : List Mo) (b : Int) : List Mo :=
  if y.contains b then y.trim b :: post else post

/-- what replaces the object `x` in which (or after which) `z` starts. -/
def headPart (x z : Mo) : List Mo := if z.vaddr ≤ x.fin then writeL x z else [x, z]

theorem getElem?_mid (pre : List Mo) (x : Mo) (post : List Mo) : (pre ++ x :: post)[pre.length]? = some x := by
  rw [List.getElem?_append_right (Nat.le_refl _), Nat.sub_self]; rfl

/-- the `trim` step of `addtomap` on the object `y` at index `A.length`. -/
theorem trimStep (A : List Mo) (y : Mo) (post : List Mo) (b : Int) :
    ∃ y' j1, (if y.contains b = true then ((A ++ y :: post).set A.length (y.trim b), A.length)
        else (A ++ y :: post, A.length + 1)) = (A ++ y' :: post, j1) ∧
      (A ++ y' :: post).drop j1 = tailPart y post b := by
  unfold tailPart
  by_cases hc : y.contains b = true
  · refine ⟨y.trim b, A.length, ?_, by rw [if_pos hc, List.drop_left' rfl]⟩
    rw [if_pos hc, List.set_append_right _ _ (Nat.le_refl _), Nat.sub_self]; rfl
  · exact ⟨y, A.length + 1, by rw [if_neg hc], by rw [if_neg hc, List.drop_length_add_append]; rfl⟩

theorem addtomapL_none (p : List Int) (m : List Mo) (z : Mo) (h : locate p z.fin = none) :
    addtomapL p m z = z :: m := by
  unfold addtomapL; simp only [h]

theorem addtomapL_same (p : List Int) (pre : List Mo) (y : Mo) (post : List Mo) (z : Mo)
    (hj : locate p z.fin = some pre.length) (hi : locate p z.vaddr = some pre.length) :
    addtomapL p (pre ++ y :: post) z = pre ++ writeL y z ++ post := by
  unfold addtomapL
  simp only [hj, hi, if_true, getElem?_mid]
  rw [List.take_left' rfl, List.drop_length_add_append]; rfl

theorem addtomapL_diff_none (p : List Int) (A : List Mo) (y : Mo) (post : List Mo) (z : Mo)
    (hj : locate p z.fin = some A.length) (hi : locate p z.vaddr = none) :
    addtomapL p (A ++ y :: post) z = z :: tailPart y post z.fin := by
  obtain ⟨y', j1, hs, hd⟩ := trimStep A y post z.fin
  unfold addtomapL
  simp only [hj, hi, reduceCtorEq, if_false, getElem?_mid, hs, hd]

theorem addtomapL_diff_some (p : List Int) (pre : List Mo) (x : Mo) (mid : List Mo) (y : Mo) (post : List Mo)
    (z : Mo) (hj : locate p z.fin = some (pre ++ x :: mid).length) (hi : locate p z.vaddr = some pre.length) :
    addtomapL p ((pre ++ x :: mid) ++ y :: post) z =
      pre ++ headPart x z ++ tailPart y post z.fin := by
  obtain ⟨y', j1, hs, hd⟩ := trimStep (pre ++ x :: mid) y post z.fin
  have hne : ¬ pre.length = (pre ++ x :: mid).length := by
    rw [List.length_append, List.length_cons]; omega
  unfold addtomapL headPart
  simp only [hj, hi, Option.some.injEq, hne, if_false, getElem?_mid, hs, hd]
  rw [List.append_assoc pre, List.cons_append, getElem?_mid]
  by_cases hx : z.vaddr ≤ x.fin
  · simp only [hx, if_true]; rw [List.take_left' rfl]; rfl
  · simp only [hx, if_false]; rw [List.take_length_add_append]; simp

theorem tailPart_abs (y : Mo) (post : List Mo) (b q : Int) (hy : y.vaddr ≤ b) :
    absL (tailPart y post b) q = if b ≤ q then absL (y :: post) q else absL post q := by
  unfold tailPart
  by_cases hc : y.contains b = true
  · rw [if_pos hc, absL_cons, absL_cons, trim_abs y b hc]
    by_cases hq : b ≤ q
    · rw [if_pos hq, if_pos hq]
    · rw [if_neg hq, if_neg hq]; rfl
  · have : y.fin ≤ b := by rw [contains_iff] at hc; omega
    rw [if_neg hc]
    by_cases hq : b ≤ q
    · rw [if_pos hq, absL_cons, absMo_eq_none_iff.mpr (Or.inr (by omega))]; rfl
    · rw [if_neg hq]

theorem tailPart_wf (y : Mo) (post : List Mo) (b : Int) (wf : ZoneWF (y :: post)) (hp : ∀ w ∈ post, b < w.vaddr) :
    ZoneWF (tailPart y post b) ∧ ∀ w ∈ tailPart y post b, b ≤ w.vaddr := by
  obtain ⟨hy, hyp, wfp⟩ := (zoneWF_cons y post).mp wf
  have hpost : ∀ w ∈ post, b ≤ w.vaddr := fun w hw => Int.le_of_lt (hp w hw)
  unfold tailPart
  by_cases hc : y.contains b = true
  · obtain ⟨t1, t2, _⟩ := trim_props y b hc
    have hr := (contains_iff y b).mp hc
    have hf := Mo.fin_eq (y.trim b)
    rw [if_pos hc]
    exact ⟨(zoneWF_cons _ post).mpr ⟨by omega, t2 ▸ hyp, wfp⟩, fun w hw =>
      (List.mem_cons.mp hw).elim (fun e => e ▸ Int.le_of_eq t1.symm) (hpost w)⟩
  · rw [if_neg hc]
    exact ⟨wfp, hpost⟩

theorem headPart_spec (x z : Mo) (h1 : x.vaddr ≤ z.vaddr) (hx : 0 < x.len) (hz : 0 < z.len) :
    ZoneWF (headPart x z) ∧ (∀ w ∈ headPart x z, x.vaddr ≤ w.vaddr ∧ w.fin ≤ max x.fin z.fin) ∧
    ∀ q, absL (headPart x z) q = (absMo z q).or (absMo x q) := by
  unfold headPart
  by_cases h2 : z.vaddr ≤ x.fin
  · rw [if_pos h2]; exact writeL_spec x z h1 hx hz
  · rw [if_neg h2]; exact gap_spec x z (by omega) hx hz

theorem zoneWF_splice (pre H T : List Mo) (lo hi : Int) (hlh : lo ≤ hi)
    (wfp : ZoneWF pre) (wfH : ZoneWF H) (wfT : ZoneWF T)
    (h1 : ∀ p ∈ pre, p.fin ≤ lo) (h2 : ∀ w ∈ H, lo ≤ w.vaddr ∧ w.fin ≤ hi) (h3 : ∀ t ∈ T, hi ≤ t.vaddr) :
    ZoneWF (pre ++ H ++ T) := by
  rw [zoneWF_append, zoneWF_append]
  refine ⟨⟨wfp, wfH, ?_⟩, wfT, ?_⟩
  · intro a ha b hb; have := h1 a ha; have := (h2 b hb).1; omega
  · intro a ha b hb
    have := h3 b hb
    rcases List.mem_append.mp ha with ha | ha
    · have := h1 a ha; omega
    · have := (h2 a ha).2; omega

/-- replacing the part `X ++ R` of a zone after `pre` by `H ++ T` is writing `z` over it, when `H` is
    `z` written over `X` and `T` agrees with `R` outside `z`. -/
theorem absL_sandwich (pre X H R T : List Mo) (z : Mo) (q : Int)
    (hpre : ∀ p ∈ pre, p.fin ≤ z.vaddr)
    (hH : absL H q = (absMo z q).or (absL X q))
    (hT : absMo z q = none → absL T q = absL R q) :
    absL (pre ++ H ++ T) q = (absMo z q).or (absL (pre ++ X ++ R) q) := by
  rw [absL_append, absL_append, absL_append, absL_append, hH]
  cases hz : absMo z q with
  | none => rw [hT hz]; simp only [Option.none_or]
  | some d =>
    have := absMo_isSome_iff.mp (hz ▸ rfl : (absMo z q).isSome)
    rw [absL_none_of pre q (fun p hp => Or.inr (by have := hpre p hp; omega))]; rfl

theorem tailPart_mid (mid : List Mo) (y : Mo) (post : List Mo) (z : Mo) (q : Int)
    (wf : ZoneWF (mid ++ y :: post)) (hmid : ∀ p ∈ mid, z.vaddr < p.vaddr) (hyz : z.vaddr < y.vaddr)
    (hyb : y.vaddr ≤ z.fin) (hq : absMo z q = none) :
    absL (tailPart y post z.fin) q = absL (mid ++ y :: post) q := by
  obtain ⟨_, wfyp, hmy⟩ := (zoneWF_append mid (y :: post)).mp wf
  rw [absL_append, tailPart_abs y post z.fin q hyb]
  rcases absMo_eq_none_iff.mp hq with hq | hq
  · rw [if_neg (by omega), absL_none_of mid q (fun p hp => Or.inl (by have := hmid p hp; omega)), Option.none_or,
      absL_cons, absMo_eq_none_iff.mpr (Or.inl (by omega))]; rfl
  · rw [if_pos hq, absL_none_of mid q (fun p hp => Or.inr (by
      have := hmy p hp y List.mem_cons_self; omega))]; rfl

/-- `addtomap` on a well-formed zone: the result is well formed and is "z written over m". -/
theorem addtomapL_spec (m : List Mo) (z : Mo) (wf : ZoneWF m) (hz : 0 < z.len) :
    ZoneWF (addtomapL (starts m) m z) ∧
    ∀ q, absL (addtomapL (starts m) m z) q = (absMo z q).or (absL m q) := by
  have hab := Mo.lt_fin z hz
  -- `j = locate(z.end)`: none, or the index `A.length` of `y`
  rcases exists_split m z.fin with hall | ⟨A, y, post, rfl, hyb, hpost⟩
  · rw [addtomapL_none _ _ _ (locateM_none_of m z.fin hall)]
    exact ⟨(zoneWF_cons z m).mpr ⟨hz, fun y hy => by have := hall y hy; omega, wf⟩, fun q => absL_cons z m q⟩
  have hj := locateM_of_decomp A y post z.fin wf hyb hpost
  obtain ⟨wfA, wfyp, hAyp⟩ := (zoneWF_append A (y :: post)).mp wf
  obtain ⟨hy, hyp, wfp⟩ := (zoneWF_cons y post).mp wfyp
  have hyf := Mo.lt_fin y hy
  have hA : ∀ p ∈ A, p.fin ≤ y.vaddr := fun p hp => hAyp p hp y List.mem_cons_self
  by_cases hya : y.vaddr ≤ z.vaddr
  · -- `z` starts in (or after) `y`, the last object that starts at or before `z.end`: `j == i`
    rw [addtomapL_same _ _ _ _ _ hj
      (locateM_of_decomp A y post z.vaddr wf hya fun w hw => by have := hpost w hw; omega)]
    obtain ⟨wfH, hH, aH⟩ := writeL_spec y z hya hy hz
    refine ⟨zoneWF_splice A (writeL y z) post y.vaddr (max y.fin z.fin) (by omega) wfA wfH wfp hA hH
      (fun t ht => by have := hpost t ht; have := hyp t ht; omega), fun q => ?_⟩
    have := absL_sandwich A [y] (writeL y z) post post z q (fun p hp => by have := hA p hp; omega)
      (by rw [aH, absL_singleton]) (fun _ => rfl)
    rw [List.append_assoc A [y] post] at this
    exact this
  -- `j != i`: the objects from `z.vaddr` on start after it
  have hgt : ∀ w ∈ y :: post, z.vaddr < w.vaddr := fun w hw =>
    (List.mem_cons.mp hw).elim (fun e => by rw [e]; omega) fun hw => by have := hpost w hw; omega
  obtain ⟨wfT, hT⟩ := tailPart_wf y post z.fin wfyp hpost
  -- `i = locate(z.vaddr)`, to be found among the objects before `y`: none, or the index `pre.length` of `x`
  rcases exists_split A z.vaddr with hallA | ⟨pre, x, mid, rfl, hxa, hmid⟩
  · rw [addtomapL_diff_none _ _ _ _ _ hj
      (locateM_none_of _ z.vaddr fun w hw => (List.mem_append.mp hw).elim (hallA w) (hgt w))]
    exact ⟨(zoneWF_cons z _).mpr ⟨hz, hT, wfT⟩, fun q =>
      absL_sandwich [] [] [z] (A ++ y :: post) _ z q (fun _ hp => nomatch hp) (absL_cons z [] q)
        (tailPart_mid A y post z q wf hallA (by omega) hyb)⟩
  · have wf' : ZoneWF (pre ++ x :: (mid ++ y :: post)) := by rw [List.append_assoc] at wf; exact wf
    have hi : locate (starts ((pre ++ x :: mid) ++ y :: post)) z.vaddr = some pre.length := by
      rw [List.append_assoc]
      exact locateM_of_decomp pre x _ z.vaddr wf' hxa fun w hw => (List.mem_append.mp hw).elim (hmid w) (hgt w)
    rw [addtomapL_diff_some _ _ _ _ _ _ _ hj hi]
    obtain ⟨wfpre, wfxR, hpx⟩ := (zoneWF_append pre _).mp wf'
    obtain ⟨hx, hxR, wfR⟩ := (zoneWF_cons x _).mp wfxR
    obtain ⟨wfH, hH, aH⟩ := headPart_spec x z hxa hx hz
    have hxy := hxR y (List.mem_append_right _ List.mem_cons_self)
    have hP : ∀ p ∈ pre, p.fin ≤ x.vaddr := fun p hp => hpx p hp x List.mem_cons_self
    refine ⟨zoneWF_splice pre (headPart x z) (tailPart y post z.fin) x.vaddr z.fin (by omega) wfpre wfH wfT
      hP (fun w hw => by have := hH w hw; omega) hT, fun q => ?_⟩
    have := absL_sandwich pre [x] (headPart x z) (mid ++ y :: post) _ z q
      (fun p hp => by have := hP p hp; omega) (by rw [aH, absL_singleton])
      (tailPart_mid mid y post z q wfR hmid (by omega) hyb)
    rw [List.append_assoc pre [x]] at this
    rw [List.append_assoc pre (x :: mid)]
    exact this

def window (f : ByteMap) (a : Int) (n : Nat) : List (Option ByteDesc) :=
  (List.range n).map (fun (k : Nat) => f (a + (k : Int)))

theorem window_add (f : ByteMap) (a : Int) (n1 n2 : Nat) :
    window f a (n1 + n2) = window f a n1 ++ window f (a + (n1 : Int)) n2 := by
  unfold window
  rw [List.range_add, List.map_append, List.map_map]
  congr 1
  refine List.map_congr_left fun k _ => ?_
  rw [Function.comp, Int.natCast_add, Int.add_assoc]

theorem window_congr (f g : ByteMap) (a : Int) (n : Nat) (h : ∀ k : Nat, k < n → f (a + (k : Int)) = g (a + (k : Int))) :
    window f a n = window g a n :=
  List.map_congr_left fun k hk => h k (List.mem_range.mp hk)

theorem window_gap (m : List Mo) (a : Int) (n l : Nat) (hl : l ≤ n) (h : ∀ o ∈ m, a + (l : Int) ≤ o.vaddr) :
    window (absL m) a n = List.replicate l none ++ window (absL m) (a + (l : Int)) (n - l) := by
  have hn : n = l + (n - l) := by omega
  conv => lhs; rw [hn, window_add]
  congr 1
  rw [window_congr _ (fun _ => none) a l fun k hk =>
    absL_none_of m _ fun o ho => Or.inl (by have := h o ho; omega)]
  exact List.map_const'.trans (by rw [List.length_range])

theorem window_cons_skip (x : Mo) (rest : List Mo) (a : Int) (n : Nat) (h : x.fin ≤ a) :
    window (absL (x :: rest)) a n = window (absL rest) a n :=
  window_congr _ _ a n fun k _ => by
    rw [absL_cons, absMo_eq_none_iff.mpr (Or.inr (by omega))]; rfl

theorem window_hit (x : Mo) (rest : List Mo) (a : Int) (n : Nat) (h1 : x.vaddr ≤ a) (h2 : a < x.fin)
    (bs : List ByteDesc) (hbs : bs = (x.data.memBytes.drop (a - x.vaddr).toNat).take n) :
    window (absL (x :: rest)) a n =
      bs.map some ++ window (absL rest) (a + (bs.length : Int)) (n - bs.length) := by
  obtain ⟨k, rfl⟩ : ∃ k : Nat, a = x.vaddr + (k : Int) := ⟨(a - x.vaddr).toNat, by omega⟩
  have hk : k < x.data.memBytes.length := by rw [Mo.fin_eq, Mo.len_eq] at h2; omega
  rw [show (x.vaddr + (k : Int) - x.vaddr).toNat = k by omega] at hbs
  have hc : bs.length = min n (x.data.memBytes.length - k) := by rw [hbs, List.length_take, List.length_drop]
  conv => lhs; rw [show n = bs.length + (n - bs.length) by omega, window_add]
  congr 1
  · refine List.ext_getElem (by rw [window, List.length_map, List.length_map, List.length_range]) fun i hi _ => ?_
    rw [window, List.length_map, List.length_range] at hi
    simp only [window, List.getElem_map, List.getElem_range, hbs, List.getElem_take, List.getElem_drop]
    rw [absL_cons, absMo_eq x _ (by omega), show (x.vaddr + (k : Int) + (i : Int) - x.vaddr).toNat = k + i by omega,
      List.getElem?_eq_getElem (by omega), Option.some_or]
  · by_cases hz : n - bs.length = 0
    · rw [hz]; rfl
    · exact window_cons_skip x rest _ _ (by rw [Mo.fin_eq, Mo.len_eq]; omega)

theorem flattenItems_cons (it : Item) (r : List Item) : flattenItems (it :: r) = it.flatten ++ flattenItems r :=
  List.flatMap_cons

theorem flattenItems_nil : flattenItems [] = [] := rfl

theorem Mo.read_cases (x : Mo) (a : Int) (ll : Nat) :
    (x.contains a = true ∧ ∃ v, x.read a ll = (some v, ll - v.len) ∧
      v.memBytes x.data.endian = (x.data.memBytes.drop (a - x.vaddr).toNat).take ll) ∨
    (¬ x.contains a = true ∧ x.read a ll = (none, ll)) := by
  by_cases h : x.contains a = true
  · have hr := (contains_iff x a).mp h
    have hf : x.fin = x.vaddr + (x.data.len : Int) := rfl
    rw [Mo.read, if_pos h]
    exact .inl ⟨h, DD.getpart_spec x.data (a - x.vaddr).toNat ll (by omega)⟩
  · exact .inr ⟨h, by rw [Mo.read, if_neg h]⟩

theorem readLoop_spec (l : List (Mo × Int)) (a : Int) (ll : Nat)
    (hc : ∀ p ∈ l, p.2 = p.1.vaddr) (wf : ZoneWF (l.map Prod.fst)) :
    flattenItems (readLoop l a ll) = window (absL (l.map Prod.fst)) a ll := by
  -- cases 1–2: no object left (`ll > 0` or not); 3: `ll = 0`; 4: `x.read` returned data; 5: it returned
  -- nothing and `a < vi`, a gap before `x`; 6: nothing and `vi ≤ a`, `x` lies below `a` and is skipped
  fun_induction readLoop l a ll with
  | case1 a ll h =>
    rw [List.map_nil, window_gap [] a ll ll (Nat.le_refl _) (fun o ho => nomatch ho), Nat.sub_self]
    rfl
  | case2 a ll h => rw [Nat.eq_zero_of_not_pos h]; rfl
  | case3 x vi rest a => rfl
  | case4 x vi rest a ll hll d ll' hr ih =>
    obtain ⟨hx, hxr, wfr⟩ := (zoneWF_cons x _).mp wf
    rcases Mo.read_cases x a ll with ⟨hcx, v, hg, hm⟩ | ⟨_, hg⟩
    · have hrange := (contains_iff x a).mp hcx
      rw [hg] at hr
      cases hr
      rw [flattenItems_cons, ih (fun p hp => hc p (List.mem_cons_of_mem _ hp)) wfr, List.map_cons,
        window_hit x _ a ll hrange.1 hrange.2 _ hm, Val.memBytes_length]
      rfl
    · rw [hg] at hr; cases hr
  | case5 x vi rest a ll hll _ hr hlt l ih =>
    have hvi : vi = x.vaddr := hc (x, vi) List.mem_cons_self
    have hl : l = (min (a + ll) vi - a).toNat := rfl
    have wf' : ZoneWF (x :: rest.map Prod.fst) := wf
    rw [flattenItems_cons, ih hc wf, window_gap _ a ll l (by omega) fun o ho => by
      have := wf'.head_le o ho; omega]
    rfl
  | case6 x vi rest a ll hll _ hr hge ih =>
    have hvi : vi = x.vaddr := hc (x, vi) List.mem_cons_self
    obtain ⟨hx, hxr, wfr⟩ := (zoneWF_cons x _).mp wf
    rw [ih (fun p hp => hc p (List.mem_cons_of_mem _ hp)) wfr]
    refine (window_cons_skip x _ a ll ?_).symm
    -- the read missed `x` although `x.vaddr ≤ a`
    rcases Mo.read_cases x a ll with ⟨_, v, hg, _⟩ | ⟨hcx, _⟩
    · rw [hg] at hr; cases hr
    · rw [contains_iff] at hcx; omega

def zipS (m : List Mo) : List (Mo × Int) := m.map (fun x => (x, x.vaddr))

theorem zip_starts (m : List Mo) : m.zip (starts m) = zipS m := by
  induction m with
  | nil => rfl
  | cons x m ih => exact congrArg ((x, x.vaddr) :: ·) ih

theorem readLoop_zipS (m : List Mo) (a : Int) (n : Nat) (wf : ZoneWF m) :
    flattenItems (readLoop (zipS m) a n) = window (absL m) a n := by
  have hf : (zipS m).map Prod.fst = m := by rw [zipS, List.map_map]; exact List.map_id m
  have := readLoop_spec (zipS m) a n (fun p hp => by obtain ⟨x, _, rfl⟩ := List.mem_map.mp hp; rfl) (hf.symm ▸ wf)
  rwa [hf] at this

theorem readL_spec (m : List Mo) (a : Int) (n : Nat) (wf : ZoneWF m) :
    flattenItems (readL (starts m) m a n) = window (absL m) a n := by
  unfold readL
  rcases exists_split m a with hall | ⟨pre, x, post, rfl, hxa, hpost⟩
  · rw [locateM_none_of m a hall]
    cases m with
    | nil =>
      rw [window_gap [] a n n (Nat.le_refl _) (fun o ho => nomatch ho), Nat.sub_self]
      rfl
    | cons x0 rest =>
      have h0 := hall x0 List.mem_cons_self
      dsimp only
      by_cases hv : x0.vaddr < a + (n : Int)
      · rw [if_pos hv, flattenItems_cons, zip_starts, readLoop_zipS _ _ _ wf,
          window_gap _ a n (x0.vaddr - a).toNat (by omega) (fun o ho => by have := wf.head_le o ho; omega)]
        congr 2
        · omega
        · omega
      · rw [if_neg hv, window_gap _ a n n (Nat.le_refl _) (fun o ho => by have := wf.head_le o ho; omega),
          Nat.sub_self]
        rfl
  · obtain ⟨_, wfxp, hpx⟩ := (zoneWF_append pre (x :: post)).mp wf
    rw [locateM_of_decomp pre x post a wf hxa hpost]
    dsimp only
    rw [zip_starts, zipS, ← List.map_drop, List.drop_left' rfl]
    refine (readLoop_zipS (x :: post) a n wfxp).trans (window_congr _ _ a n fun k _ => ?_)
    rw [absL_append, absL_none_of pre _ fun p hp => Or.inr (by have := hpx p hp x List.mem_cons_self; omega)]
    rfl

theorem merge_raw (cur z : Mo) (a b : List Nat) (ha : cur.data.val = .raw a) (hb : z.data.val = .raw b)
    (hz : z.vaddr = cur.fin) :
    ({ cur with data := { cur.data with val := .raw (a ++ b) } } : Mo).len = cur.len + z.len ∧
    ∀ q, absMo { cur with data := { cur.data with val := .raw (a ++ b) } } q = (absMo cur q).or (absMo z q) := by
  have hM : cur.data.memBytes = a.map ByteDesc.raw := by rw [DD.memBytes, ha]; rfl
  have hN : z.data.memBytes = b.map ByteDesc.raw := by rw [DD.memBytes, hb]; rfl
  refine ⟨?_, fun q => ?_⟩
  · rw [Mo.len_eq cur, Mo.len_eq z, hM, hN, List.length_map, List.length_map]
    exact List.length_append
  · show place cur.vaddr ((a ++ b).map ByteDesc.raw) q =
      (place cur.vaddr cur.data.memBytes q).or (place z.vaddr z.data.memBytes q)
    rw [List.map_append, place_append, hz, Mo.fin_eq, Mo.len_eq, hM, hN]

theorem restructGo_spec (cur : Mo) (rest : List Mo) (wf : ZoneWF (cur :: rest)) :
    ZoneWF (restructGo cur rest) ∧ (∀ w ∈ restructGo cur rest, cur.vaddr ≤ w.vaddr) ∧
    ∀ q, absL (restructGo cur rest) q = absL (cur :: rest) q := by
  induction rest generalizing cur with
  | nil => exact ⟨wf, fun w hw => List.mem_singleton.mp hw ▸ Int.le_refl _, fun _ => rfl⟩
  | cons z rest ih =>
    obtain ⟨hc, hcr, wfr⟩ := (zoneWF_cons cur _).mp wf
    obtain ⟨hzl, hzr, wfr'⟩ := (zoneWF_cons z _).mp wfr
    have hcz := hcr z List.mem_cons_self
    have hfc := Mo.fin_eq cur
    have keep : ZoneWF (cur :: restructGo z rest) ∧ (∀ w ∈ cur :: restructGo z rest, cur.vaddr ≤ w.vaddr) ∧
        ∀ q, absL (cur :: restructGo z rest) q = absL (cur :: z :: rest) q := by
      obtain ⟨w1, l1, a1⟩ := ih z wfr
      refine ⟨(zoneWF_cons cur _).mpr ⟨hc, fun w hw => by have := l1 w hw; omega, w1⟩, fun w hw => ?_,
        fun q => by rw [absL_cons, a1, ← absL_cons]⟩
      rcases List.mem_cons.mp hw with rfl | hw
      · exact Int.le_refl _
      · have := l1 w hw; omega
    unfold restructGo
    split
    · rename_i a b ha hb
      by_cases hz : z.vaddr = cur.fin
      · rw [if_pos hz]
        obtain ⟨hl, ha'⟩ := merge_raw cur z a b ha hb hz
        have hfz := Mo.fin_eq z
        obtain ⟨w1, l1, a1⟩ := ih { cur with data := { cur.data with val := .raw (a ++ b) } }
          ((zoneWF_cons _ rest).mpr ⟨by omega, fun y hy => by
            have := hzr y hy; rw [Mo.fin_eq, hl]; show cur.vaddr + _ ≤ _; omega, wfr'⟩)
        exact ⟨w1, l1, fun q => by rw [a1, absL_cons, ha', absL_cons, absL_cons, Option.or_assoc]⟩
      · rw [if_neg hz]; exact keep
    · exact keep

theorem restructL_spec (m : List Mo) (wf : ZoneWF m) :
    ZoneWF (restructL m) ∧ ∀ q, absL (restructL m) q = absL m q := by
  cases m with
  | nil => exact ⟨wf, fun _ => rfl⟩
  | cons x rest => exact ⟨(restructGo_spec x rest wf).1, (restructGo_spec x rest wf).2.2⟩

/-- moving every object by `off` without touching its bytes (`shift`; `copy` with `off = 0`). -/
theorem mapL_spec (f : Mo → Mo) (off : Int) (hv : ∀ o, (f o).vaddr = o.vaddr + off)
    (hb : ∀ o, (f o).data.memBytes = o.data.memBytes) (m : List Mo) (wf : ZoneWF m) :
    ZoneWF (m.map f) ∧ ∀ q, absL (m.map f) q = absL m (q - off) := by
  have hl : ∀ o, (f o).len = o.len := fun o => by rw [Mo.len_eq, Mo.len_eq, hb]
  refine ⟨⟨fun w hw => ?_, List.pairwise_map.mpr (wf.2.imp fun {a b} h => ?_)⟩, fun q => ?_⟩
  · obtain ⟨o, ho, rfl⟩ := List.mem_map.mp hw
    rw [hl]; exact wf.1 o ho
  · rw [Mo.fin_eq, hl, hv, hv]; rw [Mo.fin_eq] at h; omega
  · unfold absL
    rw [List.findSome?_map]
    congr 1
    funext o
    show place (f o).vaddr (f o).data.memBytes q = place o.vaddr o.data.memBytes (q - off)
    unfold place
    rw [hv, hb]
    by_cases h : o.vaddr + off ≤ q
    · rw [if_pos h, if_pos (by omega)]; congr 2; omega
    · rw [if_neg h, if_neg (by omega)]

theorem wfAdj_iff (m : List Mo) : wfAdj m = true ↔ ZoneWF m := by
  induction m with
  | nil => exact ⟨fun _ => ZoneWF.nil, fun _ => rfl⟩
  | cons x m ih =>
    cases m with
    | nil =>
      rw [wfAdj, decide_eq_true_eq, zoneWF_cons]
      exact ⟨fun h => ⟨h, (fun _ h => nomatch h), ZoneWF.nil⟩, fun h => h.1⟩
    | cons y rest =>
      rw [wfAdj, Bool.and_eq_true, Bool.and_eq_true, decide_eq_true_eq, decide_eq_true_eq, ih, zoneWF_cons x]
      constructor
      · rintro ⟨⟨h1, h2⟩, wfy⟩
        exact ⟨h1, fun w hw => by have := wfy.head_le w hw; omega, wfy⟩
      · rintro ⟨h1, h2, wfy⟩
        exact ⟨⟨h1, h2 y List.mem_cons_self⟩, wfy⟩

def Zone.WF (z : Zone) : Prop := ZoneWF z.map ∧ z.cache = starts z.map

theorem Zone.empty_wf : Zone.empty.WF := ⟨ZoneWF.nil, rfl⟩
theorem Zone.empty_abs : Zone.empty.abs = fun _ => none := rfl

theorem Zone.updateCache_spec (m : List Mo) (f : ByteMap) (h : ZoneWF m ∧ ∀ q, absL m q = f q) :
    (Zone.updateCache m).WF ∧ (Zone.updateCache m).abs = f := ⟨⟨h.1, rfl⟩, funext h.2⟩

theorem Zone.check_sound (z : Zone) (h : z.check = true) : z.WF := by
  rw [Zone.check, Bool.and_eq_true, beq_iff_eq, wfAdj_iff] at h
  exact h

theorem Zone.check_complete (z : Zone) (h : z.WF) : z.check = true := by
  rw [Zone.check, Bool.and_eq_true, beq_iff_eq, wfAdj_iff]
  exact h

theorem Zone.addtomap_spec (z : Zone) (o : Mo) (wf : z.WF) (ho : 0 < o.len) :
    (z.addtomap o).WF ∧ (z.addtomap o).abs = override z.abs (absMo o) := by
  unfold Zone.addtomap
  rw [wf.2]
  exact Zone.updateCache_spec _ _ (addtomapL_spec z.map o wf.1 ho)

theorem Zone.restruct_spec (z : Zone) (wf : z.WF) : z.restruct.WF ∧ z.restruct.abs = z.abs := by
  unfold Zone.restruct
  cases h : z.map with
  | nil => exact ⟨wf, rfl⟩
  | cons x rest => exact Zone.updateCache_spec _ _ (h ▸ restructL_spec z.map wf.1)

theorem Zone.shift_spec (z : Zone) (off : Int) (wf : z.WF) :
    (z.shift off).WF ∧ (z.shift off).abs = fun q => z.abs (q - off) :=
  Zone.updateCache_spec _ _
    (mapL_spec (fun o => { o with vaddr := o.vaddr + off }) off (fun _ => rfl) (fun _ => rfl) z.map wf.1)

theorem Zone.copy_spec (z : Zone) (wf : ZoneWF z.map) : z.copy.WF ∧ z.copy.abs = z.abs := by
  obtain ⟨w, a⟩ := mapL_spec Mo.copy 0 (fun o => (Int.add_zero _).symm) (fun o => Mo.new_memBytes _ _ _) z.map wf
  unfold Zone.copy Zone.restruct
  cases h : z.map.map Mo.copy with
  | nil => exact ⟨⟨ZoneWF.nil, rfl⟩, funext fun q => by have := a q; rw [h, Int.sub_zero] at this; exact this⟩
  | cons x rest =>
    obtain ⟨w', a'⟩ := restructL_spec _ w
    exact Zone.updateCache_spec _ _ ⟨h ▸ w', fun q => by rw [← h, a', a, Int.sub_zero]; rfl⟩

theorem mergeL_spec (l : List Mo) (z : Zone) (wf : z.WF) (wfl : ZoneWF l) :
    (l.foldl Zone.addtomap z).WF ∧ (l.foldl Zone.addtomap z).abs = override z.abs (absL l) := by
  induction l generalizing z with
  | nil => exact ⟨wf, funext fun q => (Option.none_or).symm⟩
  | cons o l ih =>
    obtain ⟨ho, hol, wfl'⟩ := (zoneWF_cons o l).mp wfl
    obtain ⟨w1, a1⟩ := Zone.addtomap_spec z o wf ho
    obtain ⟨w2, a2⟩ := ih (z.addtomap o) w1 wfl'
    refine ⟨w2, ?_⟩
    rw [List.foldl_cons, a2, a1]
    funext q
    simp only [override, absL_cons]
    -- `o` and the later objects `l` hold different addresses
    cases h : absMo o q with
    | none => simp only [Option.none_or]
    | some d =>
      have hr := absMo_isSome_iff.mp (h ▸ rfl : (absMo o q).isSome)
      rw [absL_none_of l q fun w hw => Or.inl (by have := hol w hw; omega)]; rfl

theorem Zone.mergeWith_spec (z other : Zone) (wf : z.WF) (wfo : ZoneWF other.map) :
    (z.mergeWith other).WF ∧ (z.mergeWith other).abs = override z.abs other.abs :=
  mergeL_spec other.map z wf wfo

theorem Zone.read_spec (z : Zone) (a : Int) (n : Nat) (wf : z.WF) :
    flattenItems (z.read a n) = window z.abs a n := by
  unfold Zone.read; rw [wf.2]; exact readL_spec z.map a n wf.1

abbrev WriteOp := Int × Val × Endian

/-- most recent write of `ws` (oldest first) covering `q`. -/
def lastWrite (ws : List WriteOp) (q : Int) : Option ByteDesc :=
  ws.reverse.findSome? (fun w => absWrite w.1 w.2.1 w.2.2 q)

def specWrites (ws : List WriteOp) (f : ByteMap) : ByteMap :=
  ws.foldl (fun f w => override f (absWrite w.1 w.2.1 w.2.2)) f

theorem specWrites_eq (ws : List WriteOp) (f : ByteMap) (q : Int) :
    specWrites ws f q = (lastWrite ws q).or (f q) := by
  induction ws generalizing f with
  | nil => exact (Option.none_or).symm
  | cons w ws ih =>
    show specWrites ws (override f (absWrite w.1 w.2.1 w.2.2)) q = _
    rw [ih, lastWrite, lastWrite, List.reverse_cons, List.findSome?_append, Option.or_assoc]
    rw [List.findSome?_singleton]
    rfl

def ZOp.spec (f : ByteMap) : ZOp → ByteMap
  | .write a v en => override f (absWrite a v en)
  | .restruct => f
  | .copy => f
  | .shift off => fun q => f (q - off)
  | .merge ws => override f (specWrites ws (fun _ => none))

def specZone (ops : List ZOp) : ByteMap := ops.foldl ZOp.spec (fun _ => none)

def ZOp.ok : ZOp → Prop
  | .write _ v _ => 0 < v.len
  | .merge ws => ∀ w ∈ ws, 0 < w.2.1.len
  | _ => True

theorem Zone.write_spec (z : Zone) (a : Int) (v : Val) (en : Endian) (wf : z.WF) (hv : 0 < v.len) :
    (z.write a v en).WF ∧ (z.write a v en).abs = override z.abs (absWrite a v en) :=
  absMo_new a v en ▸ Zone.addtomap_spec z (Mo.new a v en) wf (by rw [Mo.new_len]; exact hv)

/-- `List.foldl_rel` runs the fold of the operations and the fold of their meanings side by side, here and for
    the longer histories below; `habs ▸` restates the one-step lemma, given on `z.abs`, on the byte map reached
    on the other side. -/
theorem writesZone_spec (ws : List WriteOp) (z : Zone) (wf : z.WF) (h : ∀ w ∈ ws, 0 < w.2.1.len) :
    (ws.foldl (fun z w => z.write w.1 w.2.1 w.2.2) z).WF ∧
    (ws.foldl (fun z w => z.write w.1 w.2.1 w.2.2) z).abs = specWrites ws z.abs :=
  List.foldl_rel (r := fun (z : Zone) f => z.WF ∧ z.abs = f) ⟨wf, rfl⟩
    fun w hw z _ ⟨hwf, habs⟩ => habs ▸ Zone.write_spec z w.1 w.2.1 w.2.2 hwf (h w hw)

theorem ZOp.apply_spec (z : Zone) (op : ZOp) (wf : z.WF) (h : op.ok) :
    (op.apply z).WF ∧ (op.apply z).abs = op.spec z.abs := by
  cases op with
  | write a v en => exact Zone.write_spec z a v en wf h
  | restruct => exact Zone.restruct_spec z wf
  | copy => exact Zone.copy_spec z wf.1
  | shift off => exact Zone.shift_spec z off wf
  | merge ws =>
    obtain ⟨w1, a1⟩ := writesZone_spec ws Zone.empty Zone.empty_wf h
    have := Zone.mergeWith_spec z (writesZone ws) wf w1.1
    rw [show (writesZone ws).abs = specWrites ws (fun _ => none) from a1] at this
    exact this

theorem runFrom_spec (ops : List ZOp) (z : Zone) (wf : z.WF) (h : ∀ op ∈ ops, op.ok) :
    (ops.foldl ZOp.apply z).WF ∧ (ops.foldl ZOp.apply z).abs = ops.foldl ZOp.spec z.abs :=
  List.foldl_rel (r := fun (z : Zone) f => z.WF ∧ z.abs = f) ⟨wf, rfl⟩
    fun op hop z _ ⟨hwf, habs⟩ => habs ▸ ZOp.apply_spec z op hwf (h op hop)

def MMap.WF (mm : MMap) : Prop := (∀ kz ∈ mm.zones, kz.2.WF) ∧ (mm.zones.map Prod.fst).Nodup

def MMap.absK (mm : MMap) (k : ZKey) : ByteMap :=
  match mm.getZone k with
  | some z => z.abs
  | none => fun _ => none

/-- `dict[k] = new` on an association list: update in place, or append. -/
def upsert {α κ : Type} [BEq κ] (key : α → κ) (k : κ) (new : α) (l : List α) : List α :=
  if l.any (fun a => key a == k) then l.map (fun a => if key a == k then new else a) else l ++ [new]

theorem upsert_spec {α κ : Type} [BEq κ] [LawfulBEq κ] [DecidableEq κ] (key : α → κ) (k : κ) (new : α) (hn : key new = k)
    (l : List α) :
    (∀ k', (upsert key k new l).find? (fun a => key a == k') =
      if k' = k then some new else l.find? (fun a => key a == k')) ∧
    (∀ a ∈ upsert key k new l, a ∈ l ∨ a = new) ∧
    ((l.map key).Nodup → ((upsert key k new l).map key).Nodup) := by
  have hkey : ∀ a, key (if key a == k then new else a) = key a := fun a => by
    by_cases h : (key a == k) = true
    · rw [if_pos h, hn, eq_of_beq h]
    · rw [if_neg h]
  unfold upsert
  by_cases hany : l.any (fun a => key a == k) = true
  · rw [if_pos hany]
    refine ⟨fun k' => ?_, fun a ha => ?_, fun hnd => ?_⟩
    · have hp : ((fun a => key a == k') ∘ fun a => if key a == k then new else a) = fun a => key a == k' :=
        funext fun a => congrArg (· == k') (hkey a)
      rw [List.find?_map, hp]
      cases hf : l.find? (fun a => key a == k') with
      | none =>
        by_cases hk : k' = k
        · obtain ⟨a, ha, hka⟩ := List.any_eq_true.mp hany
          exact absurd (hk ▸ hka) (List.find?_eq_none.mp hf a ha)
        · rw [if_neg hk]; rfl
      | some a =>
        have hka : key a = k' := eq_of_beq (List.find?_some (p := fun a => key a == k') hf)
        by_cases hk : k' = k
        · rw [if_pos hk, Option.map_some, if_pos (by rw [hka, hk]; exact beq_self_eq_true k)]
        · rw [if_neg hk, Option.map_some, if_neg (by rw [hka]; exact fun h => hk (eq_of_beq h))]
    · obtain ⟨b, hb, rfl⟩ := List.mem_map.mp ha
      by_cases h : (key b == k) = true
      · rw [if_pos h]; exact .inr rfl
      · rw [if_neg h]; exact .inl hb
    · rw [List.map_map, show (key ∘ fun a => if key a == k then new else a) = key from funext hkey]; exact hnd
  · rw [if_neg hany]
    have hno : ∀ a ∈ l, ¬ (key a == k) = true := fun a ha h => hany (List.any_eq_true.mpr ⟨a, ha, h⟩)
    refine ⟨fun k' => ?_, fun a ha => ?_, fun hnd => ?_⟩
    · rw [List.find?_append, List.find?_singleton, hn]
      by_cases hk : k' = k
      · rw [if_pos hk, hk, if_pos (beq_self_eq_true k), List.find?_eq_none.mpr hno]; rfl
      · rw [if_neg hk, if_neg (fun h => hk (eq_of_beq h).symm), Option.or_none]
    · exact (List.mem_append.mp ha).imp id List.mem_singleton.mp
    · rw [List.map_append, List.nodup_append]
      refine ⟨hnd, List.pairwise_singleton _ _, fun x hx y hy hxy => ?_⟩
      obtain ⟨a, ha, rfl⟩ := List.mem_map.mp hx
      rw [List.mem_singleton.mp hy, hn] at hxy
      exact hno a ha (hxy ▸ beq_self_eq_true _)

theorem MMap.setZone_zones (mm : MMap) (k : ZKey) (z : Zone) :
    (mm.setZone k z).zones = upsert Prod.fst k (k, z) mm.zones := by
  unfold MMap.setZone upsert
  by_cases h : mm.zones.any (fun kz => kz.1 == k) = true
  · rw [if_pos h, if_pos h]
  · rw [if_neg h, if_neg h]

theorem MMap.empty_wf : MMap.empty.WF :=
  ⟨fun _ h => List.mem_singleton.mp h ▸ Zone.empty_wf, List.pairwise_singleton _ _⟩

theorem MMap.getZone_none (mm : MMap) (k : ZKey) (h : mm.getZone k = none) : ∀ kz ∈ mm.zones, kz.1 ≠ k := by
  unfold MMap.getZone at h
  simp only [Option.map_eq_none_iff, List.find?_eq_none, beq_iff_eq] at h
  exact h

theorem MMap.getZone_cases (mm : MMap) (k : ZKey) (wf : mm.WF) :
    (∃ z, mm.getZone k = some z ∧ z.WF ∧ mm.absK k = z.abs) ∨
    (mm.getZone k = none ∧ mm.absK k = fun _ => none) := by
  unfold MMap.absK MMap.getZone
  cases hf : mm.zones.find? (fun kz => kz.1 == k) with
  | none => exact .inr ⟨rfl, rfl⟩
  | some kz => exact .inl ⟨kz.2, rfl, wf.1 kz (List.mem_of_find?_eq_some hf), rfl⟩

theorem MMap.getZone_setZone (mm : MMap) (k k' : ZKey) (z : Zone) :
    (mm.setZone k z).getZone k' = if k' = k then some z else mm.getZone k' := by
  unfold MMap.getZone
  rw [MMap.setZone_zones, (upsert_spec Prod.fst k (k, z) rfl mm.zones).1]
  by_cases hk : k' = k
  · rw [if_pos hk, if_pos hk]; rfl
  · rw [if_neg hk, if_neg hk]

theorem MMap.setZone_spec (mm : MMap) (k : ZKey) (z : Zone) (f : ByteMap) (wf : mm.WF) (hz : z.WF ∧ z.abs = f) :
    (mm.setZone k z).WF ∧ ∀ k', (mm.setZone k z).absK k' = if k' = k then f else mm.absK k' := by
  obtain ⟨_, hmem, hnd⟩ := upsert_spec Prod.fst k (k, z) rfl mm.zones
  refine ⟨⟨fun kz h => ?_, ?_⟩, fun k' => ?_⟩
  · rw [MMap.setZone_zones] at h
    exact (hmem kz h).elim (wf.1 kz) fun e => e ▸ hz.1
  · rw [MMap.setZone_zones]; exact hnd wf.2
  · unfold MMap.absK
    rw [MMap.getZone_setZone]
    by_cases hk : k' = k
    · rw [if_pos hk, if_pos hk]; exact hz.2
    · rw [if_neg hk, if_neg hk]

theorem override_none_left (g : ByteMap) : override (fun _ => none) g = g :=
  funext fun _ => Option.or_none

theorem override_none_right (f : ByteMap) : override f (fun _ => none) = f :=
  funext fun _ => Option.none_or

theorem MMap.write_spec (mm : MMap) (addr : Addr) (v : Val) (en : Endian) (r : ZKey) (d : Bool) (o : Int)
    (wf : mm.WF) (href : reference addr = .ok (r, d, o)) (hd : r.isSome = true → d = true) (hv : 0 < v.len) :
    ∃ mm', mm.write addr v en = .ok mm' ∧ mm'.WF ∧
      ∀ k, mm'.absK k = if k = r then override (mm.absK r) (absWrite o v en) else mm.absK k := by
  have hcond : (r.isSome && !d) = false := by
    cases hr : r.isSome with
    | false => rfl
    | true => rw [hd hr]; rfl
  have hz : ((mm.getZone r).getD Zone.empty).WF ∧ ((mm.getZone r).getD Zone.empty).abs = mm.absK r := by
    rcases mm.getZone_cases r wf with ⟨z, h, w, a⟩ | ⟨h, a⟩
    · rw [h, a]; exact ⟨w, rfl⟩
    · rw [h, a]; exact ⟨Zone.empty_wf, rfl⟩
  refine ⟨mm.setZone r (((mm.getZone r).getD Zone.empty).write o v en), ?_,
    MMap.setZone_spec mm r _ _ wf (hz.2 ▸ Zone.write_spec _ o v en hz.1 hv)⟩
  unfold MMap.write
  simp only [href, hcond, Bool.false_eq_true, if_false]

theorem MMap.read_spec (mm : MMap) (addr : Addr) (n : Nat) (r : ZKey) (d : Bool) (o : Int)
    (wf : mm.WF) (href : reference addr = .ok (r, d, o)) :
    match mm.getZone r with
    | some _ => ∃ items, mm.read addr n = .ok items ∧ flattenItems items = window (mm.absK r) o n
    | none => mm.read addr n = .error .memoryError ∧ mm.absK r = fun _ => none := by
  unfold MMap.read
  simp only [href]
  rcases mm.getZone_cases r wf with ⟨z, h, w, a⟩ | ⟨h, a⟩
  · rw [h, a]; exact ⟨_, rfl, Zone.read_spec z o n w⟩
  · rw [h]; exact ⟨rfl, a⟩

theorem MMap.restruct_spec (mm : MMap) (wf : mm.WF) : mm.restruct.WF ∧ ∀ k, mm.restruct.absK k = mm.absK k := by
  have hkeys : (Prod.fst ∘ fun kz : ZKey × Zone => (kz.1, kz.2.restruct)) = Prod.fst := rfl
  refine ⟨⟨fun kz hkz => ?_, ?_⟩, fun k => ?_⟩
  · obtain ⟨kz0, hm, rfl⟩ := List.mem_map.mp hkz
    exact (Zone.restruct_spec kz0.2 (wf.1 kz0 hm)).1
  · rw [MMap.restruct, List.map_map, hkeys]; exact wf.2
  · have hg : mm.restruct.getZone k = (mm.getZone k).map Zone.restruct := by
      rw [MMap.getZone, MMap.restruct, List.find?_map, Option.map_map, MMap.getZone, Option.map_map]
      rfl
    unfold MMap.absK
    rcases mm.getZone_cases k wf with ⟨z, h, w, _⟩ | ⟨h, _⟩
    · rw [hg, h]; exact (Zone.restruct_spec z w).2
    · rw [hg, h]; rfl

/-- each step replaces the content `f` of the zone of its key by `F f z`; the keys are distinct, so each is
    treated exactly once. -/
theorem foldKeys_spec (step : MMap → ZKey × Zone → MMap) (F : ByteMap → Zone → ByteMap) (P : Zone → Prop)
    (hstep : ∀ acc kz, acc.WF → P kz.2 → (step acc kz).WF ∧
      ∀ k, (step acc kz).absK k = if k = kz.1 then F (acc.absK k) kz.2 else acc.absK k)
    (l : List (ZKey × Zone)) (acc : MMap) (wfa : acc.WF) (hl : ∀ kz ∈ l, P kz.2) (hn : (l.map Prod.fst).Nodup) :
    (l.foldl step acc).WF ∧ ∀ k, (l.foldl step acc).absK k =
      match l.find? (fun kz => kz.1 == k) with
      | some kz => F (acc.absK k) kz.2
      | none => acc.absK k := by
  induction l generalizing acc with
  | nil => exact ⟨wfa, fun _ => rfl⟩
  | cons kz l ih =>
    obtain ⟨w1, a1⟩ := hstep acc kz wfa (hl kz List.mem_cons_self)
    rw [List.map_cons, List.nodup_cons] at hn
    obtain ⟨w2, a2⟩ := ih (step acc kz) w1 (fun kz' h => hl kz' (List.mem_cons_of_mem _ h)) hn.2
    refine ⟨w2, fun k => ?_⟩
    rw [List.foldl_cons, a2 k, a1 k, List.find?_cons]
    by_cases hk : k = kz.1
    · have : l.find? (fun kz' => kz'.1 == k) = none :=
        List.find?_eq_none.mpr fun kz' h' hb => hn.1 (List.mem_map.mpr ⟨kz', h', hk ▸ eq_of_beq hb⟩)
      rw [this, if_pos hk, hk, beq_self_eq_true]
    · rw [if_neg hk, beq_false_of_ne (fun h => hk h.symm)]

theorem MMap.empty_absK (k : ZKey) : MMap.empty.absK k = fun _ => none := by
  cases k <;> rfl

theorem MMap.copy_spec (mm : MMap) (wf : mm.WF) : mm.copy.WF ∧ ∀ k, mm.copy.absK k = mm.absK k := by
  obtain ⟨w, a⟩ := foldKeys_spec (fun acc kz => acc.setZone kz.1 kz.2.copy) (fun _ z => z.abs)
    (fun z => ZoneWF z.map) (fun acc kz wfa hz => MMap.setZone_spec acc kz.1 _ _ wfa (Zone.copy_spec kz.2 hz))
    mm.zones MMap.empty MMap.empty_wf (fun kz h => (wf.1 kz h).1) wf.2
  refine ⟨w, fun k => (a k).trans ?_⟩
  unfold MMap.absK MMap.getZone
  cases mm.zones.find? (fun kz => kz.1 == k) with
  | none => exact MMap.empty_absK k
  | some kz => rfl

/-- the body of the fold that is `MMap.merge`, under a name for `foldKeys_spec` to take -/
def mergeStep (acc : MMap) (kz : ZKey × Zone) : MMap :=
  match acc.getZone kz.1 with
  | some z => acc.setZone kz.1 (z.mergeWith kz.2)
  | none => acc.setZone kz.1 kz.2

theorem mergeStep_spec (acc : MMap) (kz : ZKey × Zone) (wfa : acc.WF) (hz : kz.2.WF) :
    (mergeStep acc kz).WF ∧
    ∀ k, (mergeStep acc kz).absK k = if k = kz.1 then override (acc.absK k) kz.2.abs else acc.absK k := by
  have key : ∀ z, z.WF ∧ z.abs = override (acc.absK kz.1) kz.2.abs →
      (acc.setZone kz.1 z).WF ∧
      ∀ k, (acc.setZone kz.1 z).absK k = if k = kz.1 then override (acc.absK k) kz.2.abs else acc.absK k := by
    intro z hz'
    obtain ⟨w, a⟩ := MMap.setZone_spec acc kz.1 z _ wfa hz'
    refine ⟨w, fun k => (a k).trans ?_⟩
    by_cases hk : k = kz.1
    · rw [if_pos hk, if_pos hk, hk]
    · rw [if_neg hk, if_neg hk]
  unfold mergeStep
  rcases acc.getZone_cases kz.1 wfa with ⟨z, h, w, a⟩ | ⟨h, a⟩
  · rw [h]; exact key _ (by rw [a]; exact Zone.mergeWith_spec z kz.2 w hz.1)
  · rw [h]; exact key _ ⟨hz, by rw [a, override_none_left]⟩

theorem MMap.merge_spec (mm other : MMap) (wf : mm.WF) (wfo : other.WF) :
    (mm.merge other).WF ∧ ∀ k, (mm.merge other).absK k = override (mm.absK k) (other.absK k) := by
  obtain ⟨w, a⟩ := foldKeys_spec mergeStep (fun f z => override f z.abs) Zone.WF mergeStep_spec
    other.zones mm wf wfo.1 wfo.2
  refine ⟨w, fun k => (a k).trans ?_⟩
  unfold MMap.absK MMap.getZone
  cases other.zones.find? (fun kz => kz.1 == k) with
  | none => exact (override_none_right _).symm
  | some kz => rfl

abbrev Store := ZKey → ByteMap

/-- byte-store meaning of a `MemoryMap.write`: nothing happens when the address denotes no location. -/
def specWrite (s : Store) (a : Addr) (v : Val) (en : Endian) : Store :=
  match reference a with
  | .error _ => s
  | .ok (r, d, o) =>
    if r.isSome && !d then s
    else fun k => if k = r then override (s r) (absWrite o v en) else s k

def specMWrites (ws : List (Addr × Val × Endian)) (s : Store) : Store :=
  ws.foldl (fun s w => specWrite s w.1 w.2.1 w.2.2) s

def MOp.spec (s : Store) : MOp → Store
  | .write a v en => specWrite s a v en
  | .restruct => s
  | .copy => s
  | .shift k off => fun k' => if k' = k then fun q => s k (q - off) else s k'
  | .merge ws => fun k => override (s k) (specMWrites ws (fun _ _ => none) k)

def specMMap (ops : List MOp) : Store := ops.foldl MOp.spec (fun _ _ => none)

def MOp.ok : MOp → Prop
  | .write _ v _ => 0 < v.len
  | .merge ws => ∀ w ∈ ws, 0 < w.2.1.len
  | _ => True

theorem MMap.writeD_spec (mm : MMap) (a : Addr) (v : Val) (en : Endian) (wf : mm.WF) (hv : 0 < v.len) :
    (mm.writeD a v en).WF ∧ ∀ k, (mm.writeD a v en).absK k = specWrite mm.absK a v en k := by
  unfold MMap.writeD specWrite
  cases href : reference a with
  | error e => rw [MMap.write, href]; exact ⟨wf, fun _ => rfl⟩
  | ok x =>
    obtain ⟨r, d, o⟩ := x
    by_cases hc : (r.isSome && !d) = true
    · rw [MMap.write, href]
      simp only [hc, if_true]
      exact ⟨wf, fun _ => trivial⟩
    · obtain ⟨mm', e, w, ab⟩ := MMap.write_spec mm a v en r d o wf href
        (fun h => by rw [h, Bool.true_and, Bool.not_eq_true', Bool.not_eq_false] at hc; exact hc) hv
      rw [e]
      simp only [hc]
      exact ⟨w, ab⟩

theorem writesMMap_spec (ws : List (Addr × Val × Endian)) (mm : MMap) (wf : mm.WF) (h : ∀ w ∈ ws, 0 < w.2.1.len) :
    (ws.foldl (fun mm w => mm.writeD w.1 w.2.1 w.2.2) mm).WF ∧
    ∀ k, (ws.foldl (fun mm w => mm.writeD w.1 w.2.1 w.2.2) mm).absK k = specMWrites ws mm.absK k :=
  List.foldl_rel (r := fun (mm : MMap) (s : Store) => mm.WF ∧ ∀ k, mm.absK k = s k) ⟨wf, fun _ => rfl⟩
    fun w hw mm _ ⟨hwf, habs⟩ => funext habs ▸ MMap.writeD_spec mm w.1 w.2.1 w.2.2 hwf (h w hw)

theorem MOp.apply_spec (mm : MMap) (op : MOp) (wf : mm.WF) (h : op.ok) :
    (op.apply mm).WF ∧ ∀ k, (op.apply mm).absK k = op.spec mm.absK k := by
  cases op with
  | write a v en => exact MMap.writeD_spec mm a v en wf h
  | restruct => exact MMap.restruct_spec mm wf
  | copy => exact MMap.copy_spec mm wf
  | shift k off =>
    simp only [MOp.apply, MOp.spec]
    rcases mm.getZone_cases k wf with ⟨z, hz, w, a⟩ | ⟨hz, a⟩
    · rw [hz, a]
      exact MMap.setZone_spec mm k _ _ wf (Zone.shift_spec z off w)
    · rw [hz]
      refine ⟨wf, fun k' => ?_⟩
      by_cases hk : k' = k
      · rw [if_pos hk, hk, a]
      · rw [if_neg hk]
  | merge ws =>
    obtain ⟨w1, a1⟩ := writesMMap_spec ws MMap.empty MMap.empty_wf h
    rw [show MMap.empty.absK = fun _ _ => none from funext MMap.empty_absK] at a1
    obtain ⟨w2, a2⟩ := MMap.merge_spec mm (writesMMap ws) wf w1
    exact ⟨w2, fun k => (a2 k).trans (congrArg _ (a1 k))⟩

theorem runMMapFrom_spec (ops : List MOp) (mm : MMap) (wf : mm.WF) (h : ∀ op ∈ ops, op.ok) :
    (ops.foldl MOp.apply mm).WF ∧ ∀ k, (ops.foldl MOp.apply mm).absK k = ops.foldl MOp.spec mm.absK k :=
  List.foldl_rel (r := fun (mm : MMap) (s : Store) => mm.WF ∧ ∀ k, mm.absK k = s k) ⟨wf, fun _ => rfl⟩
    fun op hop mm _ ⟨hwf, habs⟩ => funext habs ▸ MOp.apply_spec mm op hwf (h op hop)

def WOp.spec (ss : List Store) : WOp → List Store
  | .fork src =>
    match ss[src]? with
    | some s => ss ++ [s]
    | none => ss
  | .on i op =>
    match ss[i]? with
    | some s => ss.set i (op.spec s)
    | none => ss
  | .mergeCopy i src =>
    match ss[i]?, ss[src]? with
    | some s, some o => ss.set i (fun k => override (s k) (o k))
    | _, _ => ss

def specWorkspace (ops : List WOp) : List Store := ops.foldl WOp.spec [fun _ _ => none]

def WOp.ok : WOp → Prop
  | .on _ op => op.ok
  | _ => True

def WsInv (ws : List MMap) (ss : List Store) : Prop :=
  ws.length = ss.length ∧
  ∀ (i : Nat) (mm : MMap) (s : Store), ws[i]? = some mm → ss[i]? = some s → mm.WF ∧ ∀ k, mm.absK k = s k

theorem WsInv.init : WsInv [MMap.empty] [fun _ _ => none] := by
  refine ⟨rfl, fun i mm s h1 h2 => ?_⟩
  cases i with
  | zero => cases h1; cases h2; exact ⟨MMap.empty_wf, MMap.empty_absK⟩
  | succ n => cases h1

theorem WsInv.set {ws : List MMap} {ss : List Store} (h : WsInv ws ss) (i : Nat) (mm : MMap) (s : Store)
    (hm : mm.WF) (ha : ∀ k, mm.absK k = s k) : WsInv (ws.set i mm) (ss.set i s) := by
  refine ⟨by rw [List.length_set, List.length_set]; exact h.1, fun j mm' s' h1 h2 => ?_⟩
  rw [List.getElem?_set] at h1 h2
  by_cases hij : i = j
  · rw [if_pos hij] at h1 h2
    by_cases hl : i < ws.length
    · rw [if_pos hl] at h1
      rw [if_pos (h.1 ▸ hl)] at h2
      cases h1; cases h2; exact ⟨hm, ha⟩
    · rw [if_neg hl] at h1; cases h1
  · rw [if_neg hij] at h1 h2
    exact h.2 j mm' s' h1 h2

theorem WsInv.append {ws : List MMap} {ss : List Store} (h : WsInv ws ss) (mm : MMap) (s : Store)
    (hm : mm.WF) (ha : ∀ k, mm.absK k = s k) : WsInv (ws ++ [mm]) (ss ++ [s]) := by
  refine ⟨by rw [List.length_append, List.length_append, h.1]; rfl, fun j mm' s' h1 h2 => ?_⟩
  by_cases hl : j < ws.length
  · rw [List.getElem?_append_left hl] at h1
    rw [List.getElem?_append_left (h.1 ▸ hl)] at h2
    exact h.2 j mm' s' h1 h2
  · rw [List.getElem?_append_right (Nat.le_of_not_lt hl)] at h1
    rw [List.getElem?_append_right (h.1 ▸ Nat.le_of_not_lt hl), ← h.1] at h2
    cases hn : j - ws.length with
    | zero => rw [hn] at h1 h2; cases h1; cases h2; exact ⟨hm, ha⟩
    | succ n => rw [hn] at h1; cases h1

theorem WsInv.get {ws : List MMap} {ss : List Store} (h : WsInv ws ss) (i : Nat) :
    (∃ mm s, ws[i]? = some mm ∧ ss[i]? = some s ∧ mm.WF ∧ ∀ k, mm.absK k = s k) ∨
    (ws[i]? = none ∧ ss[i]? = none) := by
  by_cases hl : i < ws.length
  · have hl' : i < ss.length := h.1 ▸ hl
    exact .inl ⟨ws[i], ss[i], List.getElem?_eq_getElem hl, List.getElem?_eq_getElem hl',
      h.2 i _ _ (List.getElem?_eq_getElem hl) (List.getElem?_eq_getElem hl')⟩
  · exact .inr ⟨List.getElem?_eq_none (Nat.le_of_not_lt hl), List.getElem?_eq_none (h.1 ▸ Nat.le_of_not_lt hl)⟩

theorem WOp.apply_inv (ws : List MMap) (ss : List Store) (op : WOp) (h : WsInv ws ss) (hok : op.ok) :
    WsInv (op.apply ws) (op.spec ss) := by
  cases op with
  | fork src =>
    rcases h.get src with ⟨mm, s, h1, h2, w, a⟩ | ⟨h1, h2⟩
    · simp only [WOp.apply, WOp.spec, h1, h2]
      obtain ⟨wc, ac⟩ := MMap.copy_spec mm w
      exact h.append mm.copy s wc fun k => (ac k).trans (a k)
    · simp only [WOp.apply, WOp.spec, h1, h2]; exact h
  | on i op =>
    rcases h.get i with ⟨mm, s, h1, h2, w, a⟩ | ⟨h1, h2⟩
    · simp only [WOp.apply, WOp.spec, h1, h2]
      obtain ⟨w', a'⟩ := MOp.apply_spec mm op w hok
      exact h.set i _ _ w' fun k => (a' k).trans (by rw [funext a])
    · simp only [WOp.apply, WOp.spec, h1, h2]; exact h
  | mergeCopy i src =>
    rcases h.get i with ⟨mm, s, h1, h2, w, a⟩ | ⟨h1, h2⟩
    · rcases h.get src with ⟨other, o, h3, h4, wo, ao⟩ | ⟨h3, h4⟩
      · simp only [WOp.apply, WOp.spec, h1, h2, h3, h4]
        obtain ⟨wc, ac⟩ := MMap.copy_spec other wo
        obtain ⟨w', a'⟩ := MMap.merge_spec mm other.copy w wc
        exact h.set i _ _ w' fun k => by rw [a' k, ac k, a k, ao k]
      · simp only [WOp.apply, WOp.spec, h1, h2, h3, h4]; exact h
    · simp only [WOp.apply, WOp.spec, h1, h2]; exact h

theorem runWorkspace_inv (ops : List WOp) (ws : List MMap) (ss : List Store) (h : WsInv ws ss)
    (hok : ∀ op ∈ ops, op.ok) : WsInv (ops.foldl WOp.apply ws) (ops.foldl WOp.spec ss) :=
  List.foldl_rel h fun op hop ws ss hw => WOp.apply_inv ws ss op hw (hok op hop)

end Amoco.Memory
