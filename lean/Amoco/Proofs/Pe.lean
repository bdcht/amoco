/-
  A struct unpack that stays in bounds reads at the offsets of the layout its field list produces, and a
  successful one did stay in bounds; the layouts of the code's field lists (with the PE32+ patch) are the
  specification's tables.  From these, what each stage reads and which exception classes it can raise.
-/
import Amoco.Model.Pe

namespace Amoco.Pe

open Ref

theorem slice_length_of_le {data : Bytes} {off n : Nat} (h : off + n ≤ data.length) :
    (slice data off n).length = n := by
  simp [slice]; omega

theorem slice_bound {data : Bytes} {off n : Nat} (hn : 0 < n) (h : (slice data off n).length = n) :
    off + n ≤ data.length := by
  simp [slice] at h; omega

theorem alignUp_ge (off a : Nat) : off ≤ alignUp off a := by
  unfold alignUp; split
  · omega
  · split <;> omega

theorem layoutEnd_ge (fs : List Field) (rel : Nat) : rel ≤ layoutEnd fs rel := by
  induction fs generalizing rel with
  | nil => simp [layoutEnd]
  | cons f fs ih =>
    simp only [layoutEnd]
    have := ih (alignUp rel f.esize + f.nbytes)
    have := alignUp_ge rel f.esize
    omega

/-- (kind, offset relative to the structure, size) of every field, as `StructCore.unpack` walks them -/
def layout : List Field → Nat → List (Kind × Nat × Nat)
  | [], _ => []
  | f :: fs, rel => (f.kind, alignUp rel f.esize, f.nbytes) :: layout fs (alignUp rel f.esize + f.nbytes)

def readAt (data : Bytes) (base : Nat) (e : Kind × Nat × Nat) : Nat :=
  fieldVal e.1 (slice data (base + e.2.1) e.2.2)

theorem unpackFields_ok (fs : List Field) (data : Bytes) (base rel : Nat)
    (h : base + layoutEnd fs rel ≤ data.length) :
    unpackFields fs data base rel = .ok ((layout fs rel).map (readAt data base)) := by
  induction fs generalizing rel with
  | nil => rfl
  | cons f fs ih =>
    simp only [layoutEnd] at h
    have h1 := layoutEnd_ge fs (alignUp rel f.esize + f.nbytes)
    -- the field lies inside the input, so `rdField` finds all its bytes
    have hrd : rdField f data (base + alignUp rel f.esize)
        = .ok (fieldVal f.kind (slice data (base + alignUp rel f.esize) f.nbytes)) := by
      rw [rdField, slice_length_of_le (by omega), beq_self_eq_true]; rfl
    simp only [unpackFields, hrd, ih _ h, layout, List.map, readAt]

theorem unpackFields_bound (fs : List Field) (data : Bytes) (base rel : Nat) (r : Rec)
    (hpos : ∀ f ∈ fs, 0 < f.nbytes) (hne : fs ≠ [])
    (h : unpackFields fs data base rel = .ok r) : base + layoutEnd fs rel ≤ data.length := by
  induction fs generalizing rel r with
  | nil => exact absurd rfl hne
  | cons f fs ih =>
    simp only [unpackFields, rdField] at h
    split at h
    · cases h
    · rename_i v hv
      split at hv
      · rename_i hlen
        have hlen' : (slice data (base + alignUp rel f.esize) f.nbytes).length = f.nbytes := by
          simpa using hlen
        have hb := slice_bound (hpos f (by simp)) hlen'
        split at h
        · cases h
        · rename_i r' hr'
          by_cases hfs : fs = []
          · subst hfs; simp only [layoutEnd]; omega
          · simp only [layoutEnd]
            exact ih _ r' (fun g hg => hpos g (by simp [hg])) hfs hr'
      · cases hv

theorem unpackFields_raises (fs : List Field) (data : Bytes) (base rel : Nat) (e : PyExn)
    (h : unpackFields fs data base rel = .error e) : e = .structError := by
  induction fs generalizing rel with
  | nil => cases h
  | cons f fs ih =>
    simp only [unpackFields, rdField] at h
    split at h
    · rename_i e' he'
      split at he'
      · cases he'
      · cases he'; cases h; rfl
    · split at h
      · rename_i e' he'; cases h; exact ih _ he'
      · cases h

theorem structUnpack_raises (fs : List Field) (data : Bytes) (base : Nat) (e : PyExn)
    (h : structUnpack fs data base = .error e) : e = .structureError := by
  unfold structUnpack at h
  split at h
  · cases h; rfl
  · cases h

theorem structUnpack_ok (fs : List Field) (data : Bytes) (base : Nat)
    (h : base + layoutEnd fs 0 ≤ data.length) :
    structUnpack fs data base = .ok ((layout fs 0).map (readAt data base)) := by
  simp [structUnpack, unpackFields_ok fs data base 0 h]

theorem structUnpack_bound (fs : List Field) (data : Bytes) (base : Nat) (r : Rec)
    (hpos : ∀ f ∈ fs, 0 < f.nbytes) (hne : fs ≠ [])
    (h : structUnpack fs data base = .ok r) : base + layoutEnd fs 0 ≤ data.length := by
  unfold structUnpack at h
  split at h
  · cases h
  · rename_i r' hr'
    exact unpackFields_bound fs data base 0 r' hpos hne hr'

theorem leTake_eq (l : Bytes) (n : Nat) : leTake l n = leVal (l.take n) := by
  induction n generalizing l with
  | zero => cases l <;> simp [leTake, leVal]
  | succ n ih => cases l <;> simp [leTake, leVal, ih]

theorem beTake_eq (l : Bytes) (n acc : Nat) :
    beTake l n acc = (l.take n).foldl (fun a b => a * 256 + b) acc := by
  induction n generalizing l acc with
  | zero => cases l <;> simp [beTake]
  | succ n ih => cases l <;> simp [beTake, ih]

theorem take2_of_leTake (l : Bytes) (lo hi : Nat) (hb : ∀ b ∈ l, b < 256) (hl : 2 ≤ l.length)
    (hlo : lo < 256) (h : leTake l 2 = lo + 256 * hi) : l.take 2 = [lo, hi] := by
  rcases l with _ | ⟨a, _ | ⟨b, t⟩⟩
  · simp at hl
  · simp at hl
  · have ha : a < 256 := hb a (by simp)
    have hb' : b < 256 := hb b (by simp)
    simp [leTake] at h
    simp
    omega

theorem slice2_of_u16 (data : Bytes) (off lo hi : Nat) (hb : data.all (· < 256) = true)
    (hl : off + 2 ≤ data.length) (hlo : lo < 256)
    (h : u16 data off = lo + 256 * hi) : slice data off 2 = [lo, hi] := by
  unfold slice
  apply take2_of_leTake _ _ _ _ _ hlo h
  · intro b hbm
    have := List.all_eq_true.mp hb b (List.mem_of_mem_drop hbm)
    simpa using this
  · simp; omega

theorem u16_lt (data : Bytes) (off : Nat) (hb : data.all (· < 256) = true) : u16 data off < 65536 := by
  have hd : ∀ b ∈ data.drop off, b < 256 := fun b hbm => by
    have := List.all_eq_true.mp hb b (List.mem_of_mem_drop hbm); simpa using this
  unfold u16 uN
  generalize data.drop off = l at hd
  rcases l with _ | ⟨a, _ | ⟨b, t⟩⟩
  · simp [leTake]
  · have := hd a (by simp); simp [leTake]; omega
  · have := hd a (by simp); have := hd b (by simp); simp [leTake]; omega

def ofSpec (e : Bool × Nat × Nat) : Kind × Nat × Nat := (if e.1 then .bytes else .le, e.2.1, e.2.2)

theorem readAt_ofSpec (data : Bytes) (base : Nat) (e : Bool × Nat × Nat) :
    readAt data base (ofSpec e) = rd data base e := by
  obtain ⟨b, o, n⟩ := e
  cases b <;> simp [readAt, ofSpec, rd, fieldVal, slice, leTake_eq, beTake_eq, beVal]

theorem map_readAt_ofSpec (data : Bytes) (base : Nat) (s : Spec) :
    (s.map ofSpec).map (readAt data base) = readSpec data base s := by
  simp [readSpec, List.map_map, Function.comp_def, readAt_ofSpec]

theorem coff_layout : layout coffFields 0 = coffSpec.map ofSpec := by decide +kernel
theorem opt32_layout : layout opt32Fields 0 = opt32Spec.map ofSpec := by decide +kernel
theorem opt64_layout : layout (optFields [0x0b, 0x02]) 0 = opt64Spec.map ofSpec := by decide +kernel
theorem dd_layout : layout ddFields 0 = ddSpec.map ofSpec := by decide +kernel
theorem sec_layout : layout secFields 0 = secSpec.map ofSpec := by decide +kernel
theorem dos_layout : layout dosFields 0 = [(.bytes, 0, 2), (.pad, 2, 58), (.le, 60, 4)] := by decide +kernel

theorem dos_end : layoutEnd dosFields 0 = 64 := by decide
theorem coff_end : layoutEnd coffFields 0 = 24 := by decide
theorem coff_len : structLen coffFields = 24 := by decide
theorem opt32_end : layoutEnd opt32Fields 0 = 96 := by decide +kernel
theorem opt32_len : structLen opt32Fields = 96 := by decide +kernel
theorem opt64_end : layoutEnd (optFields [0x0b, 0x02]) 0 = 112 := by decide +kernel
theorem opt64_len : structLen (optFields [0x0b, 0x02]) = 112 := by decide +kernel
theorem dd_end : layoutEnd ddFields 0 = 8 := by decide
theorem dd_len : structLen ddFields = 8 := by decide
theorem sec_end : layoutEnd secFields 0 = 40 := by decide
theorem sec_len : structLen secFields = 40 := by decide

theorem optFields_other (m : Bytes) (h : m ≠ [0x0b, 0x02]) : optFields m = opt32Fields := by
  simp [optFields, h]

theorem dd_pos : ∀ f ∈ ddFields, 0 < f.nbytes := by decide
theorem sec_pos : ∀ f ∈ secFields, 0 < f.nbytes := by decide
theorem coff_pos : ∀ f ∈ coffFields, 0 < f.nbytes := by decide
theorem dos_pos : ∀ f ∈ dosFields, 0 < f.nbytes := by decide

theorem tableLoop_ok (fs : List Field) (s : Spec) (sz : Nat)
    (hl : layout fs 0 = s.map ofSpec) (hlen : structLen fs = sz) (hend : layoutEnd fs 0 ≤ sz)
    (data : Bytes) (n off : Nat) (h : off + sz * n ≤ data.length) :
    tableLoop fs data n off = .ok ((List.range n).map (fun i => readSpec data (off + sz * i) s)) := by
  induction n generalizing off with
  | zero => rfl
  | succ n ih =>
    have hm : sz * (n + 1) = sz * n + sz := Nat.mul_succ sz n
    -- the first entry lies inside the input, so it is read as the specification says
    have hfirst : structUnpack fs data off = .ok (readSpec data off s) := by
      rw [structUnpack_ok fs data off (by omega), hl, map_readAt_ofSpec]
    -- the remaining `n` are the same loop one entry further
    have hrest := ih (off + sz) (by omega)
    have e : ∀ i, off + sz + sz * i = off + sz * (i + 1) := fun i => by rw [Nat.mul_succ]; omega
    rw [tableLoop, hfirst, hlen, hrest]
    simp only [List.range_succ_eq_map, List.map_cons, List.map_map, Function.comp_def, e, Nat.mul_zero, Nat.add_zero]

theorem tableLoop_raises (fs : List Field) (data : Bytes) (n off : Nat) (e : PyExn)
    (h : tableLoop fs data n off = .error e) : e = .structureError := by
  induction n generalizing off with
  | zero => cases h
  | succ n ih =>
    simp only [tableLoop] at h
    split at h
    · rename_i e' he'; cases h; exact structUnpack_raises _ _ _ _ he'
    · split at h
      · rename_i e' he'; cases h; exact ih _ he'
      · cases h

theorem tableLoop_bound (fs : List Field) (hpos : ∀ f ∈ fs, 0 < f.nbytes) (hne : fs ≠ [])
    (data : Bytes) (n off : Nat) (l : List Rec) (h : tableLoop fs data n off = .ok l) :
    l.length = n ∧ (0 < n → off + structLen fs * (n - 1) + layoutEnd fs 0 ≤ data.length) := by
  induction n generalizing off l with
  | zero => cases h; exact ⟨rfl, fun h0 => absurd h0 (Nat.lt_irrefl 0)⟩
  | succ n ih =>
    rw [tableLoop] at h
    cases hs : structUnpack fs data off with
    | error e => rw [hs] at h; cases h
    | ok s =>
      rw [hs] at h
      dsimp only at h
      cases hl : tableLoop fs data n (off + structLen fs) with
      | error e => rw [hl] at h; cases h
      | ok l' =>
        rw [hl] at h
        cases h
        have hb := structUnpack_bound fs data off s hpos hne hs
        obtain ⟨hlen, hrest⟩ := ih _ _ hl
        refine ⟨congrArg Nat.succ hlen, fun _ => ?_⟩
        cases n with
        | zero => exact hb
        | succ m =>
          have := hrest (Nat.succ_pos m)
          rw [Nat.add_sub_cancel] at this ⊢
          rw [Nat.mul_succ]
          omega

theorem dosHdr_ok (data : Bytes) (hlen : 64 ≤ data.length) (hmz : slice data 0 2 = [0x4d, 0x5a]) :
    ∃ dos, dosHdr data = .ok dos ∧ dos.nth 2 = u32 data 0x3c := by
  have hu := structUnpack_ok dosFields data 0 (by rw [dos_end, Nat.zero_add]; exact hlen)
  refine ⟨_, by rw [dosHdr, hu]; dsimp only; rw [if_pos (by rw [hmz]; rfl)], ?_⟩
  exact (leTake_eq _ 4).symm

theorem coffHdr_ok (data : Bytes) (off : Nat) (hin : off + 24 ≤ data.length) (hsig : u32 data off = 0x4550) :
    coffHdr data off = .ok (readSpec data off coffSpec) := by
  have hu := structUnpack_ok coffFields data off (by rw [coff_end]; exact hin)
  rw [coff_layout, map_readAt_ofSpec] at hu
  have h0 : (Rec.nth (readSpec data off coffSpec) 0 == 0x4550) = true := beq_iff_eq.mpr hsig
  rw [coffHdr, hu]
  dsimp only
  rw [if_pos h0]

/-- stated over the field list `fs` the code patches together, the specification's table `s` and its
    size `fixed`, so that it serves both magics -/
theorem optHdr_ok (data : Bytes) (o : Nat) (plus : Bool) (fs : List Field) (s : Spec) (fixed nd : Nat)
    (hplus : (slice data o 2 == [0x0b, 0x02]) = plus) (hfs : optFields (slice data o 2) = fs)
    (hl : layout fs 0 = s.map ofSpec) (hlen : structLen fs = fixed) (hend : layoutEnd fs 0 = fixed)
    (hnd : Rec.nth (readSpec data o s) (idxNdirs plus) = nd) (hle : nd ≤ maxDirs)
    (hin : o + fixed + 8 * nd ≤ data.length) :
    optHdr data o = .ok (plus, readSpec data o s,
      (List.range nd).map (fun i => readSpec data (o + fixed + 8 * i) ddSpec)) := by
  have hu := structUnpack_ok fs data o (by omega)
  rw [hl, map_readAt_ofSpec] at hu
  have hdirs := tableLoop_ok ddFields ddSpec 8 dd_layout dd_len (by rw [dd_end]; decide) data nd (o + fixed) hin
  rw [optHdr, hfs, hu, hplus]
  dsimp only
  rw [hnd, Nat.min_eq_left hle, hlen, hdirs]

theorem dosHdr_inv {data : Bytes} {dos : Rec} (h : dosHdr data = .ok dos) : slice data 0 2 = [0x4d, 0x5a] := by
  rw [dosHdr] at h
  cases hu : structUnpack dosFields data 0 with
  | error e => rw [hu] at h; cases h
  | ok r =>
    rw [hu] at h
    dsimp only at h
    by_cases hm : (slice data 0 2 == [0x4d, 0x5a]) = true
    · exact beq_iff_eq.mp hm
    · rw [if_neg hm] at h; cases h

theorem coffHdr_inv {data : Bytes} {off : Nat} {nt : Rec} (h : coffHdr data off = .ok nt) :
    off + 24 ≤ data.length ∧ nt = readSpec data off coffSpec := by
  rw [coffHdr] at h
  cases hu : structUnpack coffFields data off with
  | error e => rw [hu] at h; cases h
  | ok r =>
    have hb := structUnpack_bound coffFields data off r coff_pos (by decide) hu
    rw [hu] at h
    rw [structUnpack_ok coffFields data off hb, coff_layout, map_readAt_ofSpec] at hu
    cases hu
    dsimp only at h
    split at h
    · cases h; exact ⟨coff_end ▸ hb, rfl⟩
    · cases h

theorem optHdr_inv {data : Bytes} {off : Nat} {plus : Bool} {opt : Rec} {ds : List Rec}
    (h : optHdr data off = .ok (plus, opt, ds)) : ds.length ≤ 16 ∧ 8 * ds.length ≤ data.length := by
  rw [optHdr] at h
  cases hu : structUnpack (optFields (slice data off 2)) data off with
  | error e => rw [hu] at h; cases h
  | ok r =>
    rw [hu] at h
    dsimp only at h
    cases hl : tableLoop ddFields data (min (r.nth (idxNdirs (slice data off 2 == [0x0b, 0x02]))) maxDirs)
        (off + structLen (optFields (slice data off 2))) with
    | error e => rw [hl] at h; cases h
    | ok l =>
      rw [hl] at h
      cases h
      obtain ⟨hdl, hdin⟩ := tableLoop_bound ddFields dd_pos (by decide) data _ _ _ hl
      refine ⟨hdl ▸ Nat.min_le_right _ _, ?_⟩
      by_cases hz : ds.length = 0
      · omega
      · have := hdin (by omega)
        rw [dd_len, dd_end, ← hdl] at this
        omega

theorem peParseRaw_inv {data : Bytes} {o : PeObj} (h : peParseRaw data = .ok o) :
    (∃ dos, dosHdr data = .ok dos) ∧ coffHdr data o.lfanew = .ok o.nt ∧
    optHdr data (o.lfanew + structLen coffFields) = .ok (o.plus, o.opt, o.dirs) ∧
    tableLoop secFields data (o.nt.nth 2) (o.lfanew + structLen coffFields + o.nt.nth 6) = .ok o.sections := by
  rw [peParseRaw] at h
  cases hd : dosHdr data with
  | error e => rw [hd] at h; cases h
  | ok dos =>
    rw [hd] at h
    dsimp only at h
    cases hc : coffHdr data (dos.nth 2) with
    | error e => rw [hc] at h; cases h
    | ok nt =>
      rw [hc] at h
      dsimp only at h
      cases ho : optHdr data (dos.nth 2 + structLen coffFields) with
      | error e => rw [ho] at h; cases h
      | ok r =>
        obtain ⟨plus, opt, ds⟩ := r
        rw [ho] at h
        dsimp only at h
        cases hs : tableLoop secFields data (nt.nth 2) (dos.nth 2 + structLen coffFields + nt.nth 6) with
        | error e => rw [hs] at h; cases h
        | ok secs => rw [hs] at h; cases h; exact ⟨⟨dos, rfl⟩, hc, ho, hs⟩

theorem peParseRaw_head (data : Bytes) (o : PeObj) (h : peParseRaw data = .ok o) : data.head? = some 77 := by
  obtain ⟨⟨dos, hdos⟩, -⟩ := peParseRaw_inv h
  have hm := dosHdr_inv hdos
  cases data with
  | nil => cases hm
  | cons a t => exact congrArg some (List.cons.inj hm).1

theorem peParseRaw_raises (data : Bytes) (e : PyExn) (h : peParseRaw data = .error e) :
    e = .peError ∨ e = .structureError := by
  simp only [peParseRaw] at h
  split at h
  · cases h; exact .inl rfl
  · split at h
    · rename_i e' he'
      cases h
      unfold coffHdr at he'
      split at he'
      · rename_i e'' he''; cases he'; exact .inr (structUnpack_raises _ _ _ _ he'')
      · split at he'
        · cases he'
        · cases he'; exact .inl rfl
    · split at h
      · rename_i e' he'
        cases h
        unfold optHdr at he'
        simp only at he'
        split at he'
        · rename_i e'' he''; cases he'; exact .inr (structUnpack_raises _ _ _ _ he'')
        · split at he'
          · rename_i e'' he''; cases he'; exact .inr (tableLoop_raises _ _ _ _ _ he'')
          · cases he'
      · split at h
        · rename_i e' he'; cases h; exact .inr (tableLoop_raises _ _ _ _ _ he')
        · cases h

theorem locateSecs_sound (ss : List Rec) (i0 : Nat) (a : Int) (i : Nat) (off : Int)
    (h : locateSecs ss i0 a = some (i, off)) :
    ∃ k, i = i0 + k ∧ k < ss.length ∧
    (let s := ss.getD k []
     s.nth 9 ≠ IMAGE_SCN_LNK_REMOVE ∧ (s.nth 2 : Int) ≤ a ∧ a < (s.nth 2 : Int) + (s.nth 1 : Int) ∧
     off = a - (s.nth 2 : Int)) ∧
    (∀ j, j < k → let s := ss.getD j []
      s.nth 9 = IMAGE_SCN_LNK_REMOVE ∨ ¬ ((s.nth 2 : Int) ≤ a ∧ a < (s.nth 2 : Int) + (s.nth 1 : Int))) := by
  induction ss generalizing i0 with
  | nil => cases h
  | cons s ss ih =>
    rw [locateSecs] at h
    -- either `s` is skipped and the answer comes from the rest, or `s` is the answer
    have key : (locateSecs ss (i0 + 1) a = some (i, off) ∧
          (s.nth 9 = IMAGE_SCN_LNK_REMOVE ∨ ¬ ((s.nth 2 : Int) ≤ a ∧ a < (s.nth 2 : Int) + (s.nth 1 : Int)))) ∨
        (i = i0 ∧ off = a - (s.nth 2 : Int) ∧ s.nth 9 ≠ IMAGE_SCN_LNK_REMOVE ∧
          ((s.nth 2 : Int) ≤ a ∧ a < (s.nth 2 : Int) + (s.nth 1 : Int))) := by
      by_cases hrem : (s.nth 9 == IMAGE_SCN_LNK_REMOVE) = true
      · rw [if_pos hrem] at h
        exact .inl ⟨h, .inl (beq_iff_eq.mp hrem)⟩
      rw [if_neg hrem] at h
      by_cases hin : (s.nth 2 : Int) ≤ a ∧ a < (s.nth 2 : Int) + (s.nth 1 : Int)
      · rw [if_pos hin] at h
        cases h
        exact .inr ⟨rfl, rfl, fun e => hrem (beq_iff_eq.mpr e), hin⟩
      · rw [if_neg hin] at h
        exact .inl ⟨h, .inr hin⟩
    rcases key with ⟨h, hs⟩ | ⟨rfl, rfl, hne, hin⟩
    · obtain ⟨k, rfl, hk, h3, h4⟩ := ih _ h
      refine ⟨k + 1, by omega, Nat.succ_lt_succ hk, h3, fun j hj => ?_⟩
      cases j with
      | zero => exact hs
      | succ j => exact h4 j (Nat.lt_of_succ_lt_succ hj)
    · exact ⟨0, rfl, Nat.succ_pos _, ⟨hne, hin.1, hin.2, rfl⟩, fun j hj => absurd hj (Nat.not_lt_zero _)⟩

end Amoco.Pe
