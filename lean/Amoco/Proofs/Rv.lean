/-
  C06, RISC-V: the DSL's width-tagged naturals are read as core `BitVec`s (`bv`); an expression, a statement
  and a whole `i_XXX` body then evaluate compositionally, one lemma per kind of operator, statement and shape
  of body, with the decoder hooks' immediates read back as the manual's.  x86: the flag formulas of `Model.Flags`.
-/
import Amoco.Model.SemDsl
import Amoco.Model.Flags

namespace Amoco.Rv
variable {n : Nat}

@[simp] theorem get_withPc (σ : State n) (p : BitVec n) (i : Nat) : (σ.withPc p).get i = σ.get i := rfl
@[simp] theorem pc_withPc (σ : State n) (p : BitVec n) : (σ.withPc p).pc = p := rfl
@[simp] theorem mem_withPc (σ : State n) (p : BitVec n) : (σ.withPc p).mem = σ.mem := rfl
@[simp] theorem withPc_withPc (σ : State n) (p q : BitVec n) : (σ.withPc p).withPc q = σ.withPc q := rfl
theorem set_withPc (σ : State n) (p : BitVec n) (i : Nat) (v : BitVec n) :
    (σ.withPc p).set i v = (σ.set i v).withPc p := by
  unfold State.set State.withPc; split <;> rfl
@[simp] theorem set_zero (σ : State n) (v : BitVec n) : σ.set 0 v = σ := by simp [State.set]
@[simp] theorem pc_set (σ : State n) (i : Nat) (v : BitVec n) : (σ.set i v).pc = σ.pc := by
  unfold State.set; split <;> rfl
@[simp] theorem mem_set (σ : State n) (i : Nat) (v : BitVec n) : (σ.set i v).mem = σ.mem := by
  unfold State.set; split <;> rfl
@[simp] theorem withPc_self (σ : State n) : σ.withPc σ.pc = σ := rfl

def bv {w : Nat} (x : BitVec w) (sf : Bool) : Val := ⟨x.toNat, w, sf⟩

@[simp] theorem bv_size {w} (x : BitVec w) (sf) : (bv x sf).size = w := rfl
@[simp] theorem bv_v {w} (x : BitVec w) (sf) : (bv x sf).v = x.toNat := rfl
@[simp] theorem bv_sf {w} (x : BitVec w) (sf) : (bv x sf).sf = sf := rfl
theorem mk_eq_bv {w} (x : BitVec w) (sf) : (⟨x.toNat, w, sf⟩ : Val) = bv x sf := rfl
@[simp] theorem bv_with_sf {w} (x : BitVec w) (sf s) : ({ bv x sf with sf := s } : Val) = bv x s := rfl

theorem sint_bv {w} (x : BitVec w) (sf) : (bv x sf).sint = x.toInt := by
  rw [BitVec.toInt_eq_toNat_cond]
  unfold Val.sint bv
  by_cases h : 2 * x.toNat < 2 ^ w
  · have h' : ¬ (2 ^ w ≤ 2 * x.toNat) := by omega
    simp [h, h']
  · have h' : (2 ^ w ≤ 2 * x.toNat) := by omega
    simp [h, h']

theorem toInt_bv_signed {w} (x : BitVec w) : (bv x true).toInt = x.toInt := by
  rw [← sint_bv x true]
  simp only [Val.toInt, Val.sint, bv, Bool.true_and]
  by_cases h : 2 ^ w ≤ 2 * x.toNat <;> simp [h]

theorem toInt_bv_unsigned {w} (x : BitVec w) : (bv x false).toInt = x.toNat := by
  simp [Val.toInt, bv]

theorem mkCst_bv (v : Int) (w : Nat) : mkCst v w = bv (BitVec.ofInt w v) (decide (v < 0)) := by
  simp [mkCst, bv, BitVec.toNat_ofInt]

theorem bit_congr {a b : Bool} (h : a = b) : bit a = bit b := by rw [h]

@[simp] theorem binop_add {w} (a b : BitVec w) (s1 s2) :
    binop .add (bv a s1) (bv b s2) = some (bv (a + b) (s1 || s2)) := by
  simp [binop, bv, BitVec.toNat_add]
@[simp] theorem binop_sub {w} (a b : BitVec w) (s1 s2) :
    binop .sub (bv a s1) (bv b s2) = some (bv (a - b) (s1 || s2)) := by
  simp [binop, bv, BitVec.toNat_sub]
@[simp] theorem binop_and {w} (a b : BitVec w) (s1 s2) :
    binop .and (bv a s1) (bv b s2) = some (bv (a &&& b) s1) := by
  simp [binop, bv]
@[simp] theorem binop_or {w} (a b : BitVec w) (s1 s2) :
    binop .or (bv a s1) (bv b s2) = some (bv (a ||| b) s1) := by
  simp [binop, bv]
@[simp] theorem binop_xor {w} (a b : BitVec w) (s1 s2) :
    binop .xor (bv a s1) (bv b s2) = some (bv (a ^^^ b) s1) := by
  simp [binop, bv]
@[simp] theorem binop_shl {w} (a : BitVec w) (s1) (b : Val) :
    binop .shl (bv a s1) b = some (bv (a <<< b.v) s1) := by
  simp [binop, bv, BitVec.toNat_shiftLeft]
@[simp] theorem binop_shr {w} (a : BitVec w) (s1) (b : Val) :
    binop .shr (bv a s1) b = some (bv (a >>> b.v) s1) := by
  simp [binop, bv]
@[simp] theorem binop_sar {w} (a : BitVec w) (s1) (b : Val) :
    binop .sar (bv a s1) b = some (bv (a.sshiftRight b.v) s1) := by
  simp only [binop, sint_bv]
  have : ((a.toInt >>> b.v) % ((2 ^ w : Nat) : Int)).toNat = (a.sshiftRight b.v).toNat := by
    rw [← BitVec.toInt_sshiftRight, ← BitVec.toNat_ofInt, BitVec.ofInt_toInt]
  simp only [bv_size, bv_sf, this]
  rfl
@[simp] theorem binop_eq {w} (a b : BitVec w) (s1 s2) :
    binop .eq (bv a s1) (bv b s2) = some (bit (a == b)) := by
  simp only [binop, bv, if_true, Option.some.injEq]
  apply bit_congr
  rw [Bool.eq_iff_iff]; simp [BitVec.toNat_inj]
@[simp] theorem binop_ne {w} (a b : BitVec w) (s1 s2) :
    binop .ne (bv a s1) (bv b s2) = some (bit (a != b)) := by
  simp only [binop, bv, if_true, Option.some.injEq]
  apply bit_congr
  rw [Bool.eq_iff_iff]; simp [BitVec.toNat_inj]
@[simp] theorem binop_lt_signed {w} (a b : BitVec w) :
    binop .lt (bv a true) (bv b true) = some (bit (a.slt b)) := by
  simp only [binop, toInt_bv_signed, BitVec.slt_eq_decide, bv_size, if_true]
@[simp] theorem binop_ge_signed {w} (a b : BitVec w) :
    binop .ge (bv a true) (bv b true) = some (bit (!(a.slt b))) := by
  simp only [binop, toInt_bv_signed, BitVec.slt_eq_decide, bv_size, if_true, Option.some.injEq]
  apply bit_congr
  rw [Bool.eq_iff_iff]; simp [Int.not_lt]
@[simp] theorem binop_ltu {w} (a b : BitVec w) (s1 s2) :
    binop .ltu (bv a s1) (bv b s2) = some (bit (a.ult b)) := by
  by_cases h : a.toNat < b.toNat <;> simp [binop, bv, bit, h, BitVec.ult_eq_decide]
@[simp] theorem binop_geu {w} (a b : BitVec w) (s1 s2) :
    binop .geu (bv a s1) (bv b s2) = some (bit (!(a.ult b))) := by
  simp only [binop, BitVec.ult_eq_decide, bv_size, bv_v, if_true, Option.some.injEq]
  apply bit_congr
  rw [Bool.eq_iff_iff]; simp [Nat.not_lt]

def Val.nosf (a : Val) : Val := { a with sf := false }

@[simp] theorem nosf_bv {w} (x : BitVec w) (sf) : (bv x sf).nosf = bv x false := rfl

def arith {w} (a b : BitVec w) : BinOp → Option (BitVec w)
  | .add => some (a + b)
  | .sub => some (a - b)
  | .and => some (a &&& b)
  | .or => some (a ||| b)
  | .xor => some (a ^^^ b)
  | _ => none

/-- shifts: the right operand gives the amount, whatever its size -/
def shift {w} (a : BitVec w) (k : Nat) : BinOp → Option (BitVec w)
  | .shl => some (a <<< k)
  | .shr => some (a >>> k)
  | .sar => some (a.sshiftRight k)
  | _ => none

/-- comparisons; `<` and `≥` are the signed ones, and only when both operands are declared signed (`sg`) -/
def cmp {w} (a b : BitVec w) : BinOp → Bool → Option Bool
  | .eq, _ => some (a == b)
  | .ne, _ => some (a != b)
  | .lt, true => some (a.slt b)
  | .ge, true => some !(a.slt b)
  | .ltu, _ => some (a.ult b)
  | .geu, _ => some !(a.ult b)
  | _, _ => none

theorem binop_arith {w} {op : BinOp} {a b v : BitVec w} (h : arith a b op = some v) (s1 s2 : Bool) :
    (binop op (bv a s1) (bv b s2)).map Val.nosf = some (bv v false) := by
  cases op <;> cases h <;> simp

theorem binop_shift {w} {op : BinOp} {a v : BitVec w} {y : Val} (h : shift a y.v op = some v) (s1 : Bool) :
    (binop op (bv a s1) y).map Val.nosf = some (bv v false) := by
  cases op <;> cases h <;> simp

theorem binop_cmp {w} {op : BinOp} {s1 s2 : Bool} {a b : BitVec w} {t : Bool} (h : cmp a b op (s1 && s2) = some t) :
    binop op (bv a s1) (bv b s2) = some (bit t) := by
  cases op with
  | lt | ge => cases s1 <;> cases s2 <;> cases h; simp
  | eq | ne | ltu | geu => cases h; simp
  | _ => cases h

theorem slcV_bv {w} (x : BitVec w) (sf) (lo hi : Nat) (h1 : lo < hi) (h2 : hi ≤ w) :
    slcV (bv x sf) lo hi = some (bv (x.extractLsb' lo (hi - lo)) sf) := by
  simp [slcV, bv, h1, h2, BitVec.extractLsb'_toNat]

theorem sextV_bv {w} (x : BitVec w) (sf) (m : Nat) (h : w < m) :
    sextV (bv x sf) m = bv (x.signExtend m) true := by
  have h' : ¬ (m ≤ w) := by omega
  simp only [sextV, bv_size, h', if_false, sint_bv]
  simp only [bv, BitVec.signExtend, BitVec.toNat_ofInt]

theorem sextV_bv_same {w} (x : BitVec w) (sf) : sextV (bv x sf) w = bv x sf := by
  simp [sextV]

theorem zextV_bv {w} (x : BitVec w) (sf) (m : Nat) (h : w < m) :
    zextV (bv x sf) m = bv (x.setWidth m) false := by
  have h' : ¬ (m ≤ w) := by omega
  have : x.toNat % 2 ^ m = x.toNat := Nat.mod_eq_of_lt (Nat.lt_of_lt_of_le x.isLt (Nat.pow_le_pow_right (by decide) (by omega)))
  simp [zextV, bv, h', this]

theorem zextV_bv_same {w} (x : BitVec w) (sf) : zextV (bv x sf) w = bv x sf := by
  simp [zextV]

theorem tstV_bit {w} (c : Bool) (a b : BitVec w) (s1 s2) :
    tstV (bit c) (bv a s1) (bv b s2) = some (if c then bv a s1 else bv b s2) := by
  cases c <;> simp [tstV, bit]

theorem readOpnd_reg (σ : State n) (i : Nat) : readOpnd σ (.reg i) = some (bv (σ.get i) false) := rfl

theorem two_pow_byte_succ (k : Nat) : 2 ^ (8 * (k + 1)) = 256 * 2 ^ (8 * k) := by
  rw [Nat.mul_succ, Nat.pow_add]; exact Nat.mul_comm _ _

theorem loadBytes_lt (mem : BitVec n → BitVec 8) (a : BitVec n) (k : Nat) : loadBytes mem a k < 2 ^ (8 * k) := by
  induction k generalizing a with
  | zero => simp [loadBytes]
  | succ k ih =>
    simp only [loadBytes]
    have h1 := (mem a).isLt
    have h2 := ih (a + 1)
    have := two_pow_byte_succ k
    omega

theorem readOpnd_mem (σ : State n) (base k : Nat) (disp : Int) :
    readOpnd σ (.mem base (8 * k) disp) =
      some (bv (BitVec.ofNat (8 * k) (loadBytes σ.mem (memAddr σ base disp) k)) false) := by
  have h := loadBytes_lt σ.mem (memAddr σ base disp) k
  simp [readOpnd, bv, Nat.mod_eq_of_lt h]

theorem Bits_cat_bv {m k} (x : BitVec m) (y : BitVec k) :
    Bits.cat (x.toNat, m) (y.toNat, k) = ((y ++ x).toNat, m + k) := by
  simp only [Bits.cat, BitVec.toNat_append]
  rw [← Nat.shiftLeft_add_eq_or_of_lt x.isLt, Nat.shiftLeft_eq, Nat.add_comm]

theorem toNat_append_add {m k} (x : BitVec m) (y : BitVec k) : (x ++ y).toNat = x.toNat * 2 ^ k + y.toNat := by
  rw [BitVec.toNat_append, ← Nat.shiftLeft_add_eq_or_of_lt y.isLt, Nat.shiftLeft_eq]

theorem ofInt_four (n : Nat) : BitVec.ofInt n 4 = 4#n := by
  have : (4 : Int) = ((4 : Nat) : Int) := rfl
  rw [this, BitVec.ofInt_natCast]

/-! ### the decoder hooks assemble the manual's immediates

A field is a bit-vector, `//` is `++` read from the other end, `.int(-1)` is `toInt`; what is left to check is
that the hook lists the fields in the order of figure 2.4, a linear identity between the fields' values. -/

theorem sint_eq_toInt {v k m : Nat} (x : BitVec m) (h2 : k = m) (h1 : v = x.toNat) :
    Bits.sint (v, k) = x.toInt := by
  subst h2 h1
  exact sint_bv x false

theorem ofInt_immI (n : Nat) (w : BitVec 32) : BitVec.ofInt n (fld w 20 12).sint = immI n w :=
  congrArg (BitVec.ofInt n) (sint_eq_toInt (w.extractLsb' 20 12) rfl rfl)

theorem readOpnd_cst {σ : State n} {v : Int} {size : Nat} {x : BitVec size} (h : BitVec.ofInt size v = x) :
    readOpnd σ (cstOf v size) = some (bv x (decide (v < 0))) := by
  subst h
  simp [readOpnd, cstOf, bv, BitVec.toNat_ofInt]

/-- ADDIW's hook keeps a 32-bit immediate: the low word of the 64-bit I-immediate -/
theorem ofInt_immIW (w : BitVec 32) : BitVec.ofInt 32 (fld w 20 12).sint = lo32 (immI 64 w) := by
  rw [ofInt_immI]
  apply BitVec.eq_of_toNat_eq
  simp only [lo32, immI, BitVec.toNat_setWidth, BitVec.toNat_signExtend, BitVec.msb_eq_decide,
    BitVec.extractLsb'_toNat]
  have := w.isLt
  split <;> omega

theorem readOpnd_shamt (σ : State n) (k m : Nat) (w : BitVec 32) (h : k ≤ m) :
    readOpnd σ (cstOf ((fld w 20 k).1 : Int) m) = some ⟨(w.extractLsb' 20 k).toNat, m, false⟩ := by
  have h1 := (w.extractLsb' 20 k).isLt
  have h2 : 2 ^ k ≤ 2 ^ m := Nat.pow_le_pow_right (by decide) h
  have e : (((w.extractLsb' 20 k).toNat : Int) % ((2 ^ m : Nat) : Int)).toNat = (w.extractLsb' 20 k).toNat := by
    rw [Int.emod_eq_of_lt (by omega) (by omega), Int.toNat_natCast]
  simp only [readOpnd, cstOf, fld, e]
  exact congrArg (fun s => some (Val.mk _ m s)) (decide_eq_false (Int.not_lt.2 (Int.natCast_nonneg _)))

theorem readOpnd_load (σ : State n) (w : BitVec 32) (rs1 bits : Nat) (h8 : bits % 8 = 0) :
    readOpnd σ (.mem rs1 bits (fld w 20 12).sint) =
      some (bv (BitVec.ofNat bits (loadBytes σ.mem (σ.get rs1 + immI n w) (bits / 8))) false) := by
  obtain ⟨k, rfl⟩ : ∃ k, bits = 8 * k := ⟨bits / 8, by omega⟩
  rw [readOpnd_mem, memAddr, ofInt_immI, Nat.mul_div_cancel_left k (by decide)]

theorem storeBytes_mod {n} (mem : BitVec n → BitVec 8) (a : BitVec n) (v k : Nat) :
    storeBytes mem a (v % 2 ^ (8 * k)) k = storeBytes mem a v k := by
  induction k generalizing mem a v with
  | zero => simp [storeBytes]
  | succ k ih =>
    simp only [storeBytes]
    have e := two_pow_byte_succ k
    have h1 : BitVec.ofNat 8 (v % 2 ^ (8 * (k + 1))) = BitVec.ofNat 8 v := by
      apply BitVec.eq_of_toNat_eq
      simp only [BitVec.toNat_ofNat, e]
      exact Nat.mod_mod_of_dvd v ⟨_, rfl⟩
    have h2 : v % 2 ^ (8 * (k + 1)) / 256 = v / 256 % 2 ^ (8 * k) := by
      rw [e, Nat.mod_mul_right_div_self]
    rw [h1, h2, ih]

theorem storeBytes_extract {n m} (mem : BitVec n → BitVec 8) (a : BitVec n) (x : BitVec m) (k : Nat) :
    storeBytes mem a (x.extractLsb' 0 (8 * k)).toNat k = storeBytes mem a x.toNat k := by
  rw [BitVec.extractLsb'_toNat, Nat.shiftRight_zero, storeBytes_mod]

theorem Isa.le_xlen (isa : Isa) : 32 ≤ isa.xlen := by cases isa <;> decide
theorem Isa.xlen_eq (isa : Isa) : isa.xlen = 2 ^ isa.shBits := by cases isa <;> rfl
theorem Isa.shBits_le (isa : Isa) : isa.shBits ≤ isa.xlen := by cases isa <;> decide

/-! ### evaluation of expressions

The value an expression denotes is stated up to its declared signedness,
`(evalE ops c e).map Val.nosf = some (bv v false)`: that is all an assignment reads. -/

theorem of_nosf {o : Option Val} {w} {x : BitVec w} (h : o.map Val.nosf = some (bv x false)) :
    ∃ sf, o = some (bv x sf) := by
  cases o with
  | none => cases h
  | some val =>
    obtain ⟨v, size, sf⟩ := val
    simp only [Option.map_some, Option.some.injEq, Val.nosf, bv, Val.mk.injEq] at h
    obtain ⟨rfl, rfl, _⟩ := h
    exact ⟨sf, rfl⟩

/-- a binary operation on two evaluated subterms (an evaluated right operand is not a bare Python int) -/
theorem evalE_bin {ops : List Operand} {c : Ctx n} {op : BinOp} {e1 e2 : E} {x y : Val} {r : Option Val}
    (h1 : evalE ops c e1 = some x) (h2 : evalE ops c e2 = some y) (hop : binop op x y = r) :
    evalE ops c (.bin op e1 e2) = r := by
  rw [evalE, h1, ← hop]
  cases e2 with
  | int v => cases h2
  | ilen => cases h2
  | _ => simp only [h2]

theorem ev_bin {ops : List Operand} {c : Ctx n} {op : BinOp} {e1 e2 : E} {x y : Val} {m} {v : BitVec m}
    (h1 : evalE ops c e1 = some x) (h2 : evalE ops c e2 = some y)
    (hop : (binop op x y).map Val.nosf = some (bv v false)) :
    (evalE ops c (.bin op e1 e2)).map Val.nosf = some (bv v false) := by
  rw [evalE_bin h1 h2 rfl, hop]

theorem evalE_opnd {ops : List Operand} {c : Ctx n} {i : Nat} {o : Operand} {r : Option Val}
    (h : ops[i]? = some o) (hr : readOpnd c.st o = r) : evalE ops c (.opnd i) = r := by
  rw [evalE, h]; exact hr

theorem ev_opnd {ops : List Operand} {c : Ctx n} {i : Nat} {o : Operand} {w} {x : BitVec w} {s : Bool}
    (h : ops[i]? = some o) (hr : readOpnd c.st o = some (bv x s)) :
    (evalE ops c (.opnd i)).map Val.nosf = some (bv x false) :=
  congrArg (Option.map Val.nosf) (evalE_opnd h hr)

theorem evalE_signed {ops : List Operand} {c : Ctx n} {e : E} {w} {x : BitVec w} {s : Bool}
    (h : evalE ops c e = some (bv x s)) : evalE ops c (.signed e) = some (bv x true) := by
  rw [evalE, h]; rfl

theorem ev_setIf {ops : List Operand} {c : Ctx n} {cnd : E} {t : Bool} (m : Nat)
    (hc : evalE ops c cnd = some (bit t)) :
    (evalE ops c (setIf m cnd)).map Val.nosf = some (bv (bool2bv m t) false) := by
  cases t <;> simp [setIf, evalE, hc, mkCst_bv, tstV_bit, bool2bv]

theorem evalE_unsigned {ops : List Operand} {c : Ctx n} {e : E} {v k : Nat} {s : Bool}
    (h : evalE ops c e = some ⟨v, k, s⟩) : evalE ops c (.unsigned e) = some ⟨v, k, false⟩ := by
  rw [evalE, h]; rfl

theorem evalE_and_mask {ops : List Operand} {c : Ctx n} {e : E} {b : BitVec n} {s : Bool} {k : Nat} (M : Nat)
    (hM : M = 2 ^ k) (hk : k ≤ n) (h : evalE ops c e = some (bv b s)) :
    evalE ops c (.bin .and e (.int ((M : Int) - 1))) = some ⟨b.toNat % M, n, s⟩ := by
  subst hM
  have h1 : (1 : Int) ≤ ((2 ^ k : Nat) : Int) := by have := Nat.two_pow_pos k; omega
  have h2 : 2 ^ k ≤ 2 ^ n := Nat.pow_le_pow_right (by decide) hk
  have e1 : (((2 ^ k : Nat) : Int) - 1) % ((2 ^ n : Nat) : Int) = ((2 ^ k - 1 : Nat) : Int) := by
    rw [Int.emod_eq_of_lt (by omega) (by omega)]; omega
  simp only [evalE, h, binop, mkCst, bv_size, bv_v, bv_sf, e1, Int.toNat_natCast, if_true,
    Nat.and_two_pow_sub_one_eq_mod]

theorem evalE_w32 {ops : List Operand} {c : Ctx n} {i : Nat} {a : BitVec n} {s : Bool} (hn : 32 ≤ n)
    (h : evalE ops c (.opnd i) = some (bv a s)) : evalE ops c (w32 i) = some (bv (lo32 a) s) := by
  have e : a.extractLsb' 0 32 = lo32 a := by
    apply BitVec.eq_of_toNat_eq
    simp [lo32, BitVec.extractLsb'_toNat]
  rw [w32, evalE, h]
  exact (slcV_bv a s 0 32 (by decide) hn).trans (congrArg (fun x => some (bv x s)) e)

theorem ev_sext {ops : List Operand} {c : Ctx n} {e : E} {w} {x : BitVec w} (m : Nat) (hw : w ≤ m)
    (h : (evalE ops c e).map Val.nosf = some (bv x false)) :
    (evalE ops c (.sext e m)).map Val.nosf = some (bv (x.signExtend m) false) := by
  obtain ⟨s, h⟩ := of_nosf h
  rw [evalE, h]
  by_cases hlt : w < m
  · simp [sextV_bv x s m hlt]
  · obtain rfl : w = m := by omega
    simp [sextV_bv_same]

theorem ev_zext {ops : List Operand} {c : Ctx n} {e : E} {w} {x : BitVec w} (m : Nat) (hw : w ≤ m)
    (h : (evalE ops c e).map Val.nosf = some (bv x false)) :
    (evalE ops c (.zext e m)).map Val.nosf = some (bv (x.setWidth m) false) := by
  obtain ⟨s, h⟩ := of_nosf h
  rw [evalE, h]
  by_cases hlt : w < m
  · simp [zextV_bv x s m hlt]
  · obtain rfl : w = m := by omega
    simp [zextV_bv_same]

/-- the RV64 `*W` bodies: an operation on the low word of operand 1, sign-extended -/
theorem ev_w {ops : List Operand} {c : Ctx 64} {op : BinOp} {X : E} {a : BitVec 64} {s1 : Bool} {y : Val}
    {v : BitVec 32}
    (h1 : evalE ops c (.opnd 1) = some (bv a s1)) (h2 : evalE ops c X = some y)
    (hop : (binop op (bv (lo32 a) s1) y).map Val.nosf = some (bv v false)) :
    (evalE ops c (.sext (.bin op (w32 1) X) 64)).map Val.nosf = some (bv (v.signExtend 64) false) :=
  ev_sext 64 (by decide) (ev_bin (evalE_w32 (by decide) h1) h2 hop)

theorem exec_pc {ops : List Operand} {c : Ctx n} {e : E} {v : BitVec n}
    (he : (evalE ops c e).map Val.nosf = some (bv v false)) :
    execStmt ops c (.assign .pc e) = some { c with st := c.st.withPc v } := by
  obtain ⟨sf, he⟩ := of_nosf he
  simp [execStmt, he, writeLoc]

/-- `fmap[dst] = e` with a register destination -/
theorem exec_reg {ops : List Operand} {c : Ctx n} {rd : Nat} {e : E} {v : BitVec n}
    (h0 : ops[0]? = some (Operand.reg rd)) (he : (evalE ops c e).map Val.nosf = some (bv v false)) :
    execStmt ops c (.assign (.opnd 0) e) = some { c with st := c.st.set rd v } := by
  obtain ⟨sf, he⟩ := of_nosf he
  simp [execStmt, he, writeLoc, h0]

/-- `if dst is not zero: fmap[dst] = e`: a write to `x0` is discarded either way -/
theorem exec_wr {ops : List Operand} {c : Ctx n} {rd : Nat} {e : E} {v : BitVec n}
    (h0 : ops[0]? = some (Operand.reg rd)) (he : (evalE ops c e).map Val.nosf = some (bv v false)) :
    execStmt ops c (.guardNZ 0 (.assign (.opnd 0) e)) = some { c with st := c.st.set rd v } := by
  by_cases h : rd = 0
  · subst h; simp [execStmt, h0]
  · simpa [execStmt, h0, h] using exec_reg h0 he

/-- `fmap[dst] = e` with a memory destination -/
theorem exec_mem {ops : List Operand} {c : Ctx n} {base bits : Nat} {disp : Int} {e : E} {v : BitVec bits}
    (h0 : ops[0]? = some (Operand.mem base bits disp)) (h8 : bits % 8 = 0)
    (he : (evalE ops c e).map Val.nosf = some (bv v false)) :
    execStmt ops c (.assign (.opnd 0) e) =
      some { c with st := { c.st with mem := storeBytes c.st.mem (memAddr c.st base disp) v.toNat (bits / 8) } } := by
  obtain ⟨sf, he⟩ := of_nosf he
  simp [execStmt, he, writeLoc, h0, h8]

/-- the `@__npc` step -/
theorem ev_npc (ops : List Operand) (c : Ctx n) :
    (evalE ops c (.bin .add .pc .ilen)).map Val.nosf = some (bv (c.st.pc + 4#n) false) := by
  simp [evalE, mk_eq_bv, mkCst_bv]

/-- `@__npc` alone -/
theorem semIdeal_npc (ops : List Operand) (σ : State n) : semIdeal [npc] ops σ = some (σ.withPc (σ.pc + 4#n)) := by
  simp only [semIdeal, execAll, npc, exec_pc (ev_npc ops _), Option.map_some]

/-- `@__npc` + `if dst is not zero: fmap[dst] = fmap(e)` -/
theorem semIdeal_wr {ops : List Operand} {rd : Nat} {e : E} {σ : State n} (v : BitVec n)
    (h0 : ops[0]? = some (Operand.reg rd))
    (he : (evalE ops ⟨σ.withPc (σ.pc + 4#n), []⟩ e).map Val.nosf = some (bv v false)) :
    semIdeal (wr e) ops σ = some ((σ.set rd v).withPc (σ.pc + 4#n)) := by
  simp only [semIdeal, wr, execAll, npc, exec_pc (ev_npc ops _), exec_wr h0 he, set_withPc, Option.map_some]

/-- `@__npc` + unguarded `fmap[dst] = e` with a register destination (the loads) -/
theorem semIdeal_ld {ops : List Operand} {rd : Nat} {e : E} {σ : State n} (v : BitVec n)
    (h0 : ops[0]? = some (Operand.reg rd))
    (he : (evalE ops ⟨σ.withPc (σ.pc + 4#n), []⟩ e).map Val.nosf = some (bv v false)) :
    semIdeal [npc, .assign (.opnd 0) e] ops σ = some ((σ.set rd v).withPc (σ.pc + 4#n)) := by
  simp only [semIdeal, execAll, npc, exec_pc (ev_npc ops _), exec_reg h0 he, set_withPc, Option.map_some]

/-- `@__npc` + `fmap[dst] = e` with a memory destination (the stores); `imm` is the displacement as the manual has it -/
theorem semIdeal_st {ops : List Operand} {base bits : Nat} {disp : Int} {e : E} {σ : State n} (v : BitVec bits)
    {imm : BitVec n} (hd : BitVec.ofInt n disp = imm)
    (h0 : ops[0]? = some (Operand.mem base bits disp)) (h8 : bits % 8 = 0)
    (he : (evalE ops ⟨σ.withPc (σ.pc + 4#n), []⟩ e).map Val.nosf = some (bv v false)) :
    semIdeal [npc, .assign (.opnd 0) e] ops σ =
      some (({ σ with mem := storeBytes σ.mem (σ.get base + imm) v.toNat (bits / 8) } : State n).withPc
        (σ.pc + 4#n)) := by
  subst hd
  simp only [semIdeal, execAll, npc, exec_pc (ev_npc ops _), exec_mem h0 h8 he, Option.map_some]
  rfl

theorem ev_npc_set (ops : List Operand) (σ : State n) (rd : Nat) (v : BitVec n) :
    (evalE ops ⟨σ.set rd v, []⟩ (.bin .add .pc .ilen)).map Val.nosf = some (bv (σ.pc + 4#n) false) := by
  have := ev_npc ops ⟨σ.set rd v, []⟩
  simpa only [pc_set] using this

theorem evalE_pc_set (ops : List Operand) (σ : State n) (rd : Nat) (v : BitVec n) :
    evalE ops ⟨σ.set rd v, []⟩ .pc = some (bv σ.pc false) := by
  rw [evalE, pc_set]; rfl

/-- `if dst is not zero: fmap[dst] = e`, then `fmap[pc] = e'` (AUIPC, JAL) -/
theorem semIdeal_wr_pc {ops : List Operand} {rd : Nat} {e e' : E} {σ : State n} (v p : BitVec n)
    (h0 : ops[0]? = some (Operand.reg rd))
    (he : (evalE ops ⟨σ, []⟩ e).map Val.nosf = some (bv v false))
    (hp : (evalE ops ⟨σ.set rd v, []⟩ e').map Val.nosf = some (bv p false)) :
    semIdeal [.guardNZ 0 (.assign (.opnd 0) e), .assign .pc e'] ops σ = some ((σ.set rd v).withPc p) := by
  simp only [semIdeal, execAll, exec_wr h0 he, exec_pc hp, Option.map_some]

/-- JALR: the target is computed first (`rd` may be `rs1`), then the link is written, then the jump made -/
theorem semIdeal_jalr {ops : List Operand} {rd : Nat} {t : E} {σ : State n} (p : BitVec n) {s : Bool}
    (h0 : ops[0]? = some (Operand.reg rd)) (ht : evalE ops ⟨σ, []⟩ t = some (bv p s)) :
    semIdeal [.bind t, .guardNZ 0 (.assign (.opnd 0) (.bin .add .pc .ilen)), .assign .pc (.loc 0)] ops σ =
      some ((σ.set rd (σ.pc + 4#n)).withPc p) := by
  have hl : (evalE ops ⟨σ.set rd (σ.pc + 4#n), [] ++ [bv p s]⟩ (.loc 0)).map Val.nosf = some (bv p false) := rfl
  have hb : execStmt ops ⟨σ, []⟩ (.bind t) = some ⟨σ, [] ++ [bv p s]⟩ := by rw [execStmt, ht]
  simp only [semIdeal, execAll, hb, exec_wr h0 (ev_npc ops ⟨σ, [] ++ [bv p s]⟩), exec_pc hl, Option.map_some]

theorem binop_and_neg2 (a : BitVec n) (s : Bool) : binop .and (bv a s) (mkCst (-2) n) = some (bv (a &&& ~~~1#n) s) := by
  have : (-2 : Int) = Int.negSucc 1 := rfl
  rw [mkCst_bv, binop_and, this, BitVec.ofInt_negSucc_eq_not_ofNat]

theorem evalE_bin_int {ops : List Operand} {c : Ctx n} {op : BinOp} {e1 : E} {x : Val} {v : Int} {r : Option Val}
    (h1 : evalE ops c e1 = some x) (hop : binop op x (mkCst v x.size) = r) :
    evalE ops c (.bin op e1 (.int v)) = r := by
  rw [evalE, h1]; exact hop

theorem semIdeal_st_low {ops : List Operand} {base bits rs2 : Nat} {disp : Int} {σ : State n} {imm : BitVec n}
    (hd : BitVec.ofInt n disp = imm) (h0 : ops[0]? = some (Operand.mem base bits disp)) (h1 : ops[1]? = some (Operand.reg rs2))
    (h8 : bits % 8 = 0) (hk : 0 < bits) (hkn : bits ≤ n) :
    semIdeal [npc, .assign (.opnd 0) (.slc (.opnd 1) 0 bits)] ops σ =
      some (({ σ with mem := storeBytes σ.mem (σ.get base + imm) (σ.get rs2).toNat (bits / 8) } : State n).withPc
        (σ.pc + 4#n)) := by
  have he : (evalE ops ⟨σ.withPc (σ.pc + 4#n), []⟩ (.slc (.opnd 1) 0 bits)).map Val.nosf =
      some (bv ((σ.get rs2).extractLsb' 0 bits) false) := by
    rw [evalE, evalE_opnd h1 (readOpnd_reg _ rs2)]
    exact congrArg (Option.map Val.nosf) (slcV_bv _ _ 0 bits hk hkn)
  obtain ⟨k, rfl⟩ : ∃ k, bits = 8 * k := ⟨bits / 8, by omega⟩
  rw [semIdeal_st _ hd h0 h8 he, Nat.mul_div_cancel_left k (by decide), storeBytes_extract]

theorem semIdeal_branch {ops : List Operand} {c : E} {σ : State n} (b : Bool) (imm : BitVec n) {s : Bool}
    (hc : evalE ops ⟨σ, []⟩ c = some (bit b))
    (h2 : evalE ops ⟨σ, []⟩ (.opnd 2) = some (bv imm s)) :
    semIdeal (branch c) ops σ = some (σ.withPc (if b then σ.pc + imm else σ.pc + 4#n)) := by
  have h2' : evalE ops ⟨σ, []⟩ (.bin .add .pc (.opnd 2)) = some (bv (σ.pc + imm) s) :=
    evalE_bin rfl h2 (binop_add _ _ _ _)
  have h := of_nosf (ev_npc ops ⟨σ, []⟩)
  obtain ⟨s', h⟩ := h
  have ht : (evalE ops ⟨σ, []⟩ (.tst c (.bin .add .pc (.opnd 2)) (.bin .add .pc .ilen))).map Val.nosf =
      some (bv (if b then σ.pc + imm else σ.pc + 4#n) false) := by
    rw [evalE, hc, h2', h]
    dsimp only
    rw [tstV_bit]
    cases b <;> rfl
  simp only [semIdeal, branch, execAll, exec_pc ht, Option.map_some]

end Amoco.Rv

namespace Amoco.Flags

theorem cin_eq (n : Nat) (c : Bool) : cin n c = BitVec.ofNat n c.toNat := by
  cases c
  · simp [cin]
  · apply BitVec.eq_of_toNat_eq; simp [cin]

theorem cin_toNat (n : Nat) (c : Bool) (hn : 0 < n) : (cin n c).toNat = c.toNat := by
  rw [cin_eq, BitVec.toNat_ofNat]
  exact Nat.mod_eq_of_lt (Nat.lt_of_le_of_lt (Bool.toNat_le c) (Nat.one_lt_two_pow (Nat.ne_of_gt hn)))

/-! Everything about the sign formulas of `AddWithCarry` follows from one fact of binary addition: the top bit
of `x + y + c` is `x.msb ^^ y.msb ^^ (carry into the top bit)`, and the carry out of the top bit is the majority
of those three.  `SubWithBorrow` is `AddWithCarry` of the complement with the carry inverted, in and out. -/

theorem msb_awc {m : Nat} (x y : BitVec (m + 1)) (c : Bool) :
    (x + y + cin (m + 1) c).msb = (x.msb ^^ (y.msb ^^ BitVec.carry m x y c)) := by
  simp only [BitVec.msb_eq_getLsbD_last, Nat.add_sub_cancel]
  exact BitVec.getLsbD_add_add_bool (Nat.lt_succ_self m) x y c

theorem carry_top {m : Nat} (x y : BitVec (m + 1)) (c : Bool) :
    BitVec.carry (m + 1) x y c = Bool.atLeastTwo x.msb y.msb (BitVec.carry m x y c) := by
  rw [BitVec.carry_succ, BitVec.msb_eq_getLsbD_last x, BitVec.msb_eq_getLsbD_last y, Nat.add_sub_cancel]

theorem awc_carry_eq {m : Nat} (x y : BitVec (m + 1)) (c : Bool) :
    (addWithCarry x y c).carry = BitVec.carry (m + 1) x y c := by
  simp only [addWithCarry, sign, msb_awc, carry_top]
  cases x.msb <;> cases y.msb <;> cases BitVec.carry m x y c <;> rfl

theorem awc_carry {m : Nat} (x y : BitVec (m + 1)) (c : Bool) :
    (addWithCarry x y c).carry = decide (2 ^ (m + 1) ≤ x.toNat + y.toNat + c.toNat) := by
  rw [awc_carry_eq, BitVec.carry, Nat.mod_eq_of_lt x.isLt, Nat.mod_eq_of_lt y.isLt]

theorem toNat_split {m : Nat} (x : BitVec (m + 1)) :
    x.toNat = x.toNat % 2 ^ m + (if x.msb then 2 ^ m else 0) := by
  have := x.isLt
  rw [Nat.pow_succ] at this
  rw [BitVec.msb_eq_decide, Nat.add_sub_cancel]
  by_cases h : 2 ^ m ≤ x.toNat
  · rw [Nat.mod_eq_sub_mod h, Nat.mod_eq_of_lt (by omega)]; simp [h]
  · rw [Nat.mod_eq_of_lt (by omega)]; simp [h]

theorem awc_overflow {m : Nat} (x y : BitVec (m + 1)) (c : Bool) :
    (addWithCarry x y c).overflow =
      decide (x.toInt + y.toInt + (c.toNat : Int) < -((2 ^ m : Nat) : Int) ∨ ((2 ^ m : Nat) : Int) ≤ x.toInt + y.toInt + (c.toNat : Int)) := by
  have hx := toNat_split x
  have hy := toNat_split y
  have hx' := Nat.mod_lt x.toNat (Nat.two_pow_pos m)
  have hy' := Nat.mod_lt y.toNat (Nat.two_pow_pos m)
  have hc : c.toNat ≤ 1 := Bool.toNat_le c
  simp only [addWithCarry, sign, msb_awc, BitVec.carry, BitVec.toInt_eq_msb_cond, Nat.pow_succ]
  generalize x.toNat % 2 ^ m = X' at *
  generalize y.toNat % 2 ^ m = Y' at *
  generalize 2 ^ m = h at *
  rw [Bool.eq_iff_iff]
  revert hx hy
  -- with the low parts `X'`, `Y'` and the carry into the top bit `decide (X' + Y' + c ≥ h)`, linear in each sign case
  cases x.msb <;> cases y.msb <;> simp <;> omega

theorem swb_eq_awc {m : Nat} (x y : BitVec (m + 1)) (c : Bool) :
    subWithBorrow x y c =
      ⟨(addWithCarry x (~~~y) (!c)).res, !(addWithCarry x (~~~y) (!c)).carry, (addWithCarry x (~~~y) (!c)).overflow⟩ := by
  have hr : x - y - cin (m + 1) c = x + ~~~y + cin (m + 1) (!c) := by
    rw [BitVec.sub_eq_add_neg x, BitVec.neg_eq_not_add, ← BitVec.add_assoc]
    cases c
    · simp [cin]
    · simp [cin, BitVec.add_sub_cancel]
  simp only [subWithBorrow, addWithCarry, sign, hr, msb_awc, BitVec.msb_not]
  cases x.msb <;> cases y.msb <;> cases BitVec.carry m x (~~~y) (!c) <;> simp

theorem swb_carry {m : Nat} (x y : BitVec (m + 1)) (c : Bool) :
    (subWithBorrow x y c).carry = decide (x.toNat < y.toNat + c.toNat) := by
  have := y.isLt
  rw [swb_eq_awc, awc_carry, BitVec.toNat_not, Bool.eq_iff_iff]
  cases c <;> simp <;> omega

theorem toInt_not {m : Nat} (y : BitVec (m + 1)) : (~~~y).toInt = -y.toInt - 1 := by
  have := y.isLt
  simp only [BitVec.toInt_eq_msb_cond, BitVec.msb_not, BitVec.toNat_not]
  generalize 2 ^ (m + 1) = k at *
  cases y.msb <;> simp only [Nat.zero_lt_succ, decide_true, Bool.true_and, Bool.not_true, Bool.not_false,
    Bool.false_eq_true, if_true, if_false] <;> omega

theorem swb_overflow {m : Nat} (x y : BitVec (m + 1)) (c : Bool) :
    (subWithBorrow x y c).overflow =
      decide (x.toInt - y.toInt - (c.toNat : Int) < -((2 ^ m : Nat) : Int) ∨ ((2 ^ m : Nat) : Int) ≤ x.toInt - y.toInt - (c.toNat : Int)) := by
  rw [swb_eq_awc, awc_overflow, toInt_not, decide_eq_decide]
  cases c <;> simp only [Bool.not_true, Bool.not_false, Bool.toNat_true, Bool.toNat_false] <;> omega

theorem halfcarry_eq {n : Nat} (x y : BitVec n) (c : Bool) :
    halfcarry x y c = decide (16 ≤ x.toNat % 16 + y.toNat % 16 + c.toNat) := by
  unfold halfcarry
  rw [awc_carry (m := 3)]
  simp [BitVec.extractLsb'_toNat]

theorem halfborrow_eq {n : Nat} (x y : BitVec n) (c : Bool) :
    halfborrow x y c = decide (x.toNat % 16 < y.toNat % 16 + c.toNat) := by
  unfold halfborrow
  rw [swb_carry (m := 3)]
  simp [BitVec.extractLsb'_toNat]

/-- the flags `CMP a, b` leaves, as order relations: `B` is `a <ᵤ b`, `Z` is `a = b`, `L` (`SF ≠ OF`) is `a <ₛ b` -/
theorem cmp_core {m : Nat} (a b : BitVec (m + 1)) :
    (cmpFlags a b).cf = a.ult b ∧ (cmpFlags a b).zf = (a == b) ∧
    ((cmpFlags a b).sf != (cmpFlags a b).of) = a.slt b := by
  refine ⟨?_, ?_, ?_⟩
  · show (subWithBorrow a b false).carry = _
    rw [swb_carry, BitVec.ult_eq_decide]; rfl
  · show (a - b - cin (m + 1) false == 0) = _
    rw [Bool.eq_iff_iff]
    simp [cin, BitVec.sub_eq_iff_eq_add]
  · show ((subWithBorrow a b false).res.msb != (subWithBorrow a b false).overflow) = _
    -- `a <ₛ b` is `a <ᵤ b` corrected by the signs, and `a <ᵤ b` is "no carry out of `a + ~~~b + 1`"
    rw [BitVec.slt_eq_ult, BitVec.ult_eq_not_carry, carry_top, swb_eq_awc]
    simp only [addWithCarry, sign, msb_awc, BitVec.msb_not, Bool.not_false]
    cases a.msb <;> cases b.msb <;> cases BitVec.carry m a (~~~b) true <;> simp

theorem parity8_even : ∀ x : BitVec 8, parity8 x = evenParity x := by decide +kernel

theorem parity8With_not (t : BitVec 16) (x : BitVec 8) : parity8With (~~~t) x = !parity8With t x := by
  have := ((x ^^^ x >>> 4).extractLsb' 0 4).isLt
  simp only [parity8With, BitVec.getLsbD_ushiftRight, BitVec.getLsbD_not, Nat.add_zero]
  simp
  omega

end Amoco.Flags
