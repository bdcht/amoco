/-
  The spec language (C03): the fix / mask / extractor computation of `buildspec` equals the documented
  meaning (`refCells`, `refFields`).  The reference is first put in the order in which the loop takes the
  items (`refCells_processed`, `refFields_processed`); in that form it is the invariant of `bloop` (`bloop_inv`).
-/
import Amoco.Model.Spec

namespace Amoco.Spec

def sumE (sw : Nat) : List Item → Nat
  | [] => 0
  | it :: rest => it.widthE sw + sumE sw rest

theorem sumE_append (sw : Nat) (l1 l2 : List Item) :
    sumE sw (l1 ++ l2) = sumE sw l1 + sumE sw l2 := by
  induction l1 with
  | nil => simp [sumE]
  | cons it rest ih => simp only [List.cons_append, sumE, ih]; omega

theorem sumE_reverse (sw : Nat) (l : List Item) : sumE sw l.reverse = sumE sw l := by
  induction l with
  | nil => rfl
  | cons it rest ih => simp only [List.reverse_cons, sumE_append, sumE, ih]; omega

theorem width_of_isStar {it : Item} (h : it.isStar = true) : it.width = 0 := by
  cases it with
  | field opt sym loc => cases opt <;> cases loc <;> simp_all [Item.isStar, Item.width]
  | _ => simp [Item.isStar] at h

theorem widthE_zero (it : Item) : it.widthE 0 = it.width := by
  unfold Item.widthE
  split
  · next h => exact (width_of_isStar h).symm
  · rfl

theorem sumWidth_eq_sumE (l : List Item) : sumWidth l = sumE 0 l := by
  unfold sumWidth
  induction l with
  | nil => rfl
  | cons it rest ih => simp only [List.map_cons, List.foldr_cons, sumE, widthE_zero, ih]

theorem starLast_tail {it : Item} {rest : List Item} (h : starLast (it :: rest) = true) :
    starLast rest = true := by
  cases rest with
  | nil => rfl
  | cons x xs => simp only [starLast, Bool.and_eq_true] at h; exact h.2

theorem starLast_head {it : Item} {rest : List Item} (h : starLast (it :: rest) = true)
    (hs : it.isStar = true) : rest = [] := by
  cases rest with
  | nil => rfl
  | cons x xs => simp [starLast, hs] at h

theorem sumE_starLast (sw : Nat) : ∀ l : List Item, starLast l = true →
    sumE sw l = sumE 0 l + (if l.any Item.isStar then sw else 0)
  | [], _ => rfl
  | it :: rest, h => by
    have ih := sumE_starLast sw rest (starLast_tail h)
    by_cases hs : it.isStar = true
    · have hr := starLast_head h hs
      subst hr
      simp [sumE, Item.widthE, hs]
    · simp only [Bool.not_eq_true] at hs
      simp only [sumE, Item.widthE, hs, List.any_cons, Bool.false_or, ih]
      simp
      omega

theorem starSize_starLast : ∀ l : List Item, starLast l = true → starSize l = sumE 0 l
  | [], _ => rfl
  | it :: rest, h => by
    have ih := starSize_starLast rest (starLast_tail h)
    by_cases hs : it.isStar = true
    · have hr := starLast_head h hs
      subst hr
      simp [starSize, sumE, Item.widthE, hs]
    · simp only [Bool.not_eq_true] at hs
      simp [starSize, sumE, Item.widthE, hs, ih]

theorem sumE_processed (sw : Nat) (a : Ast) : sumE sw (processed a) = sumE sw a.items := by
  unfold processed
  cases a.dir with
  | msb => exact sumE_reverse sw a.items
  | lsb => rfl

theorem sumE_total (a : Ast)
    (hsl : starLast (processed a) = true)
    (hsz : (match a.size with
      | some n => if (processed a).any Item.isStar then decide (sumWidth a.items ≤ n)
                  else sumWidth a.items == n
      | none => true) = true) :
    sumE (starWidth a) (processed a) = bitSize a := by
  have h1 := sumE_starLast (starWidth a) (processed a) hsl
  have h2 : sumE 0 (processed a) = sumWidth a.items := by
    rw [sumE_processed, sumWidth_eq_sumE]
  rw [h1, h2]
  cases hs : a.size with
  | none =>
    have hb : bitSize a = starSize (processed a) := by unfold bitSize; rw [hs]
    have hw : starWidth a = 0 := by unfold starWidth; rw [hs]
    rw [hb, hw, starSize_starLast _ hsl, h2]
    split <;> rfl
  | some n =>
    have hb : bitSize a = n := by unfold bitSize; rw [hs]
    have hw : starWidth a = n - sumWidth a.items := by unfold starWidth; rw [hs]; rfl
    rw [hb, hw]
    rw [hs] at hsz
    simp only at hsz
    split at hsz
    · next hst => rw [if_pos hst]; simp at hsz; omega
    · next hst => rw [if_neg hst]; simp at hsz; omega

def cl (sw : Nat) (it : Item) : List Cell :=
  if it.isStar then List.replicate sw .free else it.cellsLsb

/-- the number whose bit `k` is `p` of the `k`-th cell: `cellsFix` and `cellsMask` are its two
    instances. -/
def cellsVal (p : Cell → Bool) : List Cell → Nat
  | [] => 0
  | c :: cs => (p c).toNat + 2 * cellsVal p cs

theorem cellsFix_eq (cs : List Cell) : cellsFix cs = cellsVal (· == .one) cs := by
  induction cs with
  | nil => rfl
  | cons c cs ih => rw [cellsFix, cellsVal, ih]; cases c <;> rfl

theorem cellsMask_eq (cs : List Cell) : cellsMask cs = cellsVal (· != .free) cs := by
  induction cs with
  | nil => rfl
  | cons c cs ih => rw [cellsMask, cellsVal, ih]; cases c <;> rfl

theorem cellsVal_lt (p : Cell → Bool) (cs : List Cell) : cellsVal p cs < 2 ^ cs.length := by
  induction cs with
  | nil => exact Nat.one_pos
  | cons c cs ih =>
    have := Bool.toNat_lt (p c)
    rw [cellsVal, List.length_cons, Nat.pow_succ]
    omega

theorem cellsVal_append (p : Cell → Bool) (xs ys : List Cell) :
    cellsVal p (xs ++ ys) = cellsVal p xs + 2 ^ xs.length * cellsVal p ys := by
  induction xs with
  | nil => simp [cellsVal]
  | cons c cs ih =>
    rw [List.cons_append, cellsVal, cellsVal, ih, List.length_cons, Nat.pow_succ, Nat.mul_add,
      Nat.mul_comm (2 ^ cs.length) 2, Nat.mul_assoc, Nat.add_assoc]

theorem cellsVal_append_or (p : Cell → Bool) (xs ys : List Cell) :
    cellsVal p (xs ++ ys) = cellsVal p xs ||| cellsVal p ys <<< xs.length := by
  rw [cellsVal_append, Nat.or_comm, ← Nat.shiftLeft_add_eq_or_of_lt (cellsVal_lt p xs),
    Nat.shiftLeft_eq, Nat.mul_comm, Nat.add_comm]

theorem cellsVal_replicate {p : Cell → Bool} {c : Cell} (h : p c = false) (n : Nat) :
    cellsVal p (List.replicate n c) = 0 := by
  induction n with
  | zero => rfl
  | succ n ih => rw [List.replicate_succ, cellsVal, ih, h]; rfl

theorem cellsVal_range (p : Cell → Bool) (f : Nat → Cell) (v : Nat) :
    ∀ k, (∀ j < k, p (f j) = v.testBit j) → cellsVal p ((List.range k).map f) = v % 2 ^ k
  | 0, _ => (Nat.mod_one v).symm
  | k + 1, h => by
    rw [List.range_succ, List.map_append, cellsVal_append,
      cellsVal_range p f v k fun j hj => h j (Nat.lt_succ_of_lt hj), List.length_map,
      List.length_range, Nat.mod_pow_succ, ← Nat.toNat_testBit, ← h k (Nat.lt_succ_self k)]
    rfl

theorem cellsFix_byte (v : Nat) : cellsFix (Item.byte v).cellsLsb = v % 256 := by
  rw [cellsFix_eq, Item.cellsLsb]
  exact cellsVal_range _ _ v 8 fun j _ => by cases v.testBit j <;> rfl

theorem cellsMask_byte (v : Nat) : cellsMask (Item.byte v).cellsLsb = 255 := by
  rw [cellsMask_eq, Item.cellsLsb]
  refine cellsVal_range _ _ 255 8 fun j hj => ?_
  rw [show (255 : Nat) = 2 ^ 8 - 1 from rfl, Nat.testBit_two_pow_sub_one, decide_eq_true hj]
  cases v.testBit j <;> rfl

theorem cl_length (sw : Nat) (it : Item) : (cl sw it).length = it.widthE sw := by
  unfold cl Item.widthE
  split
  · simp
  · next h =>
    cases it with
    | skip => rfl
    | bit b => cases b <;> rfl
    | byte v => simp [Item.cellsLsb, Item.width]
    | field opt sym loc =>
      cases opt <;> cases loc <;> simp_all [Item.cellsLsb, Item.width, Item.isStar]

theorem refCells_processed (a : Ast) :
    refCells a = (processed a).flatMap (cl (starWidth a)) := by
  unfold refCells processed starWidth
  cases a.dir with
  | lsb => rfl
  | msb =>
    show (List.flatMap (fun it => (cl _ it).reverse) a.items).reverse = _
    rw [List.reverse_flatMap]
    congr 1
    funext it
    simp

/-- the extractor the documentation gives an item that starts at offset `off` in processing order. -/
def extOf (go : Bool) (off : Nat) : Item → List Ext
  | .field opt sym (.len n) =>
    if opt == .ovl then
      (if go then [⟨opt == .attr, sym, kindOf opt, off - n, some off, go⟩]
       else [⟨opt == .attr, sym, kindOf opt, off, some (off + n), go⟩])
    else [⟨opt == .attr, sym, kindOf opt, off, some (off + n), go⟩]
  | .field opt sym .star => [⟨opt == .attr, sym, kindOf opt, off, none, go⟩]
  | _ => []

theorem prefixWidths_append (sw : Nat) (l1 l2 : List Item) (p : Nat) :
    prefixWidths sw (l1 ++ l2) p = prefixWidths sw l1 p ++ prefixWidths sw l2 (p + sumE sw l1) := by
  induction l1 generalizing p with
  | nil => rfl
  | cons it rest ih => rw [List.cons_append, prefixWidths, ih, sumE, Nat.add_assoc]; rfl

theorem mem_prefixWidths_le {sw : Nat} {x : Item × Nat} : ∀ {ws : List Item} {p : Nat},
    x ∈ prefixWidths sw ws p → x.2 + x.1.widthE sw ≤ p + sumE sw ws
  | [], _, h => nomatch h
  | it :: rest, p, h => by
    rw [sumE]
    rcases List.mem_cons.1 h with rfl | h
    · exact Nat.add_le_add_left (Nat.le_add_right ..) p
    · have := mem_prefixWidths_le h
      omega

/-- the offsets in the reversed (processing) order of `<`, from the positions in written order:
    what is written at `x.2` is processed after everything written behind it. -/
theorem prefixWidths_reverse (sw : Nat) : ∀ (ws : List Item) (p : Nat),
    prefixWidths sw ws.reverse 0 =
      ((prefixWidths sw ws p).map fun x => (x.1, p + sumE sw ws - x.2 - x.1.widthE sw)).reverse
  | [], _ => rfl
  | it :: rest, p => by
    have e : 0 + sumE sw rest = p + (it.widthE sw + sumE sw rest) - p - it.widthE sw := by omega
    rw [List.reverse_cons, prefixWidths_append, prefixWidths_reverse sw rest (p + it.widthE sw),
      show prefixWidths sw (it :: rest) p = (it, p) :: prefixWidths sw rest (p + it.widthE sw)
        from rfl,
      List.map_cons, List.reverse_cons, sumE, sumE_reverse, Nat.add_assoc, e]
    rfl

def walkX (go : Bool) (ps : List (Item × Nat)) : List Ext := ps.flatMap fun x => extOf go x.2 x.1

theorem filterMap_cons_toList {α β : Type} (f : α → Option β) (x : α) (xs : List α) :
    (x :: xs).filterMap f = (f x).toList ++ xs.filterMap f := by
  rw [List.filterMap_cons]
  cases f x <;> rfl

theorem widthE_len {opt : Opt} (h : opt ≠ .ovl) (sw : Nat) (sym : String) (n : Nat) :
    (Item.field opt sym (.len n)).widthE sw = n := by
  cases opt <;> first | rfl | exact absurd rfl h

theorem refField_lsb (T sw : Nat) (it : Item) (p : Nat) :
    (refField .lsb T sw it p).toList = (extOf true p it).map Ext.toRField := by
  cases it with
  | field opt sym loc => cases opt <;> cases loc <;> rfl
  | _ => rfl

theorem refField_msb (T sw : Nat) (it : Item) (p : Nat) (h : p + it.widthE sw ≤ T) :
    (refField .msb T sw it p).toList =
      (extOf false (T - p - it.widthE sw) it).map Ext.toRField := by
  cases it with
  | field opt sym loc =>
    cases loc with
    | star => cases opt <;> rfl
    | len n =>
      by_cases ho : opt = .ovl
      · subst ho; rfl
      · have hw := widthE_len ho sw sym n
        rw [hw] at h ⊢
        have e : T - p - n + n = T - p := by omega
        cases opt <;> first | exact absurd rfl ho | (simp only [refField, extOf]; rw [e]; rfl)
  | _ => rfl

theorem toList_reverse {β : Type} (o : Option β) : o.toList.reverse = o.toList := by
  cases o <;> rfl

theorem filterMap_eq_flatMap_map {α β γ : Type} (f : α → Option γ) (g : α → List β) (h : β → γ) :
    ∀ l : List α, (∀ x ∈ l, (f x).toList = (g x).map h) → l.filterMap f = (l.flatMap g).map h
  | [], _ => rfl
  | x :: xs, hl => by
    rw [filterMap_cons_toList, List.flatMap_cons, List.map_append, hl x List.mem_cons_self,
      filterMap_eq_flatMap_map f g h xs fun y hy => hl y (List.mem_cons_of_mem _ hy)]

theorem refFields_processed (a : Ast) (hT : sumE (starWidth a) a.items = bitSize a) :
    refFields a =
      (walkX (a.dir == .lsb) (prefixWidths (starWidth a) (processed a) 0)).map Ext.toRField := by
  unfold refFields processed walkX
  cases hd : a.dir with
  | lsb => exact filterMap_eq_flatMap_map _ _ _ _ fun x _ => refField_lsb _ _ x.1 x.2
  | msb =>
    rw [prefixWidths_reverse _ _ 0, List.flatMap_reverse, List.map_reverse, List.flatMap_map]
    refine congrArg List.reverse (filterMap_eq_flatMap_map _ _ _ _ fun x hx => ?_)
    have hle := mem_prefixWidths_le hx
    rw [Nat.zero_add, hT] at hle
    show (refField .msb _ _ x.1 x.2).toList = (extOf false _ x.1).reverse.map _
    rw [Nat.zero_add, hT, ← toList_reverse, refField_msb _ _ x.1 x.2 hle, List.map_reverse]

/-- `=sym(n)` fits, item at offset `off` in processing order. -/
def ovlOK (go : Bool) (N off : Nat) : Item → Prop
  | .field .ovl _ (.len n) => if go then n ≤ off else off + n ≤ N
  | .field .ovl _ .star => False
  | _ => True

theorem ovlFits_cons (N : Nat) (it : Item) (p : Nat) (rest : List (Item × Nat))
    (h : ovlFits ((it, p) :: rest) = true) : ovlOK true N p it ∧ ovlFits rest = true := by
  cases it with
  | field opt sym loc =>
    -- every item but `=sym(…)` passes untested, `=sym(*)` is refused; left is `=sym(n)`, the one test
    cases opt <;> cases loc <;>
      first | exact ⟨trivial, h⟩ | exact Bool.noConfusion h | skip
    rw [ovlFits, Bool.and_eq_true, decide_eq_true_iff] at h
    exact h
  | _ => exact ⟨trivial, h⟩

theorem ovlOK_of_ovlFits (N : Nat) : ∀ ps : List (Item × Nat), ovlFits ps = true →
    ∀ x ∈ ps, ovlOK true N x.2 x.1
  | [], _ => fun _ hx => nomatch hx
  | (it, p) :: rest, h =>
    have ⟨h1, h2⟩ := ovlFits_cons N it p rest h
    List.forall_mem_cons.2 ⟨h1, ovlOK_of_ovlFits N rest h2⟩

theorem ovlOK_flip {N T sw p : Nat} {it : Item} (h : ovlOK true N p it) (hT : p + it.widthE sw ≤ T) :
    ovlOK false T (T - p - it.widthE sw) it := by
  cases it with
  | field opt sym loc =>
    cases opt <;> cases loc <;> first | trivial | exact h | skip
    have hn : _ ≤ p := h
    show T - p - 0 + _ ≤ T
    omega
  | _ => trivial

theorem ovlOK_processed (a : Ast) (hT : sumE (starWidth a) a.items = bitSize a)
    (hov : ovlFits (prefixWidths (starWidth a) a.items 0) = true) :
    ∀ x ∈ prefixWidths (starWidth a) (processed a) 0, ovlOK (a.dir == .lsb) (bitSize a) x.2 x.1 := by
  have h := ovlOK_of_ovlFits (bitSize a) _ hov
  unfold processed
  cases hd : a.dir with
  | lsb => exact h
  | msb =>
    rw [prefixWidths_reverse _ _ 0]
    intro x hx
    obtain ⟨y, hy, rfl⟩ := List.mem_map.1 (List.mem_reverse.1 hx)
    have hle := mem_prefixWidths_le hy
    rw [Nat.zero_add, hT] at hle
    show ovlOK false _ _ y.1
    rw [Nat.zero_add, hT]
    exact ovlOK_flip (h y hy) hle

/-- no extractor created so far is redefined by a later directive. -/
def Fresh (exts : List Ext) (l : List Item) : Prop :=
  ∀ e ∈ exts, ∀ o s loc, Item.field o s loc ∈ l → ¬ ((o == Opt.attr) = e.toAttr ∧ s = e.sym)

theorem Fresh_tail {exts : List Ext} {d : Item} {l : List Item} (h : Fresh exts (d :: l)) :
    Fresh exts l :=
  fun e he o s loc hm => h e he o s loc (List.mem_cons_of_mem _ hm)

theorem noDupSyms_field {kA kF : List String} {opt : Opt} {sym : String} {loc : Loc}
    {rest : List Item} (h : noDupSyms kA kF (.field opt sym loc :: rest) = true) :
    (if opt == .attr then kA.contains sym else kF.contains sym) = false ∧
    (∀ o s loc', Item.field o s loc' ∈ rest → ¬ ((o == Opt.attr) = (opt == Opt.attr) ∧ s = sym)) ∧
    noDupSyms kA kF rest = true := by
  unfold noDupSyms at h
  by_cases ha : (opt == Opt.attr) = true
  · simp only [ha, if_true, Bool.and_eq_true, Bool.not_eq_true', List.all_eq_true] at h ⊢
    refine ⟨h.1.1, ?_, h.2⟩
    intro o s loc' hm hc
    have := h.1.2 _ hm
    simp [hc.1, hc.2] at this
  · simp only [ha, Bool.false_eq_true, if_false, Bool.and_eq_true, Bool.not_eq_true',
      List.all_eq_true] at h ⊢
    simp only [Bool.not_eq_true] at ha
    refine ⟨h.1.1, ?_, h.2⟩
    intro o s loc' hm hc
    have := h.1.2 _ hm
    simp [hc.2] at this
    simp [this] at hc

theorem noDupSyms_tail {kA kF : List String} {d : Item} {rest : List Item}
    (h : noDupSyms kA kF (d :: rest) = true) : noDupSyms kA kF rest = true := by
  cases d with
  | field opt sym loc => exact (noDupSyms_field h).2.2
  | _ => simpa [noDupSyms] using h

theorem cl_len {opt : Opt} (h : opt ≠ .ovl) (sw : Nat) (sym : String) (n : Nat) :
    cl sw (Item.field opt sym (.len n)) = List.replicate n .free := by
  cases opt <;> first | rfl | exact absurd rfl h

theorem cl_star (opt : Opt) (sw : Nat) (sym : String) :
    cl sw (Item.field opt sym .star) = List.replicate sw .free := by
  cases opt <;> rfl

/-- the `clash` test of `bstep` does not fire. -/
theorem clash_false {kA kF : List String} {opt : Opt} {sym : String} {loc : Loc}
    {rest : List Item} {exts : List Ext}
    (hnd : noDupSyms kA kF (.field opt sym loc :: rest) = true)
    (hfr : Fresh exts (.field opt sym loc :: rest)) :
    (if (opt == Opt.attr) = true then
        kA.contains sym || exts.any (fun e => e.toAttr && e.sym == sym)
      else kF.contains sym || exts.any (fun e => !e.toAttr && e.sym == sym)) = false := by
  have hk := (noDupSyms_field hnd).1
  by_cases ha : (opt == Opt.attr) = true
  · simp only [ha, if_true] at hk ⊢
    rw [hk, Bool.false_or, List.any_eq_false]
    intro e he hc
    simp only [Bool.and_eq_true, beq_iff_eq] at hc
    exact hfr e he opt sym loc (List.mem_cons_self ..) ⟨by rw [ha, hc.1], hc.2.symm⟩
  · simp only [ha, Bool.false_eq_true, if_false] at hk ⊢
    simp only [Bool.not_eq_true] at ha
    rw [hk, Bool.false_or, List.any_eq_false]
    intro e he hc
    simp only [Bool.and_eq_true, beq_iff_eq, Bool.not_eq_true'] at hc
    exact hfr e he opt sym loc (List.mem_cons_self ..) ⟨by rw [ha, hc.1], hc.2.symm⟩

theorem mem_extOf {go : Bool} {off : Nat} {d : Item} {e : Ext} (he : e ∈ extOf go off d) :
    ∃ opt loc, d = .field opt e.sym loc ∧ e.toAttr = (opt == .attr) := by
  cases d with
  | field opt sym loc =>
    refine ⟨opt, loc, ?_, ?_⟩ <;>
      cases loc <;> simp only [extOf] at he <;> (try split at he) <;> (try split at he) <;>
      cases List.mem_singleton.1 he <;> rfl
  | _ => cases he

theorem Fresh_step {kA kF : List String} {go : Bool} {off : Nat} {d : Item} {rest : List Item}
    {exts : List Ext} (hnd : noDupSyms kA kF (d :: rest) = true) (hfr : Fresh exts (d :: rest)) :
    Fresh ((extOf go off d).reverse ++ exts) rest := by
  intro e he o s loc' hm
  rcases List.mem_append.1 he with he | he
  · obtain ⟨opt, loc, rfl, ha⟩ := mem_extOf (List.mem_reverse.1 he)
    rw [ha]
    exact (noDupSyms_field hnd).2.1 o s loc' hm
  · exact Fresh_tail hfr e he o s loc' hm

/-- the loop state `st` after the cells `cs` (from bit 0 upwards) have been laid down. -/
structure Tracks (st : BState) (cs : List Cell) : Prop where
  count : st.count = st.i
  len : cs.length = st.i
  fix : st.fix = cellsFix cs
  mask : st.mask = cellsMask cs

theorem Tracks.append {st st' : BState} {cs : List Cell} (h : Tracks st cs) (new : List Cell)
    (hi : st'.i = st.i + new.length) (hc : st'.count = st'.i)
    (hf : st'.fix = st.fix ||| (cellsFix new <<< st.i))
    (hm : st'.mask = st.mask ||| (cellsMask new <<< st.i)) : Tracks st' (cs ++ new) where
  count := hc
  len := by rw [List.length_append, h.len, hi]
  fix := by simp only [hf, h.fix, ← h.len, cellsFix_eq, cellsVal_append_or]
  mask := by simp only [hm, h.mask, ← h.len, cellsMask_eq, cellsVal_append_or]

theorem Tracks.append_free {st st' : BState} {cs : List Cell} (h : Tracks st cs) (n : Nat)
    (hi : st'.i = st.i + n) (hc : st'.count = st'.i) (hf : st'.fix = st.fix)
    (hm : st'.mask = st.mask) : Tracks st' (cs ++ List.replicate n .free) :=
  h.append _ (by rw [hi, List.length_replicate]) hc
    (by rw [hf, cellsFix_eq, cellsVal_replicate rfl, Nat.zero_shiftLeft, Nat.or_zero])
    (by rw [hm, cellsMask_eq, cellsVal_replicate rfl, Nat.zero_shiftLeft, Nat.or_zero])

theorem bstep_tracks {N : Nat} {go : Bool} {kA kF : List String} {sw : Nat} {d : Item}
    {rest : List Item} {st : BState} {cs : List Cell} (ht : Tracks st cs)
    (hN : st.i + d.widthE sw ≤ N) (hstar : d.isStar = true → st.i + sw = N)
    (hnd : noDupSyms kA kF (d :: rest) = true) (hfr : Fresh st.exts (d :: rest))
    (hov : ovlOK go N st.i d) :
    ∃ st', bstep N go kA kF st d = .ok st' ∧ Tracks st' (cs ++ cl sw d) ∧
      st'.exts = (extOf go st.i d).reverse ++ st.exts := by
  cases d with
  | skip =>
    have hlt : st.i < N := hN
    exact ⟨_, if_pos hlt, ht.append_free 1 rfl (congrArg (· + 1) ht.count) rfl rfl, rfl⟩
  | bit b =>
    have hlt : st.i < N := hN
    refine ⟨_, if_pos hlt, ?_, rfl⟩
    cases b <;> exact ht.append [_] rfl (congrArg (· + 1) ht.count) rfl rfl
  | byte v =>
    have hle : st.i + 8 ≤ N := hN
    refine ⟨_, if_pos hle, ?_, rfl⟩
    exact ht.append (Item.byte v).cellsLsb rfl (congrArg (· + 8) ht.count)
      (by rw [cellsFix_byte]) (by rw [cellsMask_byte])
  | field opt sym loc =>
    have hclash := clash_false hnd hfr
    cases loc with
    | len n =>
      by_cases ho : opt = .ovl
      · subst ho
        have hcl : cl sw (Item.field Opt.ovl sym (.len n)) = [] := rfl
        rw [hcl, List.append_nil]
        cases go with
        | true =>
          have hb : n ≤ st.i := hov
          simp only [bstep, hclash, hb, if_true]
          exact ⟨_, rfl, ⟨ht.count, ht.len, ht.fix, ht.mask⟩, rfl⟩
        | false =>
          have hb : st.i + n ≤ N := hov
          simp only [bstep, hclash, hb, if_true]
          exact ⟨_, rfl, ⟨ht.count, ht.len, ht.fix, ht.mask⟩, rfl⟩
      · have hb : st.i + n ≤ N := widthE_len ho sw sym n ▸ hN
        have ho' : (opt == Opt.ovl) = false := beq_false_of_ne ho
        rw [cl_len ho]
        simp only [bstep, hclash, ho', hb, if_true, extOf]
        exact ⟨_, rfl, ht.append_free n rfl (congrArg (· + n) ht.count) rfl rfl, rfl⟩
    | star =>
      have ho : (opt == Opt.ovl) = false := by
        cases opt <;> first | rfl | exact hov.elim
      have hi : N = st.i + sw := (hstar (by cases opt <;> rfl)).symm
      have hb : st.i ≤ N := by omega
      rw [cl_star]
      simp only [bstep, hclash, ho, hb, if_true]
      refine ⟨_, rfl, ht.append_free sw hi ?_ rfl rfl, rfl⟩
      show (if st.count < N then N else st.count) = N
      rw [ht.count]; split <;> omega

theorem bloop_inv (N : Nat) (go : Bool) (kA kF : List String) (sw : Nat) (l : List Item) :
    ∀ (st : BState) (cs : List Cell),
      starLast l = true → st.i + sumE sw l = N → Tracks st cs →
      noDupSyms kA kF l = true → Fresh st.exts l →
      (∀ x ∈ prefixWidths sw l st.i, ovlOK go N x.2 x.1) →
      ∃ st', bloop N go kA kF st l = .ok st' ∧ st'.i = N ∧
        Tracks st' (cs ++ l.flatMap (cl sw)) ∧
        st'.exts = (walkX go (prefixWidths sw l st.i)).reverse ++ st.exts := by
  induction l with
  | nil =>
    intro st cs _ hsum ht _ _ _
    exact ⟨st, rfl, hsum, by rw [List.flatMap_nil, List.append_nil]; exact ht, rfl⟩
  | cons d rest ih =>
    intro st cs hsl hsum ht hnd hfr hov
    rw [sumE] at hsum
    have hstar : d.isStar = true → st.i + sw = N := fun hs => by
      rw [starLast_head hsl hs, sumE, Item.widthE, if_pos hs] at hsum; exact hsum
    have ⟨hov1, hov2⟩ := List.forall_mem_cons.1 hov
    obtain ⟨st1, hs1, ht1, he1⟩ := bstep_tracks ht (by omega) hstar hnd hfr hov1
    have hi1 : st1.i = st.i + d.widthE sw := by
      rw [← ht1.len, List.length_append, cl_length, ht.len]
    obtain ⟨st', hl, hN, ht', he'⟩ := ih st1 (cs ++ cl sw d) (starLast_tail hsl)
      (by omega) ht1 (noDupSyms_tail hnd) (he1 ▸ Fresh_step hnd hfr) (hi1 ▸ hov2)
    refine ⟨st', by rw [bloop, hs1]; exact hl, hN, ?_, ?_⟩
    · rw [List.flatMap_cons, ← List.append_assoc]; exact ht'
    · rw [he', he1, hi1, prefixWidths, walkX, walkX, List.flatMap_cons, List.reverse_append,
        List.append_assoc]

/-- `expandIa32` between `String.toList` and `String.ofList`: character lists evaluate, where
    strings (byte arrays) do not. -/
def expandChars (s : List Char) : Option (List Char) :=
  match findSlash s 0 with
  | some n =>
    if 0 < n && n < s.length - 1 then
      let c := s.getD (n + 1) ' '
      if c == 'r' then
        some (replaceAll ['/', 'r'] "RM(3) REG(3) Mod(2) ~data(*)".toList (s.length + 1) s)
      else if '0' ≤ c && c ≤ '7' then
        let d := c.toNat - '0'.toNat
        some (replaceAll ['/', c] ("RM(3) ".toList ++ bits3 d ++ " Mod(2) ~data(*)".toList) (s.length + 1) s)
      else none
    else some s
  | none => some s

theorem expandIa32_eq (fmt : String) :
    expandIa32 fmt = (expandChars fmt.toList).map String.ofList := by
  unfold expandIa32 expandChars
  dsimp only
  cases findSlash fmt.toList 0 with
  | none => exact congrArg some String.ofList_toList.symm
  | some n =>
    simp only [apply_ite (Option.map String.ofList), Option.map_some, Option.map_none,
      String.ofList_toList]

end Amoco.Spec
