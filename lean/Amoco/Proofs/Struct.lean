/-
  Helper lemmas for C16 (struct language, LEB128): the files of Amoco/Proofs/Struct/.  Three mutual
  inductions over the field AST carry the results: the layout is that of the C ABI reference (`Layout`),
  `pack` undoes `unpack` (`RoundTrip`), and `unpack` of a fixed-size definition is the reference decoding at
  the ABI offsets (`Ref`); the other files supply the per-field facts.
-/
import Amoco.Proofs.Struct.Ref
