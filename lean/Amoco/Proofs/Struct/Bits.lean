/-
  Bit-field lemmas for C16: splitting a storage unit into parts and joining the parts again
  reproduces the covered bits of the unit.
-/
import Amoco.Proofs.Struct.Codec

namespace Amoco.Struct

/-- the value `BitField.pack` assembles from the parts of the unsigned unit value `N` -/
def joinNat (N : Nat) : List String → List Nat → Nat → Nat
  | _ :: nms, sz :: szs, l => (((N / 2 ^ l) % 2 ^ sz) <<< l) ||| joinNat N nms szs (l + sz)
  | _, _, _ => 0

theorem joinNat_testBit (N : Nat) : ∀ (names : List String) (sizes : List Nat) (l j : Nat),
    (joinNat N names sizes l).testBit j
      = (decide (l ≤ j ∧ j < l + coveredBits names sizes) && N.testBit j)
  | [], _, l, j => by simp [joinNat, coveredBits]
  | _ :: _, [], l, j => by simp [joinNat, coveredBits]
  | _ :: nms, sz :: szs, l, j => by
    simp only [joinNat, coveredBits, Nat.testBit_or, Nat.testBit_shiftLeft, Nat.testBit_mod_two_pow,
      Nat.testBit_div_two_pow, joinNat_testBit N nms szs (l + sz) j]
    by_cases h1 : l ≤ j
    · rw [Nat.sub_add_cancel h1]
      by_cases h2 : j < l + sz
      · simp [h1, show j - l < sz by omega, show ¬ l + sz ≤ j by omega,
          show j < l + (sz + coveredBits nms szs) by omega]
      · simp [h1, show ¬ j - l < sz by omega, show l + sz ≤ j by omega, Nat.add_assoc]
    · simp [h1, show ¬ l + sz ≤ j by omega]

theorem joinNat_zero (N : Nat) (names : List String) (sizes : List Nat) :
    joinNat N names sizes 0 = N % 2 ^ coveredBits names sizes := by
  apply Nat.eq_of_testBit_eq
  intro j
  rw [joinNat_testBit, Nat.testBit_mod_two_pow]
  simp

theorem canon_natLE : ∀ (k M N : Nat) (rest : Bytes),
    canon (natLE k M) (natLE k N ++ rest) = natLE k (M &&& N)
  | 0, _, _, _ => by simp [natLE, canon]
  | k + 1, M, N, rest => by
    have ih := canon_natLE k (M / 256) (N / 256) rest
    have h1 : (M &&& N) % 256 = M % 256 &&& N % 256 := @Nat.and_mod_two_pow M N 8
    have h2 : (M &&& N) / 256 = M / 256 &&& N / 256 := @Nat.and_div_two_pow M N 8
    simp only [natLE, List.cons_append, canon, ih, ← UInt8.ofNat_and, h1, h2]

theorem canon_take (m X : Bytes) (n : Nat) (h : m.length ≤ n) : canon m X = canon m (X.take n) := by
  induction m generalizing X n with
  | nil => simp [canon]
  | cons a m ih =>
    cases X with
    | nil => simp
    | cons x X =>
      cases n with
      | zero => simp at h
      | succ n =>
        simp only [List.take_succ_cons, canon]
        rw [ih X n (by simpa using h)]

theorem canon_append_right (m a rest : Bytes) (h : m.length ≤ a.length) : canon m (a ++ rest) = canon m a := by
  rw [canon_take m (a ++ rest) a.length h, List.take_left' rfl]

theorem canon_reverse : ∀ (a b : Bytes), a.length = b.length →
    canon a.reverse b.reverse = (canon a b).reverse := by
  intro a
  induction a with
  | nil => intro b h; simp [canon]
  | cons x a ih =>
    intro b h
    cases b with
    | nil => simp at h
    | cons y b =>
      have hl : a.length = b.length := by simpa using h
      simp only [List.reverse_cons, canon]
      rw [canon_append, canon_append_right _ _ _ (by simp [hl]), ih b hl]
      have : (b.reverse ++ [y]).drop a.reverse.length = [y] := by
        rw [List.length_reverse, hl, ← List.length_reverse (as := b), List.drop_left]
      rw [this]
      simp [canon]

/-- the parts of a unit all lie below bit `b`, where the signed and the unsigned reading agree -/
theorem part_of_neg (N b l sz : Nat) (h : l + sz ≤ b) :
    (((N : Int) - (2 : Int) ^ b) / (2 : Int) ^ l) % (2 : Int) ^ sz = (((N / 2 ^ l) % 2 ^ sz : Nat) : Int) := by
  have hb : (2 : Int) ^ b = (2 : Int) ^ (b - l - sz) * (2 : Int) ^ sz * (2 : Int) ^ l := by
    rw [← Int.pow_add, ← Int.pow_add]; congr 1; omega
  have hl : ((2 : Int) ^ l) ≠ 0 := by positivity
  rw [hb, Int.sub_mul_ediv_right _ _ hl, Int.sub_emod, Int.mul_emod_left, Int.sub_zero, Int.emod_emod_of_dvd _ (dvd_refl _)]
  push_cast
  rfl

theorem part_of_pos (N l sz : Nat) :
    ((N : Int) / (2 : Int) ^ l) % (2 : Int) ^ sz = (((N / 2 ^ l) % 2 ^ sz : Nat) : Int) := by
  push_cast
  rfl

/-- `splitBits` on the decoded unit in terms of the unsigned unit value -/
def splitNat (N : Nat) : List String → List Nat → Nat → List (String × Int)
  | nm :: nms, sz :: szs, l => (nm, (((N / 2 ^ l) % 2 ^ sz : Nat) : Int)) :: splitNat N nms szs (l + sz)
  | _, _, _ => []

theorem splitBits_pos (N : Nat) : ∀ (names : List String) (sizes : List Nat) (l : Nat),
    splitBits (N : Int) names sizes l = splitNat N names sizes l
  | [], _, _ => by simp [splitBits, splitNat]
  | _ :: _, [], _ => by simp [splitBits, splitNat]
  | nm :: nms, sz :: szs, l => by
    simp only [splitBits, splitNat, part_of_pos, splitBits_pos N nms szs (l + sz)]

theorem splitBits_neg (N b : Nat) : ∀ (names : List String) (sizes : List Nat) (l : Nat),
    l + coveredBits names sizes ≤ b →
    splitBits ((N : Int) - (2 : Int) ^ b) names sizes l = splitNat N names sizes l
  | [], _, _, _ => by simp [splitBits, splitNat]
  | _ :: _, [], _, _ => by simp [splitBits, splitNat]
  | nm :: nms, sz :: szs, l, h => by
    simp only [coveredBits] at h
    simp only [splitBits, splitNat, part_of_neg N b l sz (by omega),
      splitBits_neg N b nms szs (l + sz) (by omega)]

theorem lookup_splitNat_skip (N : Nat) (nm : String) : ∀ (names : List String) (sizes : List Nat) (l : Nat),
    nm ∉ names → (splitNat N names sizes l).lookup nm = none
  | [], _, _, _ => by simp [splitNat]
  | _ :: _, [], _, _ => by simp [splitNat]
  | n :: nms, sz :: szs, l, h => by
    simp only [List.mem_cons, not_or] at h
    simp only [splitNat, List.lookup_cons]
    have : (nm == n) = false := by simpa using h.1
    rw [this]
    exact lookup_splitNat_skip N nm nms szs (l + sz) h.2

theorem joinBits_splitNat (N : Nat) : ∀ (names : List String) (sizes : List Nat) (l : Nat)
    (pre : List (String × Int)), names.Nodup → (∀ nm ∈ names, pre.lookup nm = none) →
    joinBits (pre ++ splitNat N names sizes l) names sizes l = some (joinNat N names sizes l)
  | [], _, _, _, _, _ => by simp [joinBits, joinNat]
  | _ :: _, [], _, _, _, _ => by simp [joinBits, joinNat]
  | nm :: nms, sz :: szs, l, pre, hnd, hpre => by
    have hnd' := List.nodup_cons.mp hnd
    have ih := joinBits_splitNat N nms szs (l + sz) (pre ++ [(nm, (((N / 2 ^ l) % 2 ^ sz : Nat) : Int))]) hnd'.2 (by
      intro x hx
      rw [List.lookup_append]
      have h1 := hpre x (by simp [hx])
      rw [h1]
      have : (x == nm) = false := by
        have : x ≠ nm := fun e => hnd'.1 (e ▸ hx)
        simpa using this
      simp [List.lookup_cons, this])
    simp only [List.append_assoc, List.cons_append, List.nil_append] at ih
    simp only [joinBits, splitNat, joinNat, ih]
    rw [List.lookup_append, hpre nm (by simp)]
    simp only [List.lookup_cons, beq_self_eq_true, Option.none_or]
    have hx : ((((N / 2 ^ l) % 2 ^ sz : Nat) : Int) % (2 : Int) ^ sz).toNat = (N / 2 ^ l) % 2 ^ sz := by
      have hlt : (N / 2 ^ l) % 2 ^ sz < 2 ^ sz := Nat.mod_lt _ (by positivity)
      have hltI : (((N / 2 ^ l) % 2 ^ sz : Nat) : Int) < (2 : Int) ^ sz := by
        have := Int.ofNat_lt.mpr hlt
        push_cast at this ⊢
        exact this
      rw [Int.emod_eq_of_lt (by omega) hltI]
      exact Int.toNat_natCast _
    rw [hx]

/-- `U` is the unsigned value of the bits of the unit `bs` that the parts cover.  In a signed unit the parts
    must end below the sign bit (`hsg`): there the signed and the unsigned reading of the unit have the same
    parts, and `U` is small enough for the signed encoder to take it. -/
theorem bits_core (bs : Bytes) (hk : 0 < bs.length) (be sg : Bool) (names : List String) (sizes : List Nat)
    (hnd : names.Nodup) (hsg : sg = true → coveredBits names sizes < 8 * bs.length) :
    ∃ U : Nat, joinBits (splitBits (decInt be sg bs) names sizes 0) names sizes 0 = some U ∧
      encInt be sg bs.length (U : Int) = some (canon (bitsMask be bs.length (coveredBits names sizes)) bs) := by
  obtain ⟨le, hle⟩ : ∃ le : Bytes, le = (if be then bs.reverse else bs) := ⟨_, rfl⟩
  have hlen : le.length = bs.length := by rw [hle]; split <;> simp
  have hN : leNat le < 2 ^ (8 * bs.length) := by
    have := leNat_lt le; rw [hlen, pow256] at this; exact this
  refine ⟨leNat le % 2 ^ coveredBits names sizes, ?_, ?_⟩
  · -- the dictionary of parts joins to the covered bits of the unit
    have hsplit : splitBits (decInt be sg bs) names sizes 0 = splitNat (leNat le) names sizes 0 := by
      unfold decInt
      simp only []
      rw [← hle]
      split
      · rename_i hc
        simp only [Bool.and_eq_true, decide_eq_true_eq] at hc
        exact splitBits_neg _ _ _ _ _ (by have := hsg hc.1; omega)
      · exact splitBits_pos _ _ _ _
    rw [hsplit]
    have := joinBits_splitNat (leNat le) names sizes 0 [] hnd (by simp)
    simp only [List.nil_append] at this
    rw [this, joinNat_zero]
  · -- encoding that value gives the masked unit
    have hU : leNat le % 2 ^ coveredBits names sizes < 2 ^ (8 * bs.length) :=
      Nat.lt_of_le_of_lt (Nat.mod_le _ _) hN
    have henc := encInt_of_nat be sg bs.length (leNat le % 2 ^ coveredBits names sizes) hk hU
    have hcond : ¬ ((sg && decide (2 ^ (8 * bs.length - 1) ≤ leNat le % 2 ^ coveredBits names sizes)) = true) := by
      simp only [Bool.and_eq_true, decide_eq_true_eq, not_and]
      intro hs
      have hc := hsg hs
      have h1 : leNat le % 2 ^ coveredBits names sizes < 2 ^ coveredBits names sizes :=
        Nat.mod_lt _ (by positivity)
      have h2 : 2 ^ coveredBits names sizes ≤ 2 ^ (8 * bs.length - 1) :=
        Nat.pow_le_pow_right (by omega) (by omega)
      omega
    rw [if_neg hcond] at henc
    rw [henc]
    congr 1
    -- masked unit, byte order by byte order
    have hbs : natLE bs.length (leNat le) = le := by
      have := natLE_leNat le; rw [hlen] at this; exact this
    have hmask : natLE bs.length (leNat le % 2 ^ coveredBits names sizes)
        = canon (natLE bs.length (2 ^ coveredBits names sizes - 1)) le := by
      have := canon_natLE bs.length (2 ^ coveredBits names sizes - 1) (leNat le) []
      rw [List.append_nil, hbs] at this
      rw [this, Nat.and_comm, Nat.and_two_pow_sub_one_eq_mod]
    unfold bitsMask
    simp only [hmask]
    cases be
    · simp at hle; simp [hle]
    · simp only [if_true] at hle ⊢
      rw [hle, ← canon_reverse _ _ (by rw [natLE_length, List.length_reverse]), List.reverse_reverse]

end Amoco.Struct
