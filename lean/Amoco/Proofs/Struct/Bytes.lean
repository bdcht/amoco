/-
  Byte-level lemmas for C16: integer codecs round trip, `canon`, `slice`, `chunks`.
-/
import Amoco.Model.Struct
import Mathlib.Tactic.Ring
import Mathlib.Tactic.Linarith
import Mathlib.Tactic.NormNum

namespace Amoco.Struct

theorem leNat_lt : ∀ bs : Bytes, leNat bs < 256 ^ bs.length
  | [] => by simp [leNat]
  | b :: bs => by
    have ih := leNat_lt bs
    have hb := b.toNat_lt
    simp only [leNat, List.length_cons, Nat.pow_succ]
    omega

theorem natLE_length : ∀ k n, (natLE k n).length = k
  | 0, _ => by simp [natLE]
  | k + 1, n => by simp [natLE, natLE_length k]

theorem ofNat_toNat_add (b : UInt8) (r : Nat) : UInt8.ofNat ((b.toNat + 256 * r) % 256) = b := by
  have : (b.toNat + 256 * r) % 256 = b.toNat := by have := b.toNat_lt; omega
  rw [this]; simp

theorem natLE_leNat : ∀ bs : Bytes, natLE bs.length (leNat bs) = bs
  | [] => by simp [natLE]
  | b :: bs => by
    have hb := b.toNat_lt
    have e2 : (b.toNat + 256 * leNat bs) / 256 = leNat bs := by omega
    simp only [List.length_cons, natLE, leNat, ofNat_toNat_add, e2, natLE_leNat bs]

theorem leNat_natLE : ∀ k n, leNat (natLE k n) = n % 256 ^ k
  | 0, n => by simp [natLE, leNat, Nat.mod_one]
  | k + 1, n => by
    have ih := leNat_natLE k (n / 256)
    have h1 : (UInt8.ofNat (n % 256)).toNat = n % 256 := by
      simp [UInt8.toNat_ofNat']
    simp only [natLE, leNat, h1, ih, Nat.pow_succ]
    rw [Nat.mul_comm (256 ^ k) 256, Nat.mod_mul]

theorem pow256 (k : Nat) : 256 ^ k = 2 ^ (8 * k) := by
  rw [show (256 : Nat) = 2 ^ 8 by norm_num, ← Nat.pow_mul]

theorem two_pow_pred (k : Nat) (hk : 0 < k) : 2 ^ (8 * k) = 2 * 2 ^ (8 * k - 1) := by
  have : 8 * k = (8 * k - 1) + 1 := by omega
  conv => lhs; rw [this, Nat.pow_succ]
  ring

theorem encInt_of_nat (be signed : Bool) (k n : Nat) (hk : 0 < k) (hn : n < 2 ^ (8 * k)) :
    encInt be signed k
        (if (signed && decide (2 ^ (8 * k - 1) ≤ n)) = true then (n : Int) - (2 : Int) ^ (8 * k) else (n : Int))
      = some (if be then (natLE k n).reverse else natLE k n) := by
  have hP : ((2 : Int) ^ (8 * k)) = 2 * (2 : Int) ^ (8 * k - 1) := by exact_mod_cast two_pow_pred k hk
  have hn' : (n : Int) < (2 : Int) ^ (8 * k) := by exact_mod_cast hn
  have hle : 2 ^ (8 * k - 1) ≤ n ↔ (2 : Int) ^ (8 * k - 1) ≤ (n : Int) := by
    rw [← Int.ofNat_le]; simp
  -- the value is in range, and it is `n` modulo `2 ^ (8 * k)`
  by_cases hc : (signed && decide (2 ^ (8 * k - 1) ≤ n)) = true
  · rw [if_pos hc]
    simp only [Bool.and_eq_true, decide_eq_true_eq, hle] at hc
    obtain ⟨rfl, hc⟩ := hc
    have hr : -((2 : Int) ^ (8 * k - 1)) ≤ (n : Int) - (2 : Int) ^ (8 * k) ∧
        (n : Int) - (2 : Int) ^ (8 * k) < (2 : Int) ^ (8 * k - 1) := by omega
    simp only [encInt, if_true, hr, decide_true, and_self, Int.sub_emod_right, Int.emod_eq_of_lt (by omega) hn',
      Int.toNat_natCast]
  · rw [if_neg hc]
    have hr : (if signed = true then decide (-((2 : Int) ^ (8 * k - 1)) ≤ (n : Int) ∧ (n : Int) < (2 : Int) ^ (8 * k - 1))
        else decide (0 ≤ (n : Int) ∧ (n : Int) < (2 : Int) ^ (8 * k))) = true := by
      cases signed
      · simpa using hn'
      · simp only [Bool.true_and, decide_eq_true_eq, hle] at hc
        simp only [if_true, decide_eq_true_eq]
        omega
    simp only [encInt, hr, if_true, Int.emod_eq_of_lt (by omega) hn', Int.toNat_natCast]
theorem encInt_decInt (be signed : Bool) (bs : Bytes) (hk : 0 < bs.length) :
    encInt be signed bs.length (decInt be signed bs) = some bs := by
  have hlen : (if be then bs.reverse else bs).length = bs.length := by split <;> simp
  have hlt : leNat (if be then bs.reverse else bs) < 2 ^ (8 * bs.length) := by
    have := leNat_lt (if be then bs.reverse else bs); rw [hlen, pow256] at this; exact this
  have h := encInt_of_nat be signed bs.length (leNat (if be then bs.reverse else bs)) hk hlt
  unfold decInt
  simp only []
  rw [h]
  have := natLE_leNat (if be then bs.reverse else bs)
  rw [hlen] at this
  rw [this]
  cases be <;> simp

theorem canon_length : ∀ m bs, (canon m bs).length = m.length
  | [], _ => by simp [canon]
  | _ :: ms, [] => by simp [canon, canon_length ms []]
  | _ :: ms, _ :: bs => by simp [canon, canon_length ms bs]

theorem canon_append : ∀ (m1 m2 bs : Bytes),
    canon (m1 ++ m2) bs = canon m1 bs ++ canon m2 (bs.drop m1.length)
  | [], m2, bs => by simp [canon]
  | m :: ms, m2, [] => by
    have := canon_append ms m2 []
    simp only [List.cons_append, canon, this, List.drop_nil]
  | m :: ms, m2, b :: bs => by
    have := canon_append ms m2 bs
    simp only [List.cons_append, canon, this, List.length_cons, List.drop_succ_cons]

theorem canon_zeros : ∀ n bs, canon (zeros n) bs = zeros n
  | 0, _ => by simp [zeros, canon]
  | n + 1, [] => by
    have := canon_zeros n []
    simp only [zeros, List.replicate_succ, canon] at this ⊢
    rw [this]; simp
  | n + 1, b :: bs => by
    have := canon_zeros n bs
    simp only [zeros, List.replicate_succ, canon] at this ⊢
    rw [this]; simp

theorem ff_and (b : UInt8) : (0xFF : UInt8) &&& b = b := UInt8.neg_one_and

theorem zero_and (b : UInt8) : (0 : UInt8) &&& b = 0 := UInt8.zero_and

theorem canon_ones : ∀ n (bs : Bytes), n ≤ bs.length → canon (ones n) bs = bs.take n
  | 0, _, _ => by simp [ones, canon]
  | n + 1, [], h => by simp at h
  | n + 1, b :: bs, h => by
    have := canon_ones n bs (by simpa using h)
    simp only [ones, List.replicate_succ, canon, List.take_succ_cons] at this ⊢
    rw [this, ff_and]

theorem canon_nil (bs : Bytes) : canon [] bs = [] := by simp [canon]

theorem slice_some {data : Bytes} {pos n : Nat} {bs : Bytes} (h : slice data pos n = some bs) :
    pos + n ≤ data.length ∧ bs = (data.drop pos).take n ∧ bs.length = n := by
  unfold slice at h
  split at h
  · rename_i hle
    injection h with h
    refine ⟨hle, h.symm, ?_⟩
    rw [← h, List.length_take, List.length_drop]; omega
  · cases h

theorem slice_drop (data : Bytes) (pos n : Nat) (hn : 0 < n) : slice data pos n = slice (data.drop pos) 0 n := by
  unfold slice
  simp only [List.length_drop, Nat.zero_add, List.drop_zero]
  by_cases h : pos + n ≤ data.length
  · rw [if_pos h, if_pos (by omega)]
  · rw [if_neg h, if_neg (by omega)]

theorem canon_ones_slice {data : Bytes} {pos n : Nat} {bs : Bytes} (h : slice data pos n = some bs) :
    canon (ones n) (data.drop pos) = bs := by
  obtain ⟨hle, e, _⟩ := slice_some h
  rw [canon_ones n _ (by rw [List.length_drop]; omega), e]

theorem zeros_length (n : Nat) : (zeros n).length = n := by simp [zeros]
theorem ones_length (n : Nat) : (ones n).length = n := by simp [ones]

theorem zeros_add (a b : Nat) : zeros (a + b) = zeros a ++ zeros b := by
  simp [zeros, List.replicate_append_replicate]

theorem chunks_length (k : Nat) : ∀ n bs, (chunks k n bs).length = n
  | 0, _ => by simp [chunks]
  | n + 1, bs => by simp [chunks, chunks_length k n]

theorem chunks_flatten (k : Nat) : ∀ n (bs : Bytes), k * n ≤ bs.length → (chunks k n bs).flatten = bs.take (k * n)
  | 0, _, _ => by simp [chunks]
  | n + 1, bs, h => by
    have hk : k ≤ bs.length := by
      have : k * (n + 1) = k * n + k := by ring
      omega
    have ih := chunks_flatten k n (bs.drop k) (by
      rw [List.length_drop]
      have : k * (n + 1) = k * n + k := by ring
      omega)
    simp only [chunks, List.flatten_cons, ih]
    have : k * (n + 1) = k + k * n := by ring
    rw [this, List.take_add]

theorem chunks_all_length (k : Nat) : ∀ n (bs : Bytes), k * n ≤ bs.length → ∀ c ∈ chunks k n bs, c.length = k
  | 0, _, _ => by simp [chunks]
  | n + 1, bs, h => by
    have h1 : k * (n + 1) = k * n + k := by ring
    have ih := chunks_all_length k n (bs.drop k) (by rw [List.length_drop]; omega)
    intro c hc
    simp only [chunks, List.mem_cons] at hc
    rcases hc with rfl | hc
    · rw [List.length_take]; omega
    · exact ih c hc

theorem encInts_chunks (be signed : Bool) (k : Nat) (hk : 0 < k) : ∀ (cs : List Bytes), (∀ c ∈ cs, c.length = k) →
    encInts be signed k (cs.map (fun c => Val.int (decInt be signed c))) = some cs.flatten
  | [], _ => by simp [encInts]
  | c :: cs, h => by
    have hc : c.length = k := h c (by simp)
    have ih := encInts_chunks be signed k hk cs (fun c' hc' => h c' (by simp [hc']))
    have e := encInt_decInt be signed c (by omega)
    rw [hc] at e
    simp only [List.map_cons, encInts, Val.int?, e, ih, List.flatten_cons]

end Amoco.Struct
