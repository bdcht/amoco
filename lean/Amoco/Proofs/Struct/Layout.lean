/-
  Layout lemmas for C16: the code's `align`/`size`/`align_value`/`offsets` against the C ABI reference.
-/
import Amoco.Proofs.Struct.Bytes

namespace Amoco.Struct

theorem roundUp_eq (o a : Nat) (ha : 0 < a) : roundUp o a = if o % a = 0 then o else a * (o / a) + a := by
  have hdm : a * (o / a) + o % a = o := Nat.div_add_mod o a
  have hlt : o % a < a := Nat.mod_lt _ ha
  unfold roundUp
  split
  · have : o + a - 1 = (a - 1) + a * (o / a) := by omega
    rw [this, Nat.add_mul_div_left _ _ ha, Nat.div_eq_of_lt (by omega), Nat.zero_add, Nat.mul_comm]
    omega
  · have : o + a - 1 = (o % a - 1) + a * (o / a + 1) := by rw [Nat.mul_succ]; omega
    rw [this, Nat.add_mul_div_left _ _ ha, Nat.div_eq_of_lt (by omega), Nat.zero_add, Nat.mul_comm, Nat.mul_succ]

theorem alignTo_eq_roundUp (o a : Nat) (ha : 0 < a) : alignTo o a = roundUp o a := by
  have hdm : a * (o / a) + o % a = o := Nat.div_add_mod o a
  have hlt : o % a < a := Nat.mod_lt _ ha
  rw [roundUp_eq o a ha, alignTo, if_neg (by omega)]
  dsimp only
  by_cases hr : o % a = 0
  · rw [if_pos hr, if_pos hr]
  · rw [if_neg hr, if_neg hr]; omega

theorem roundUp_one (o : Nat) : roundUp o 1 = o := by
  unfold roundUp; simp

theorem roundUp_zero (a : Nat) : roundUp 0 a = 0 := by
  unfold roundUp
  cases a with
  | zero => rfl
  | succ a => rw [Nat.div_eq_of_lt (by omega), Nat.zero_mul]

theorem roundUp_spec (o a : Nat) (ha : 0 < a) :
    a ∣ roundUp o a ∧ o ≤ roundUp o a ∧ roundUp o a < o + a ∧
      ∀ m, o ≤ m → a ∣ m → roundUp o a ≤ m := by
  have hdm : a * (o / a) + o % a = o := Nat.div_add_mod o a
  have hlt : o % a < a := Nat.mod_lt _ ha
  rw [roundUp_eq o a ha]
  by_cases hr : o % a = 0
  · rw [if_pos hr]
    exact ⟨⟨o / a, by omega⟩, Nat.le_refl _, by omega, fun m hm _ => hm⟩
  · rw [if_neg hr]
    refine ⟨⟨o / a + 1, by rw [Nat.mul_succ]⟩, by omega, by omega, ?_⟩
    intro m hm ⟨k, hk⟩
    subst hk
    -- a*k ≥ o > a*(o/a)  ⇒ k ≥ o/a + 1
    have h1 : a * (o / a) < a * k := by omega
    have h2 : o / a < k := Nat.lt_of_mul_lt_mul_left h1
    have h3 : a * (o / a + 1) ≤ a * k := Nat.mul_le_mul_left a h2
    rw [Nat.mul_succ] at h3
    exact h3

theorem padTail_eq_roundUp (packed : Bool) (A sz : Nat) (hA : 0 < A) (hp : packed = true → A = 1) :
    padTail packed A sz = roundUp sz A := by
  rw [← alignTo_eq_roundUp sz A hA]
  unfold padTail alignTo
  cases packed
  · by_cases hr : sz % A = 0 <;> simp [hr, Nat.pos_iff_ne_zero, Nat.ne_of_gt hA]
  · simp [hp rfl, Nat.mod_one]

theorem orOne_of_pos {A : Nat} (h : 0 < A) : orOne A = A := by
  unfold orOne
  rw [if_neg (by omega)]

theorem count_or_one (c : Nat) : (if c > 0 then c else 1) = if c = 0 then 1 else c := by
  cases c <;> rfl

theorem rawSize_eq_cSize (ps : Nat) (t : Letter) : rawSize ps t = cSize ps t := by
  cases t <;> simp [rawSize, cSize, ptrBytes]

theorem ptrBytes_pos (ps : Nat) : 0 < ptrBytes ps := by
  unfold ptrBytes; split <;> decide

theorem rawSize_pos (ps : Nat) (t : Letter) : 0 < rawSize ps t := by
  cases t <;> first | exact Nat.zero_lt_succ _ | exact ptrBytes_pos ps

theorem maxList_cons (a : Nat) (r : List Nat) : maxList (a :: r) = max a (maxList r) := by
  cases r with
  | nil => simp [maxList]
  | cons c r' =>
    rw [maxList.eq_2]
    simp only [List.isEmpty_cons, Bool.false_eq_true, if_false]
    split <;> omega

theorem foldl_max_eq {α : Type} (g : α → Nat) : ∀ (l : List α) (b : Nat),
    l.foldl (fun a m => max a (g m)) b = max b (maxList (l.map g))
  | [], b => by simp [maxList]
  | x :: r, b => by
    simp only [List.foldl_cons, List.map_cons, maxList_cons, foldl_max_eq g r]
    omega

theorem maxList_pos : ∀ (l : List Nat), l ≠ [] → (∀ x ∈ l, 0 < x) → 0 < maxList l
  | [], h, _ => absurd rfl h
  | a :: r, _, hp => by
    rw [maxList_cons]
    have := hp a (by simp)
    omega

theorem maxList_ones : ∀ (l : List Nat), (∀ x ∈ l, x = 1) → max 1 (maxList l) = 1
  | [], _ => by simp [maxList]
  | a :: r, h => by
    rw [maxList_cons]
    have := h a (by simp)
    have := maxList_ones r (fun x hx => h x (by simp [hx]))
    omega

/-- `sizeLoop` on the list of (size, align_value) of the fields -/
def sizeLoopL (isUnion packed : Bool) : List (Option Nat × Nat) → Nat → Option Nat
  | [], sz => some sz
  | (osz, a) :: r, sz =>
    let sz1 := if !isUnion && !packed then alignTo sz a else sz
    match osz with
    | none => none
    | some fsz =>
      let sz2 := if !isUnion then sz1 + fsz else (if fsz > sz1 then fsz else sz1)
      sizeLoopL isUnion packed r sz2

theorem sizeLoop_eq (ps : Nat) (u p : Bool) : ∀ (fs : List Field) (sz : Nat),
    sizeLoop ps u p fs sz = sizeLoopL u p (fs.map (fun f => (f.sizeV ps, f.alignV ps))) sz
  | [], sz => by simp [sizeLoop, sizeLoopL]
  | f :: fs, sz => by
    simp only [sizeLoop, List.map_cons, sizeLoopL]
    cases h : f.sizeV ps with
    | none => rfl
    | some fsz => simp only [sizeLoop_eq ps u p fs]

def packAl (packed : Bool) (ms : List (Nat × Nat)) : List (Nat × Nat) :=
  if packed then ms.map (fun m => (m.1, 1)) else ms

theorem placeMembers_packAl_cons (packed : Bool) (m : Nat × Nat) (ms : List (Nat × Nat)) (e : Nat) :
    placeMembers (packAl packed (m :: ms)) e
      = (roundUp e (if packed then 1 else m.2) ::
          (placeMembers (packAl packed ms) (roundUp e (if packed then 1 else m.2) + m.1)).1,
         (placeMembers (packAl packed ms) (roundUp e (if packed then 1 else m.2) + m.1)).2) := by
  cases packed <;> simp [packAl, placeMembers]

/-- the offset at which the code places a member is the reference offset -/
theorem alignTo_unpacked (packed : Bool) (o : Nat) {a : Nat} (ha : 0 < a) :
    (if (!packed) = true then alignTo o a else o) = roundUp o (if packed then 1 else a) := by
  cases packed
  · simp [alignTo_eq_roundUp o a ha]
  · simp [roundUp_one]

theorem sizeLoopL_struct (packed : Bool) : ∀ (ms : List (Nat × Nat)) (sz : Nat), (∀ m ∈ ms, 0 < m.2) →
    sizeLoopL false packed (ms.map (fun m => (some m.1, m.2))) sz
      = some (placeMembers (packAl packed ms) sz).2
  | [], sz, _ => by cases packed <;> rfl
  | (s, a) :: r, sz, hp => by
    simp only [List.map_cons, sizeLoopL, Bool.not_false, Bool.true_and, if_true, placeMembers_packAl_cons,
      alignTo_unpacked packed sz (hp (s, a) (by simp)),
      sizeLoopL_struct packed r _ (fun m hm => hp m (by simp [hm]))]

theorem sizeLoopL_union (packed : Bool) : ∀ (ms : List (Nat × Nat)) (sz : Nat),
    sizeLoopL true packed (ms.map (fun m => (some m.1, m.2))) sz
      = some (ms.foldl (fun a m => max a m.1) sz)
  | [], sz => by simp [sizeLoopL]
  | (s, a) :: r, sz => by
    simp only [List.map_cons, sizeLoopL, Bool.not_true, Bool.false_and, Bool.false_eq_true, if_false,
      List.foldl_cons]
    rw [sizeLoopL_union packed r]
    congr 2
    split <;> omega

theorem sizeLoopL_none (u p : Bool) : ∀ (l : List (Option Nat × Nat)) (sz : Nat),
    (∃ x ∈ l, x.1 = none) → sizeLoopL u p l sz = none
  | [], _, h => by simp at h
  | (osz, a) :: r, sz, h => by
    cases osz with
    | none => simp [sizeLoopL]
    | some fsz =>
      simp only [sizeLoopL]
      apply sizeLoopL_none
      obtain ⟨x, hx, hn⟩ := h
      simp only [List.mem_cons] at hx
      rcases hx with rfl | hx
      · simp at hn
      · exact ⟨x, hx, hn⟩

theorem alignVs_eq_map (ps : Nat) : ∀ fs : List Field, alignVs ps fs = fs.map (Field.alignV ps)
  | [] => by simp [alignVs]
  | f :: fs => by simp [alignVs, alignVs_eq_map ps fs]

theorem alignVs_single (ps : Nat) (f : Field) : maxList (alignVs ps [f]) = f.alignV ps := by
  simp [alignVs, maxList]

/-- the statement of the mutual induction `fieldRel`/`defRel`/`fieldsRel`: the code's `size` and
    `align_value` are the reference's, and where the reference has no fixed size (`none`) the code has none;
    `DefRel` says the same of a definition -/
def FieldRel (ps : Nat) (f : Field) : Prop :=
  0 < f.alignV ps ∧
  match refField ps f with
  | some m => f.sizeV ps = some m.1 ∧ f.alignV ps = m.2
  | none => f.sizeV ps = none

def DefRel (ps : Nat) (d : Def) : Prop :=
  0 < d.alignV ps ∧
  match refDef ps d with
  | some L => d.sizeV ps = some L.size ∧ d.alignV ps = L.align
  | none => d.sizeV ps = none

theorem modelled_def {ps : Nat} {kind : Kind} {packed : Bool} {fs : List Field}
    (h : (Def.mk kind packed fs).modelled ps = true) : fieldsModelled ps fs = true ∧ fs ≠ [] := by
  simp only [Def.modelled, Bool.and_eq_true, Bool.not_eq_true'] at h
  refine ⟨h.1.1, ?_⟩
  intro e
  rw [e] at h
  simp at h

theorem modelled_cons {ps : Nat} {f : Field} {fs : List Field} (h : fieldsModelled ps (f :: fs) = true) :
    f.modelled ps = true ∧ fieldsModelled ps fs = true := by
  simpa [fieldsModelled] using h

theorem place_align (isUnion packed : Bool) (ms : List (Nat × Nat)) :
    (place isUnion packed ms).align = max 1 (maxList ((packAl packed ms).map (·.2))) := by
  unfold place packAl
  cases isUnion <;> simp only [foldl_max_eq (fun m : Nat × Nat => m.2)] <;> rfl

theorem packAl_align (packed : Bool) (ms : List (Nat × Nat)) (hne : ms ≠ []) (hp : ∀ m ∈ ms, 0 < m.2) :
    max 1 (maxList ((packAl packed ms).map (·.2))) = if packed then 1 else maxList (ms.map (·.2)) := by
  cases packed
  · simp only [packAl, Bool.false_eq_true, if_false]
    have : 0 < maxList (ms.map (·.2)) := maxList_pos _ (by simpa using hne) (by
      intro x hx
      simp only [List.mem_map] at hx
      obtain ⟨m, hm, rfl⟩ := hx
      exact hp m hm)
    omega
  · simp only [packAl, if_true]
    apply maxList_ones
    intro x hx
    simp only [List.mem_map] at hx
    obtain ⟨m, hm, rfl⟩ := hx
    obtain ⟨m', _, rfl⟩ := hm
    rfl

theorem foldl_size_packAl (packed : Bool) (ms : List (Nat × Nat)) (b : Nat) :
    (packAl packed ms).foldl (fun a m => max a m.1) b = ms.foldl (fun a m => max a m.1) b := by
  cases packed
  · simp [packAl]
  · simp only [packAl, if_true, List.foldl_map]

theorem place_size (isUnion packed : Bool) (ms : List (Nat × Nat)) :
    (place isUnion packed ms).size =
      roundUp (if isUnion then ms.foldl (fun a m => max a m.1) 0 else (placeMembers (packAl packed ms) 0).2)
        (place isUnion packed ms).align := by
  cases isUnion
  · simp only [place, packAl, Bool.false_eq_true, if_false]
  · have := foldl_size_packAl packed ms 0
    simp only [packAl] at this
    simp only [place, if_true, this]

theorem place_offs (isUnion packed : Bool) (ms : List (Nat × Nat)) :
    (place isUnion packed ms).offs =
      if isUnion then ms.map (fun _ => 0) else (placeMembers (packAl packed ms) 0).1 := by
  cases isUnion <;> cases packed <;> simp [place, packAl]

theorem refMembers_cons {ps : Nat} {f : Field} {fs : List Field} {l : List (Nat × Nat)}
    (h : refMembers ps (f :: fs) = some l) :
    ∃ m ms, l = m :: ms ∧ refField ps f = some m ∧ refMembers ps fs = some ms := by
  simp only [refMembers] at h
  cases hf : refField ps f with
  | none => rw [hf] at h; simp at h
  | some m =>
    cases hs : refMembers ps fs with
    | none => rw [hf, hs] at h; simp at h
    | some ms =>
      rw [hf, hs] at h
      simp only [Option.some.injEq] at h
      exact ⟨m, ms, h.symm, rfl, rfl⟩

theorem refMembers_rel {ps : Nat} : ∀ {fs : List Field} {ms : List (Nat × Nat)}, (∀ f ∈ fs, FieldRel ps f) →
    refMembers ps fs = some ms →
    fs.map (fun f => (f.sizeV ps, f.alignV ps)) = ms.map (fun m => (some m.1, m.2)) ∧
      fs.map (Field.alignV ps) = ms.map (·.2) ∧ ∀ m ∈ ms, 0 < m.2
  | [], _, _, hr => by cases Option.some.inj hr; simp
  | f :: fs, _, h, hr => by
    obtain ⟨m, ms, rfl, hf, hs⟩ := refMembers_cons hr
    obtain ⟨i1, i2, i3⟩ := refMembers_rel (fun g hg => h g (List.mem_cons_of_mem _ hg)) hs
    obtain ⟨hpos, hrel⟩ := h f (List.mem_cons_self ..)
    rw [hf] at hrel
    refine ⟨by simp only [List.map_cons, hrel.1, hrel.2, i1], by simp only [List.map_cons, hrel.2, i2], ?_⟩
    intro m' hm'
    rcases List.mem_cons.mp hm' with rfl | hm'
    · exact hrel.2 ▸ hpos
    · exact i3 m' hm'

theorem refMembers_none {ps : Nat} : ∀ {fs : List Field}, (∀ f ∈ fs, FieldRel ps f) → refMembers ps fs = none →
    ∃ x ∈ fs.map (fun f => (f.sizeV ps, f.alignV ps)), x.1 = none
  | [], _, hr => by cases hr
  | f :: fs, h, hr => by
    simp only [refMembers] at hr
    cases hf : refField ps f with
    | none =>
      have hrel := (h f (List.mem_cons_self ..)).2
      rw [hf] at hrel
      exact ⟨_, List.mem_cons_self .., hrel⟩
    | some m =>
      cases hrs : refMembers ps fs with
      | none =>
        obtain ⟨x, hx, hn⟩ := refMembers_none (fun g hg => h g (List.mem_cons_of_mem _ hg)) hrs
        exact ⟨x, List.mem_cons_of_mem _ hx, hn⟩
      | some ms => rw [hf, hrs] at hr; cases hr

mutual
theorem fieldRel (ps : Nat) : (f : Field) → f.modelled ps = true → FieldRel ps f
  | .raw _ t _ count, _ => by
    refine ⟨rawSize_pos ps t, ?_⟩
    simp only [refField, Field.sizeV, Field.alignV, rawSize_eq_cSize, count_or_one, and_self]
  | .bits t _ _ _, _ => by
    refine ⟨rawSize_pos ps t, ?_⟩
    simp only [refField, Field.sizeV, Field.alignV, rawSize_eq_cSize, and_self]
  | .var _ t _, _ => ⟨rawSize_pos ps t, by simp only [refField, Field.sizeV]⟩
  | .cnt _ t _ _, _ => ⟨rawSize_pos ps t, by simp only [refField, Field.sizeV]⟩
  | .bound _ t _ _, _ => ⟨rawSize_pos ps t, by simp only [refField, Field.sizeV]⟩
  | .leb _ _, _ => ⟨by simp [Field.alignV], by simp only [refField, Field.sizeV]⟩
  | .nest _ ty count, h => by
    obtain ⟨hpos, ih⟩ := defRel ps ty (by simpa [Field.modelled] using h)
    refine ⟨hpos, ?_⟩
    simp only [refField, Field.sizeV, Field.alignV]
    generalize refDef ps ty = o at ih
    cases o with
    | none => simp only [ih]
    | some L =>
      simp only [ih.1, ih.2, and_true]
      cases count <;> simp
  | .bitsEx ty _ _, h => by
    obtain ⟨hpos, ih⟩ := defRel ps ty (by simp only [Field.modelled, Bool.and_eq_true] at h; exact h.1)
    refine ⟨hpos, ?_⟩
    simp only [refField, Field.sizeV, Field.alignV]
    generalize refDef ps ty = o at ih
    cases o with
    | none => simp only [ih]
    | some L => simp only [ih.1, ih.2, and_self]
theorem defRel (ps : Nat) : (d : Def) → d.modelled ps = true → DefRel ps d
  | .mk kind packed fs, h => by
    obtain ⟨hfs, hne⟩ := modelled_def h
    have ih := fieldsRel ps fs hfs
    have hA : 0 < (Def.mk kind packed fs).alignV ps := by
      simp only [Def.alignV]
      cases packed
      · simp only [Bool.false_eq_true, if_false, alignVs_eq_map]
        apply maxList_pos _ (by simpa using hne)
        intro x hx
        simp only [List.mem_map] at hx
        obtain ⟨f, hf, rfl⟩ := hx
        exact (ih f hf).1
      · simp
    refine ⟨hA, ?_⟩
    simp only [refDef]
    cases hr : refMembers ps fs with
    | none =>
      simp only [Def.sizeV, sizeLoop_eq, sizeLoopL_none _ _ _ 0 (refMembers_none ih hr)]
    | some ms =>
      obtain ⟨ih', hal, hmpos⟩ := refMembers_rel ih hr
      have hlen : ms ≠ [] := by
        intro e
        rw [e] at hal
        exact hne (List.map_eq_nil_iff.mp hal)
      have halign : (Def.mk kind packed fs).alignV ps = (place (kind == .union) packed ms).align := by
        rw [place_align, packAl_align packed ms hlen hmpos]
        simp only [Def.alignV, alignVs_eq_map, hal]
      refine ⟨?_, halign⟩
      have hA' : orOne (if packed then 1 else maxList (alignVs ps fs)) = (Def.mk kind packed fs).alignV ps :=
        orOne_of_pos hA
      simp only [Def.sizeV, hA', sizeLoop_eq]
      rw [ih', place_size]
      have hround : ∀ sz, padTail packed ((Def.mk kind packed fs).alignV ps) sz
          = roundUp sz (place (kind == .union) packed ms).align := fun sz => by
        rw [padTail_eq_roundUp _ _ _ hA (by rintro rfl; rfl), halign]
      cases hk : (kind == Kind.union)
      · rw [sizeLoopL_struct packed ms 0 hmpos]
        simp only [hround, hk, Bool.false_eq_true, if_false]
      · rw [sizeLoopL_union packed ms 0]
        simp only [hround, hk, if_true]
theorem fieldsRel (ps : Nat) : (fs : List Field) → fieldsModelled ps fs = true → ∀ f ∈ fs, FieldRel ps f
  | [], _ => fun _ hf => nomatch hf
  | f :: fs, h => fun g hg =>
    (List.mem_cons.mp hg).elim (fun e => e ▸ fieldRel ps f (modelled_cons h).1)
      (fieldsRel ps fs (modelled_cons h).2 g)
end

theorem fieldRel_some {ps : Nat} {f : Field} {m : Nat × Nat} (hm : f.modelled ps = true)
    (hf : refField ps f = some m) : f.sizeV ps = some m.1 ∧ f.alignV ps = m.2 := by
  have h := (fieldRel ps f hm).2
  rwa [hf] at h

theorem defRel_some {ps : Nat} {d : Def} {L : Lay} (hm : d.modelled ps = true)
    (hL : refDef ps d = some L) : d.sizeV ps = some L.size ∧ d.alignV ps = L.align := by
  have h := (defRel ps d hm).2
  rwa [hL] at h

theorem refDef_some {ps : Nat} {kind : Kind} {packed : Bool} {fs : List Field} {L : Lay}
    (h : refDef ps (.mk kind packed fs) = some L) :
    ∃ ms, refMembers ps fs = some ms ∧ place (kind == .union) packed ms = L := by
  simp only [refDef] at h
  split at h
  · next ms hr => exact ⟨ms, hr, Option.some.inj h⟩
  · cases h

theorem refField_nest {ps : Nat} {nm : String} {ty : Def} {count : Nat} {m : Nat × Nat}
    (h : refField ps (.nest nm ty count) = some m) :
    ∃ L, refDef ps ty = some L ∧ (L.size * (if count = 0 then 1 else count), L.align) = m := by
  simp only [refField] at h
  split at h
  · next L hL => exact ⟨L, hL, Option.some.inj h⟩
  · cases h

theorem refField_bitsEx {ps : Nat} {ty : Def} {names : List String} {sizes : List Nat} {m : Nat × Nat}
    (h : refField ps (.bitsEx ty names sizes) = some m) :
    ∃ L, refDef ps ty = some L ∧ (L.size, L.align) = m := by
  simp only [refField] at h
  split at h
  · next L hL => exact ⟨L, hL, Option.some.inj h⟩
  · cases h

theorem offsetsLoop_ref (ps : Nat) (packed : Bool) : ∀ (fs : List Field) (ms : List (Nat × Nat)) (o : Nat),
    (∀ f ∈ fs, FieldRel ps f) → refMembers ps fs = some ms →
    offsetsLoop ps packed fs (fs.map (Field.sizeV ps)) o
      = refEntries ps false fs (placeMembers (packAl packed ms) o).1
  | [], ms, o, _, h => by
    cases Option.some.inj h
    rfl
  | f :: fs, l, o, hm, h => by
    obtain ⟨m, ms, rfl, hf, hs⟩ := refMembers_cons h
    obtain ⟨hpos, hrel⟩ := hm f (List.mem_cons_self ..)
    rw [hf] at hrel
    simp only [List.map_cons, offsetsLoop, alignTo_unpacked packed o (hrel.2 ▸ hpos), hrel.1, hrel.2,
      placeMembers_packAl_cons, refEntries, Bool.false_eq_true, if_false, hf, Option.map_some,
      offsetsLoop_ref ps packed fs ms _ (fun g hg => hm g (List.mem_cons_of_mem _ hg)) hs]

theorem refEntries_union (ps : Nat) : ∀ (fs : List Field) (ms : List (Nat × Nat)),
    (∀ f ∈ fs, FieldRel ps f) → refMembers ps fs = some ms →
    (fs.map (Field.sizeV ps)).map (fun s => OffEntry.field 0 s) = refEntries ps true fs (ms.map fun _ => 0)
  | [], ms, _, h => by
    cases Option.some.inj h
    rfl
  | f :: fs, l, hm, h => by
    obtain ⟨m, ms, rfl, hf, hs⟩ := refMembers_cons h
    have hrel := (hm f (List.mem_cons_self ..)).2
    rw [hf] at hrel
    simp only [List.map_cons, refEntries, if_true, hf, Option.map_some, hrel.1, List.singleton_append,
      refEntries_union ps fs ms (fun g hg => hm g (List.mem_cons_of_mem _ hg)) hs]

theorem offsetsV_ref (ps : Nat) (d : Def) (hm : d.modelled ps = true) (L : Lay) (hL : refDef ps d = some L) :
    d.offsetsV ps = refEntries ps d.isUnion d.fields L.offs := by
  cases d with
  | mk kind packed fs =>
    have hrel := fieldsRel ps fs (modelled_def hm).1
    obtain ⟨ms, hr, rfl⟩ := refDef_some hL
    simp only [Def.offsetsV, Def.fields, Def.isUnion, Def.kind, Def.packed, place_offs]
    by_cases hk : (kind == Kind.union) = true
    · simp only [hk, if_true]
      exact refEntries_union ps fs ms hrel hr
    · rw [Bool.not_eq_true] at hk
      simp only [hk, Bool.false_eq_true, if_false]
      exact offsetsLoop_ref ps packed fs ms 0 hrel hr

/-- `Placed ms e os e'`: starting with free offset `e`, the members `ms = (size, alignment)…` lie at
    offsets `os`, each at the LEAST multiple of its alignment not below the end of the previous
    member; `e'` is the end of the last member. -/
inductive Placed : List (Nat × Nat) → Nat → List Nat → Nat → Prop
  | nil (e : Nat) : Placed [] e [] e
  | cons {s a e o : Nat} {r : List (Nat × Nat)} {os : List Nat} {e' : Nat} :
      a ∣ o → e ≤ o → (∀ o', e ≤ o' → a ∣ o' → o ≤ o') → Placed r (o + s) os e' →
      Placed ((s, a) :: r) e (o :: os) e'

theorem placeMembers_placed : ∀ (ms : List (Nat × Nat)) (e : Nat), (∀ m ∈ ms, 0 < m.2) →
    Placed ms e (placeMembers ms e).1 (placeMembers ms e).2
  | [], e, _ => by simp only [placeMembers]; exact Placed.nil e
  | (s, a) :: r, e, hp => by
    have ha : 0 < a := hp (s, a) (by simp)
    obtain ⟨h1, h2, _, h4⟩ := roundUp_spec e a ha
    have ih := placeMembers_placed r (roundUp e a + s) (fun m hm => hp m (by simp [hm]))
    simp only [placeMembers]
    exact Placed.cons h1 h2 h4 ih

theorem placed_unique : ∀ {ms : List (Nat × Nat)} {e : Nat} {os os' : List Nat} {e1 e2 : Nat},
    Placed ms e os e1 → Placed ms e os' e2 → os = os' ∧ e1 = e2
  | [], _, _, _, _, _, .nil _, .nil _ => ⟨rfl, rfl⟩
  | (s, a) :: r, e, _, _, _, _, .cons h1 h2 h3 hr, .cons g1 g2 g3 gr => by
    have : _ = _ := Nat.le_antisymm (h3 _ g2 g1) (g3 _ h2 h1)
    subst this
    obtain ⟨e1, e2⟩ := placed_unique hr gr
    exact ⟨by rw [e1], e2⟩

end Amoco.Struct
