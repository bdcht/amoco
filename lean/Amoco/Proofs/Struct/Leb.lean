/-
  Helper lemmas for the LEB128 round-trip theorems of C16.
-/
import Amoco.Model.Leb128
import Mathlib.Tactic.Ring
import Mathlib.Tactic.Linarith
import Mathlib.Tactic.NormNum

namespace Amoco.Leb128

theorem byte_and7f : ∀ n, n < 256 → n &&& 0x7F = n % 128 := by decide +kernel
theorem byte_and80 : ∀ n, n < 256 → ((n &&& 0x80 = 0) ↔ n < 128) := by decide +kernel
theorem byte_and40 : ∀ n, n < 128 → ((n &&& 0x40 = 0) ↔ n < 64) := by decide +kernel

theorem ofNat_toNat_sub (b : UInt8) (h : 128 ≤ b.toNat) : UInt8.ofNat (b.toNat % 128 + 128) = b := by
  have : b.toNat % 128 + 128 = b.toNat := by have := b.toNat_lt; omega
  rw [this]; simp

theorem or_shift (r x s : Nat) (h : r < 2 ^ s) : r ||| (x <<< s) = r + x * 2 ^ s := by
  rw [Nat.or_comm, ← Nat.shiftLeft_add_eq_or_of_lt h, Nat.shiftLeft_eq, Nat.add_comm]

theorem pow7 (s : Nat) : 2 ^ (s + 7) = 128 * 2 ^ s := by
  rw [Nat.pow_add]; omega

theorem readLoop_cont (b : UInt8) (hb : 128 ≤ b.toNat) (bs : List UInt8) (r s c : Nat) (l : UInt8)
    (hr : r < 2 ^ s) :
    readLoop (b :: bs) r s c l = readLoop bs (r + b.toNat % 128 * 2 ^ s) (s + 7) (c + 1) b := by
  have h3 : ¬ (b.toNat &&& 0x80 = 0) := by
    rw [byte_and80 _ b.toNat_lt]; omega
  rw [readLoop]
  simp only [byte_and7f _ b.toNat_lt, h3, if_false, or_shift r _ s hr]

theorem readLoop_final (b : UInt8) (hb : b.toNat < 128) (bs : List UInt8) (r s c : Nat) (l : UInt8)
    (hr : r < 2 ^ s) :
    readLoop (b :: bs) r s c l = ⟨r + b.toNat * 2 ^ s, s + 7, c + 1, b⟩ := by
  have h2 : b.toNat % 128 = b.toNat := Nat.mod_eq_of_lt hb
  have h3 : b.toNat &&& 0x80 = 0 := by rw [byte_and80 _ b.toNat_lt]; exact hb
  rw [readLoop]
  simp only [byte_and7f _ b.toNat_lt, h2, h3, if_true, or_shift r _ s hr]

theorem step_bound (r x s : Nat) (hr : r < 2 ^ s) (hx : x < 128) : r + x * 2 ^ s < 2 ^ (s + 7) := by
  rw [pow7]
  have : x * 2 ^ s ≤ 127 * 2 ^ s := Nat.mul_le_mul_right _ (by omega)
  omega

/-- continuation bytes (bit 7 set) followed by one final byte -/
def wfLeb : List UInt8 → Prop
  | [] => False
  | [b] => b.toNat < 128
  | b :: b2 :: bs => 128 ≤ b.toNat ∧ wfLeb (b2 :: bs)

def uval : List UInt8 → Nat
  | [] => 0
  | b :: bs => b.toNat % 128 + 128 * uval bs

/-- the 7-bit groups as a signed number: bit 6 of the final byte is the sign -/
def ssval : List UInt8 → Int
  | [] => 0
  | [b] => if b.toNat &&& 0x40 != 0 then (b.toNat : Int) - 128 else (b.toNat : Int)
  | b :: b2 :: bs => ((b.toNat : Int) - 128) + 128 * ssval (b2 :: bs)

/-- signed interpretation of the reader's loop output (what `result |= ~0 << shift` produces) -/
def sval (o : LoopOut) : Int :=
  if o.last.toNat &&& 0x40 != 0 then (o.result : Int) - (2 : Int) ^ o.shift else (o.result : Int)

theorem readLoop_wf : ∀ (bs : List UInt8), wfLeb bs → ∀ (rest : List UInt8) (r s c : Nat) (l : UInt8), r < 2 ^ s →
    (readLoop (bs ++ rest) r s c l).result = r + uval bs * 2 ^ s ∧
    (readLoop (bs ++ rest) r s c l).count = c + bs.length ∧
    sval (readLoop (bs ++ rest) r s c l) = (r : Int) + ssval bs * (2 : Int) ^ s
  | [], h, _, _, _, _, _, _ => h.elim
  | [b], h, rest, r, s, c, l, hr => by
    have hp : ((2 : Int) ^ (s + 7)) = 128 * (2 : Int) ^ s := by exact_mod_cast pow7 s
    rw [List.singleton_append, readLoop_final b h _ _ _ _ _ hr]
    refine ⟨by simp [uval, Nat.mod_eq_of_lt h], rfl, ?_⟩
    simp only [sval, ssval]
    split
    · push_cast; rw [hp]; ring    -- sign bit set: the reader subtracts `2 ^ (s + 7)`, the value `128 * 2 ^ s`
    · push_cast; ring
  | b :: b2 :: bs, h, rest, r, s, c, l, hr => by
    have hp : ((2 : Int) ^ (s + 7)) = 128 * (2 : Int) ^ s := by exact_mod_cast pow7 s
    have hx : b.toNat % 128 < 128 := Nat.mod_lt _ (by omega)
    have hb : (b.toNat : Int) % 128 = (b.toNat : Int) - 128 := by have := b.toNat_lt; have := h.1; omega
    obtain ⟨i1, i2, i3⟩ := readLoop_wf (b2 :: bs) h.2 rest (r + b.toNat % 128 * 2 ^ s) (s + 7) (c + 1) b
      (step_bound r _ s hr hx)
    rw [List.cons_append, readLoop_cont b h.1 _ _ _ _ _ hr]
    have hu : uval (b :: b2 :: bs) = b.toNat % 128 + 128 * uval (b2 :: bs) := rfl
    have hs : ssval (b :: b2 :: bs) = ((b.toNat : Int) - 128) + 128 * ssval (b2 :: bs) := rfl
    refine ⟨by rw [i1, hu, pow7]; ring, by simp only [List.length_cons] at i2 ⊢; omega, ?_⟩
    rw [i3, hs, hp]
    push_cast
    rw [hb]
    ring

theorem writeULoop_zero : writeULoop 0 = [] := by
  rw [writeULoop]; rfl

theorem writeULoop_ne_nil (v : Nat) (hv : v ≠ 0) : writeULoop v ≠ [] := by
  rw [writeULoop]; simp [hv]

theorem writeS_ne_nil (v : Int) : writeS v ≠ [] := by
  rw [writeS]; split <;> simp

theorem writeULoop_spec (v : Nat) :
    v ≠ 0 → wfLeb (writeULoop v) ∧ uval (writeULoop v) = v ∧ canonULoop (writeULoop v) = true := by
  induction v using Nat.strongRecOn with
  | _ v ih =>
    intro hv
    rw [writeULoop]
    simp only [hv, dite_false]
    have hx : v % 128 < 128 := Nat.mod_lt _ (by omega)
    by_cases h' : v / 128 = 0
    · have hw := writeULoop_zero
      simp only [h', ne_eq, not_true_eq_false, if_false, hw, wfLeb, uval, canonULoop, decide_eq_true_eq,
        UInt8.toNat_ofNat_of_lt' (show v % 128 < 256 by omega)]
      omega
    · obtain ⟨i1, i2, i3⟩ := ih (v / 128) (by omega) h'
      simp only [ne_eq, h', not_false_eq_true, if_true]
      cases hw : writeULoop (v / 128) with
      | nil => exact absurd hw (writeULoop_ne_nil _ h')
      | cons b bs =>
        rw [hw] at i1 i2 i3
        simp only [uval] at i2
        simp only [wfLeb, uval, canonULoop, UInt8.toNat_ofNat_of_lt' (show v % 128 + 128 < 256 by omega),
          Bool.and_eq_true, decide_eq_true_eq, i3, and_true]
        exact ⟨⟨by omega, i1⟩, by omega, by omega⟩

theorem wf_writeS (v : Int) : wfLeb (writeS v) ∧ ssval (writeS v) = v := by
  induction v using writeS.induct with
  | case1 v x v' hstop =>
    simp only [x, v'] at hstop
    have hx : (v % 128).toNat < 128 := by omega
    rw [writeS]
    simp only [hstop, if_true, wfLeb, ssval, UInt8.toNat_ofNat_of_lt' (show (v % 128).toNat < 256 by omega)]
    refine ⟨hx, ?_⟩
    rcases hstop with ⟨h0, hb⟩ | ⟨h1, hb⟩
    · simp only [hb, bne_self_eq_false, Bool.false_eq_true, if_false]
      omega
    · simp only [bne_iff_ne, ne_eq, hb, not_false_eq_true, if_true]
      omega
  | case2 v x v' hcont ih =>
    simp only [x, v'] at hcont ih
    have hx : (v % 128).toNat < 128 := by omega
    rw [writeS]
    simp only [hcont, if_false]
    cases hw : writeS (v / 128) with
    | nil => exact absurd hw (writeS_ne_nil _)
    | cons b bs =>
      rw [hw] at ih
      simp only [wfLeb, ssval, UInt8.toNat_ofNat_of_lt' (show (v % 128).toNat + 128 < 256 by omega)]
      refine ⟨⟨by omega, ih.1⟩, ?_⟩
      rw [ih.2]
      omega

theorem canonU_writeU (v : Nat) : canonU (writeU v) = true := by
  unfold writeU canonU
  by_cases hv : v = 0
  · simp [hv]
  · simp [hv, (writeULoop_spec v hv).2.2]

theorem readLeb_at (sg : Bool) (data : List UInt8) (pos : Nat) :
    readLeb sg data pos = readLeb sg (data.drop pos) 0 := by
  unfold readLeb
  simp

theorem readLeb_drop (signed : Bool) (pre bs : List UInt8) :
    readLeb signed (pre ++ bs) pre.length = readLeb signed bs 0 := by
  rw [readLeb_at, List.drop_left]

theorem readLeb_writeU (v : Nat) (rest : List UInt8) :
    readLeb false (writeU v ++ rest) 0 = some ((v : Int), (writeU v).length) := by
  unfold writeU
  by_cases hv : v = 0
  · subst hv
    simp [readLeb, readLoop]
  · simp only [hv, if_false]
    obtain ⟨hwf, hu, _⟩ := writeULoop_spec v hv
    obtain ⟨h1, h2, _⟩ := readLoop_wf _ hwf rest 0 0 0 0 (by simp)
    unfold readLeb
    simp only [List.drop_zero]
    cases hw : writeULoop v ++ rest with
    | nil => exact absurd (List.append_eq_nil_iff.mp hw).1 (writeULoop_ne_nil v hv)
    | cons b bs =>
      rw [hw] at h1 h2
      simp [h1, h2, hu]

theorem readLeb_writeS (v : Int) (rest : List UInt8) :
    readLeb true (writeS v ++ rest) 0 = some (v, (writeS v).length) := by
  obtain ⟨hwf, hs⟩ := wf_writeS v
  obtain ⟨_, h2, h3⟩ := readLoop_wf _ hwf rest 0 0 0 0 (by simp)
  unfold readLeb
  simp only [List.drop_zero]
  cases hw : writeS v ++ rest with
  | nil => exact absurd (List.append_eq_nil_iff.mp hw).1 (writeS_ne_nil v)
  | cons b bs =>
    rw [hw] at h2 h3
    simp only [sval, hs] at h3
    simp only [Bool.true_and]
    split <;> rename_i hc
    · rw [if_pos hc] at h3
      simp only [h3, h2]; simp
    · rw [if_neg hc] at h3
      simp only [h3, h2]; simp

theorem uval_pos : ∀ bs, canonULoop bs = true → 0 < uval bs
  | [], h => by simp [canonULoop] at h
  | [b], h => by
    simp only [canonULoop, decide_eq_true_eq] at h
    simp only [uval]; omega
  | b :: b2 :: bs, h => by
    simp only [canonULoop, Bool.and_eq_true] at h
    have := uval_pos (b2 :: bs) h.2
    simp only [uval] at this ⊢; omega

theorem writeULoop_uval : ∀ bs, canonULoop bs = true → writeULoop (uval bs) = bs
  | [], h => by simp [canonULoop] at h
  | [b], h => by
    simp only [canonULoop, decide_eq_true_eq] at h
    have hv : uval [b] = b.toNat := by simp only [uval]; omega
    rw [hv, writeULoop]
    have h0 : ¬ b.toNat = 0 := by omega
    have h1 : b.toNat / 128 = 0 := by omega
    have h2 : b.toNat % 128 = b.toNat := by omega
    have h3 := writeULoop_zero
    simp [h0, h1, h2, h3]
  | b :: b2 :: bs, h => by
    simp only [canonULoop, Bool.and_eq_true, decide_eq_true_eq] at h
    have ih := writeULoop_uval (b2 :: bs) h.2
    have hp := uval_pos (b2 :: bs) h.2
    have hx : b.toNat % 128 < 128 := Nat.mod_lt _ (by omega)
    rw [writeULoop]
    have e0 : ¬ uval (b :: b2 :: bs) = 0 := by simp only [uval] at hp ⊢; omega
    have e1 : uval (b :: b2 :: bs) / 128 = uval (b2 :: bs) := by
      simp only [uval]; omega
    have e2 : uval (b :: b2 :: bs) % 128 = b.toNat % 128 := by
      simp only [uval]; omega
    have e3 : uval (b2 :: bs) ≠ 0 := by omega
    simp only [e0, dite_false, e1, e2, ne_eq, e3, not_false_eq_true, if_true, ih,
      ofNat_toNat_sub b h.1]

theorem writeU_uval (bs : List UInt8) (h : canonU bs = true) : writeU (uval bs) = bs := by
  unfold canonU at h
  simp only [Bool.or_eq_true, beq_iff_eq] at h
  rcases h with h | h
  · subst h; simp [uval, writeU]
  · have := uval_pos bs h
    unfold writeU
    simp only [show ¬ uval bs = 0 by omega, if_false]
    exact writeULoop_uval bs h

theorem ssval_small : ∀ bs, canonS bs = true →
    (ssval bs = 0 → bs = [0]) ∧ (ssval bs = -1 → bs = [0x7F])
  | [], h => by simp [canonS] at h
  | [b], h => by
    simp only [canonS, decide_eq_true_eq] at h
    have h40 := byte_and40 b.toNat h
    simp only [ssval]
    constructor
    · intro e
      split at e
      · omega
      · have : b.toNat = 0 := by omega
        have : b = 0 := by apply UInt8.toNat_inj.mp; simpa using this
        rw [this]
    · intro e
      split at e
      · have : b.toNat = 127 := by omega
        have : b = 0x7F := by apply UInt8.toNat_inj.mp; simpa using this
        rw [this]
      · omega
  | b :: b2 :: bs, h => by
    simp only [canonS, Bool.and_eq_true, decide_eq_true_eq] at h
    obtain ⟨⟨hb, hc⟩, hr⟩ := h
    have ih := ssval_small (b2 :: bs) hc
    have hlt := b.toNat_lt
    simp only [ssval]
    constructor
    · intro e
      have e1 : b.toNat = 128 := by omega
      have e2 : ssval (b2 :: bs) = 0 := by omega
      have e3 := ih.1 e2
      injection e3 with e4 e5
      subst e5
      simp [e1, e4] at hr
    · intro e
      have e1 : b.toNat = 255 := by omega
      have e2 : ssval (b2 :: bs) = -1 := by omega
      have e3 := ih.2 e2
      injection e3 with e4 e5
      subst e5
      simp [e1, e4] at hr

theorem writeS_ssval : ∀ bs, canonS bs = true → writeS (ssval bs) = bs
  | [], h => by simp [canonS] at h
  | [b], h => by
    simp only [canonS, decide_eq_true_eq] at h
    have h40 := byte_and40 b.toNat h
    rw [writeS]
    simp only [ssval]
    by_cases hb : b.toNat &&& 0x40 = 0
    · have hlt : b.toNat < 64 := h40.mp hb
      have c : (b.toNat &&& 0x40 != 0) = false := by simp [hb]
      simp only [c]
      have e1 : ((b.toNat : Int) % 128).toNat = b.toNat := by omega
      have e2 : (b.toNat : Int) / 128 = 0 := by omega
      simp [e1, e2, hb]
    · have hlt : ¬ b.toNat < 64 := fun x => hb (h40.mpr x)
      have c : (b.toNat &&& 0x40 != 0) = true := by simp [hb]
      simp only [c, if_true]
      have e1 : (((b.toNat : Int) - 128) % 128).toNat = b.toNat := by omega
      have e2 : ((b.toNat : Int) - 128) / 128 = -1 := by omega
      rw [e1, e2]
      simp [hb]
  | b :: b2 :: bs, h => by
    have h' := h
    simp only [canonS, Bool.and_eq_true, decide_eq_true_eq] at h
    obtain ⟨⟨hb, hc⟩, hr⟩ := h
    have ih := writeS_ssval (b2 :: bs) hc
    have hsm := ssval_small (b2 :: bs) hc
    have hlt := b.toNat_lt
    rw [writeS]
    simp only [ssval]
    have e1 : ((((b.toNat : Int) - 128) + 128 * ssval (b2 :: bs)) % 128).toNat = b.toNat % 128 := by omega
    have e2 : (((b.toNat : Int) - 128) + 128 * ssval (b2 :: bs)) / 128 = ssval (b2 :: bs) := by omega
    simp only [e1, e2]
    have hnot : ¬ ((ssval (b2 :: bs) = 0 ∧ b.toNat % 128 &&& 0x40 = 0) ∨
        (ssval (b2 :: bs) = -1 ∧ b.toNat % 128 &&& 0x40 ≠ 0)) := by
      have hm : b.toNat % 128 &&& 0x40 = b.toNat &&& 0x40 := by
        have : ∀ n, n < 256 → n % 128 &&& 0x40 = n &&& 0x40 := by decide +kernel
        exact this _ hlt
      rw [hm]
      rintro (⟨z, hbit⟩ | ⟨z, hbit⟩)
      · have e3 := hsm.1 z
        injection e3 with e4 e5
        subst e5
        simp [e4, hbit] at hr
      · have e3 := hsm.2 z
        injection e3 with e4 e5
        subst e5
        simp [e4, hbit] at hr
    simp only [hnot, if_false, ih, ofNat_toNat_sub b hb]

theorem readLeb_written {sg : Bool} {data : List UInt8} {pos : Nat} {v v' : Int} {n : Nat} {w : List UInt8}
    (hw : w = (data.drop pos).take n) (hread : ∀ rest, readLeb sg (w ++ rest) 0 = some (v', w.length))
    (h : readLeb sg data pos = some (v, n)) : v = v' ∧ n ≤ (data.drop pos).length := by
  rw [readLeb_at, ← List.take_append_drop n (data.drop pos), ← hw, hread] at h
  obtain ⟨rfl, hn⟩ := Prod.mk.inj (Option.some.inj h)
  rw [hw, List.length_take] at hn
  exact ⟨rfl, by omega⟩

theorem readLeb_canonU {data : List UInt8} {pos : Nat} {v : Int} {n : Nat}
    (h : readLeb false data pos = some (v, n)) (hc : canonU ((data.drop pos).take n) = true) :
    v = (uval ((data.drop pos).take n) : Int) ∧ writeU (uval ((data.drop pos).take n)) = (data.drop pos).take n
      ∧ n ≤ (data.drop pos).length := by
  have hw := writeU_uval _ hc
  obtain ⟨h1, h2⟩ := readLeb_written hw (readLeb_writeU _) h
  exact ⟨h1, hw, h2⟩

theorem readLeb_canonS {data : List UInt8} {pos : Nat} {v : Int} {n : Nat}
    (h : readLeb true data pos = some (v, n)) (hc : canonS ((data.drop pos).take n) = true) :
    writeS v = (data.drop pos).take n ∧ n ≤ (data.drop pos).length := by
  have hw := writeS_ssval _ hc
  obtain ⟨h1, h2⟩ := readLeb_written hw (readLeb_writeS _) h
  exact ⟨by rw [h1, hw], h2⟩

end Amoco.Leb128
