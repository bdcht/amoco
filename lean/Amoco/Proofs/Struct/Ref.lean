/-
  C16: for fixed-size definitions `unpack` is the reference decoding at the C ABI offsets, and the
  data mask of the instance is the reference mask.
-/
import Amoco.Proofs.Struct.RoundTrip

namespace Amoco.Struct

theorem unpackBits_drop (ps : Nat) (t : Letter) (be : Bool) (names : List String) (sizes : List Nat)
    (data : Bytes) (pos : Nat) :
    unpackBits ps t be names sizes data pos = unpackBits ps t be names sizes (data.drop pos) 0 := by
  unfold unpackBits
  rw [unpackRaw_drop]

theorem roundUp_sub (e a : Nat) (ha : 0 < a) :
    roundUp e a - e = if e % a = 0 then 0 else a - e % a := by
  have := alignTo_eq_roundUp e a ha
  rw [← this]
  unfold alignTo
  have hne : ¬ a = 0 := by omega
  simp only [hne, if_false]
  split <;> omega

theorem assembleS_maskAt (ps : Nat) (packed : Bool) :
    ∀ (fs : List Field) (ms : List (Nat × Nat)) (masks : List Bytes) (rel : Nat),
    fs.map (Field.alignV ps) = ms.map (·.2) → masks.map List.length = ms.map (·.1) → (∀ m ∈ ms, 0 < m.2) →
    assembleS packed (zipAligns ps fs masks) rel = maskAt (placeMembers (packAl packed ms) rel).1 masks rel
  | [], [], _, _, _, _, _ => by simp [zipAligns, assembleS, placeMembers, packAl, maskAt]
  | [], _ :: _, _, _, h, _, _ => by simp at h
  | _ :: _, [], _, _, h, _, _ => by simp at h
  | f :: fs, (s, a) :: ms, [], rel, _, h2, _ => by simp at h2
  | f :: fs, (s, a) :: ms, mk :: masks, rel, h1, h2, hp => by
    simp only [List.map_cons, List.cons.injEq] at h1 h2
    simp only [zipAligns, assembleS_cons, placeMembers_packAl_cons, maskAt, h1.1, h2.1, Bool.not_false,
      Bool.true_and, alignTo_unpacked packed rel (hp (s, a) (by simp)),
      assembleS_maskAt ps packed fs ms masks _ h1.2 h2.2 (fun m hm => hp m (by simp [hm]))]

theorem maskAt_length : ∀ (masks : List Bytes) (e : Nat) (ms : List (Nat × Nat)),
    masks.map List.length = ms.map (·.1) → (∀ m ∈ ms, 0 < m.2) →
    e + (maskAt (placeMembers ms e).1 masks e).length = (placeMembers ms e).2
  | [], e, [], _, _ => by simp [placeMembers, maskAt]
  | [], _, _ :: _, h, _ => by simp at h
  | _ :: _, _, [], h, _ => by simp at h
  | mk :: masks, e, (s, a) :: ms, h1, hp => by
    simp only [List.map_cons, List.cons.injEq] at h1
    have ih := maskAt_length masks (roundUp e a + s) ms h1.2 (fun m hm => hp m (by simp [hm]))
    have := (roundUp_spec e a (hp (s, a) (by simp))).2.1
    simp only [placeMembers, maskAt, List.length_append, zeros_length, h1.1]
    omega

theorem longest_length : ∀ (ms : List Bytes), (longest ms).length = maxList (ms.map List.length)
  | [] => by simp [longest, maxList]
  | m :: ms => by
    have ih := longest_length ms
    simp only [longest, List.map_cons, maxList_cons]
    split <;> omega

theorem refElemMasks_length (m : Bytes) : ∀ k, (refElemMasks m k).length = m.length * k
  | 0 => by simp [refElemMasks]
  | k + 1 => by
    simp only [refElemMasks, List.length_append, refElemMasks_length m k]
    ring

theorem placeMembers_end_ge : ∀ (ms : List (Nat × Nat)) (e : Nat), (∀ m ∈ ms, 0 < m.2) →
    e ≤ (placeMembers ms e).2
  | [], e, _ => by simp [placeMembers]
  | (s, a) :: r, e, hp => by
    have ha : 0 < a := hp (s, a) (by simp)
    have ih := placeMembers_end_ge r (roundUp e a + s) (fun m hm => hp m (by simp [hm]))
    have := (roundUp_spec e a ha).2.1
    simp only [placeMembers]
    omega

-- the statements of the induction `maskLenF`/`maskLenD`/`maskLenFs`: the member masks have the members'
-- sizes, the definition mask has the definition's size
def MaskLenF (ps : Nat) (f : Field) : Prop := ∀ m, refField ps f = some m → (refMaskField ps f).length = m.1
def MaskLenD (ps : Nat) (d : Def) : Prop := ∀ L, refDef ps d = some L → (refMaskDef ps d).length = L.size
def MaskLenFs (ps : Nat) (fs : List Field) : Prop :=
  ∀ ms, refMembers ps fs = some ms → (refMaskFields ps fs).map List.length = ms.map (·.1)

theorem packAl_pos (packed : Bool) (ms : List (Nat × Nat)) (hp : ∀ m ∈ ms, 0 < m.2) :
    ∀ m ∈ packAl packed ms, 0 < m.2 := by
  cases packed
  · exact hp
  · intro m hm
    obtain ⟨m', _, rfl⟩ := List.mem_map.mp hm
    exact Nat.one_pos

theorem packAl_sizes (packed : Bool) (ms : List (Nat × Nat)) : (packAl packed ms).map (·.1) = ms.map (·.1) := by
  cases packed <;> simp [packAl, List.map_map, Function.comp_def]

theorem place_align_pos (isUnion packed : Bool) (ms : List (Nat × Nat)) : 0 < (place isUnion packed ms).align := by
  rw [place_align]; omega

theorem refBody_le (isUnion packed : Bool) (ms : List (Nat × Nat)) (masks : List Bytes)
    (hl : masks.map List.length = ms.map (·.1)) (hp : ∀ m ∈ ms, 0 < m.2) :
    (if isUnion then longest masks else maskAt (place isUnion packed ms).offs masks 0).length
      ≤ (place isUnion packed ms).size := by
  have hal := place_align_pos isUnion packed ms
  rw [place_size]
  have hr := (roundUp_spec (if isUnion then ms.foldl (fun a m => max a m.1) 0
      else (placeMembers (packAl packed ms) 0).2) (place isUnion packed ms).align hal).2.1
  refine Nat.le_trans ?_ hr
  cases isUnion
  · simp only [Bool.false_eq_true, if_false, place_offs]
    have := maskAt_length masks 0 (packAl packed ms) (by rw [packAl_sizes]; exact hl) (packAl_pos packed ms hp)
    omega
  · simp only [if_true]
    rw [longest_length, hl, foldl_max_eq (fun m : Nat × Nat => m.1)]
    omega

mutual
theorem maskLenF (ps : Nat) : (f : Field) → f.modelled ps = true → MaskLenF ps f
  | .raw _ t _ count, _ => by
    intro m h
    cases Option.some.inj h
    simp only [refMaskField]
    split <;> simp [zeros_length, ones_length]
  | .bits t be names sizes, _ => by
    intro m h
    cases Option.some.inj h
    simp [refMaskField, bitsMask_length]
  | .nest _ ty count, hm => by
    intro m h
    obtain ⟨L, hL, rfl⟩ := refField_nest h
    have := maskLenD ps ty (by simpa [Field.modelled] using hm) L hL
    simp only [refMaskField]
    split <;> simp [refElemMasks_length, this]
  | .bitsEx ty names sizes, _ => by
    intro m h
    obtain ⟨L, hL, rfl⟩ := refField_bitsEx h
    simp [refMaskField, hL, bitsMask_length]
  | .var .., _ => by intro m h; cases h
  | .cnt .., _ => by intro m h; cases h
  | .bound .., _ => by intro m h; cases h
  | .leb .., _ => by intro m h; cases h
theorem maskLenD (ps : Nat) : (d : Def) → d.modelled ps = true → MaskLenD ps d
  | .mk kind packed fs, hm => by
    obtain ⟨hmfs, _⟩ := modelled_def hm
    intro L hL
    obtain ⟨ms, hr, rfl⟩ := refDef_some hL
    obtain ⟨_, _, hp⟩ := refMembers_rel (fieldsRel ps fs hmfs) hr
    have hle := refBody_le (kind == Kind.union) packed ms (refMaskFields ps fs) (maskLenFs ps fs hmfs ms hr) hp
    simp only [refMaskDef, hr, List.length_append, zeros_length]
    omega
theorem maskLenFs (ps : Nat) : (fs : List Field) → fieldsModelled ps fs = true → MaskLenFs ps fs
  | [], _ => by
    intro ms h
    cases Option.some.inj h
    rfl
  | f :: fs, hm => by
    obtain ⟨hm1, hm2⟩ := modelled_cons hm
    intro l h
    obtain ⟨m, ms, rfl, hf, hs⟩ := refMembers_cons h
    simp only [refMaskFields, List.map_cons, maskLenF ps f hm1 m hf, maskLenFs ps fs hm2 ms hs]
end

def offsOf (u packed : Bool) (ms : List (Nat × Nat)) (rel : Nat) : List Nat :=
  if u then ms.map (fun _ => rel) else (placeMembers (packAl packed ms) rel).1

theorem offsOf_cons (u packed : Bool) (m : Nat × Nat) (ms : List (Nat × Nat)) (rel : Nat) :
    offsOf u packed (m :: ms) rel
      = (if u then rel else roundUp rel (if packed then 1 else m.2)) ::
          offsOf u packed ms (if u then rel else roundUp rel (if packed then 1 else m.2) + m.1) := by
  unfold offsOf
  cases u
  · simp [placeMembers_packAl_cons]
  · simp

/-- what `fieldRef`/`defRef`/`fieldsRef` prove where the reference gives a fixed size: `unpack` at `pos`
    is the reference decoder on `data.drop pos`, with the reference size and mask and the flag `true`, and
    fails exactly where that decoder does.  `FieldsRef` reads the members at the offsets `offsOf`. -/
def FieldRef (ps : Nat) (data : Bytes) (f : Field) : Prop :=
  ∀ m, refField ps f = some m → ∀ pos ns,
    unpackField ps data pos ns f
      = (refDecodeField ps (data.drop pos) ns f).map (fun v => (v, m.1, refMaskField ps f, true))

def DefRef (ps : Nat) (data : Bytes) (d : Def) : Prop :=
  ∀ L, refDef ps d = some L → ∀ pos,
    unpackDef ps data pos d = (refDecodeDef ps (data.drop pos) d).map (fun v => (v, L.size, refMaskDef ps d, true))

def FieldsRef (ps : Nat) (data : Bytes) (fs : List Field) : Prop :=
  ∀ ms, refMembers ps fs = some ms → ∀ base u packed rel ns,
    (unpackFields ps data base u packed fs rel ns).map (·.1)
        = refDecodeFields ps (data.drop base) fs (offsOf u packed ms rel) ns ∧
    ∀ ns' res, unpackFields ps data base u packed fs rel ns = some (ns', res) →
      res.map (·.2.1) = ms.map (·.1) ∧ res.map (·.2.2.1) = refMaskFields ps fs ∧ (∀ r ∈ res, r.2.2.2 = true)

theorem repeatAt_ref {data : Bytes} {g : Nat → Option (Val × Nat × Bytes × Bool)} {gr : Bytes → Option Val}
    {s : Nat} {mk : Bytes}
    (hg : ∀ p, g p = (gr (data.drop p)).map (fun v => (v, s, mk, true))) :
    ∀ (count pos : Nat),
      repeatAt g (some s) count pos
        = (refElems gr s count (data.drop pos)).map (fun vs => (vs, s * count, refElemMasks mk count, true))
  | 0, pos => by simp [repeatAt, refElems, refElemMasks]
  | k + 1, pos => by
    have ih := repeatAt_ref hg k (pos + s)
    simp only [repeatAt, hg pos, refElems, pickStride, List.drop_drop]
    cases h1 : gr (data.drop pos) with
    | none => simp
    | some v =>
      simp only [Option.map_some, ih]
      cases h2 : refElems gr s k (data.drop (pos + s)) with
      | none => simp
      | some vs =>
        simp only [Option.map_some, refElemMasks, Bool.and_self]
        congr 3
        ring

theorem zipAligns_snd (ps : Nat) : ∀ (fs : List Field) (masks : List Bytes), masks.length = fs.length →
    (zipAligns ps fs masks).map (·.2) = masks
  | [], [], _ => by simp [zipAligns]
  | [], _ :: _, h => by simp at h
  | _ :: _, [], h => by simp at h
  | f :: fs, m :: masks, h => by
    simp only [zipAligns, List.map_cons, zipAligns_snd ps fs masks (by simpa using h)]

theorem refMaskFields_length (ps : Nat) : ∀ fs : List Field, (refMaskFields ps fs).length = fs.length
  | [] => by simp [refMaskFields]
  | _ :: fs => by simp [refMaskFields, refMaskFields_length ps fs]

/-- the aggregate part of the induction: the instance `unpack` builds is the reference instance; its
    length and the length of its mask are known from the round trip -/
theorem agg_ref (ps : Nat) (data : Bytes) (u packed : Bool) (fs : List Field) (kind : Kind)
    (hku : (kind == Kind.union) = u)
    (hud : ∀ pos, unpackDef ps data pos (.mk kind packed fs)
      = finishAgg ps u packed fs (unpackFields ps data pos u packed fs 0 []))
    (hrt : DefRT ps data (.mk kind packed fs)) (hm : (Def.mk kind packed fs).modelled ps = true)
    (hfields : FieldsRef ps data fs) (ms : List (Nat × Nat)) (hr : refMembers ps fs = some ms) (pos : Nat) :
    unpackDef ps data pos (.mk kind packed fs)
      = (match refDecodeFields ps (data.drop pos) fs (place u packed ms).offs [] with
         | some ns => some (Val.inst ns (place u packed ms).size)
         | none => none).map
        (fun v => (v, (place u packed ms).size, refMaskDef ps (.mk kind packed fs), true)) := by
  have hmfs := (modelled_def hm).1
  have hsz := (defRel_some hm (L := place u packed ms) (by simp only [refDef, hr, hku])).1
  obtain ⟨hA, hB⟩ := hfields ms hr pos u packed 0 []
  have hoffs : offsOf u packed ms 0 = (place u packed ms).offs := by rw [place_offs]; rfl
  rw [hoffs] at hA
  have hfin := hud pos
  cases hu : unpackFields ps data pos u packed fs 0 [] with
  | none =>
    rw [hu] at hA hfin
    rw [hfin, ← hA]
    rfl
  | some r =>
    obtain ⟨ns, res⟩ := r
    rw [hu] at hA hfin
    obtain ⟨_, b2, b3⟩ := hB ns res hu
    have hflags : res.all (·.2.2.2) = true := List.all_eq_true.mpr b3
    obtain ⟨_, hml, hn⟩ := hrt pos _ _ _ _ hfin hflags
    have hlen := hn _ hsz
    obtain ⟨_, halv, hp⟩ := refMembers_rel (fieldsRel ps fs hmfs) hr
    have hmask : assemble u packed (if packed then 1 else maxList (alignVs ps fs)) (zipAligns ps fs (res.map (·.2.2.1)))
        = refMaskDef ps (.mk kind packed fs) := by
      rw [assemble_eq, padRes_eq, ← assemble_eq, hml, hlen]
      simp only [refMaskDef, hr, hku, b2]
      cases u
      · simp only [Bool.false_eq_true, if_false, place_offs,
          assembleS_maskAt ps packed fs ms (refMaskFields ps fs) 0 halv (maskLenFs ps fs hmfs ms hr) hp]
      · simp only [if_true, zipAligns_snd ps fs _ (refMaskFields_length ps fs)]
    rw [hfin]
    simp only [finishAgg, ← hA, Option.map_some, hlen, hmask, hflags]

theorem withFlag_map (o : Option (Val × Nat × Bytes)) :
    withFlag true o = o.map (fun r => (r.1, r.2.1, r.2.2, true)) := by
  cases o with
  | none => rfl
  | some r => obtain ⟨a, b, c⟩ := r; rfl

theorem unpackRaw_mask {ps : Nat} {t : Letter} {be : Bool} {count : Nat} {data : Bytes} {pos : Nat}
    {r : Val × Nat × Bytes} (h : unpackRaw ps t be count data pos = some r) :
    r.2.2 = (if t == .x then zeros (cSize ps t * (if count = 0 then 1 else count))
             else ones (cSize ps t * (if count = 0 then 1 else count))) := by
  obtain ⟨_, hsz, hm, _⟩ := unpackRaw_inv h
  rw [hm, hsz, count_or_one, rawSize_eq_cSize]
  simp only [Letter.enc_eq_pad, beq_iff_eq]

mutual
theorem fieldRef (ps : Nat) (data : Bytes) : (f : Field) → f.wf ps = true → f.modelled ps = true → FieldRef ps data f
  | .raw nm t be count, _, _ => by
    intro m hm pos ns
    cases Option.some.inj hm
    simp only [unpackField, refDecodeField, unpackRaw_drop ps t be count data pos, withFlag_map, Option.map_map]
    cases hr : unpackRaw ps t be count (data.drop pos) 0 with
    | none => rfl
    | some r =>
      have h1 := unpackRaw_size hr
      have h2 := unpackRaw_mask hr
      obtain ⟨v, sz, mk⟩ := r
      simp only at h1 h2
      simp only [Option.map_some, Function.comp, refMaskField, h2]
      congr 3
      rw [h1, rawSize_eq_cSize, count_or_one]
  | .bits t be names sizes, _, _ => by
    intro m hm pos ns
    cases Option.some.inj hm
    simp only [unpackField, refDecodeField, unpackBits_drop ps t be names sizes data pos, withFlag_map, Option.map_map]
    cases hr : unpackBits ps t be names sizes (data.drop pos) 0 with
    | none => rfl
    | some r =>
      obtain ⟨v, sz, mk⟩ := r
      obtain ⟨rfl, rfl, _⟩ := unpackBits_inv hr
      simp only [Option.map_some, Function.comp, refMaskField, rawSize_eq_cSize]
  | .var .., _, _ => by intro m hm; cases hm
  | .cnt .., _, _ => by intro m hm; cases hm
  | .bound .., _, _ => by intro m hm; cases hm
  | .leb .., _, _ => by intro m hm; cases hm
  | .nest nm ty count, hwf, hm => by
    have hwt : ty.wf ps = true := by simpa [Field.wf] using hwf
    have hmt : ty.modelled ps = true := by simpa [Field.modelled] using hm
    have ih := defRef ps data ty hwt hmt
    intro m hrf pos ns
    obtain ⟨L, hL, rfl⟩ := refField_nest hrf
    have hs := (defRel_some hmt hL).1
    have ihL := ih L hL
    by_cases hc : count = 0
    · subst hc
      simp only [unpackField, if_true, ihL pos, hs, refDecodeField, refMaskField, Nat.mul_one]
      cases refDecodeDef ps (data.drop pos) ty <;> rfl
    · have hrep := repeatAt_ref (data := data) (g := fun p => unpackDef ps data p ty)
        (gr := fun b => refDecodeDef ps b ty) (s := L.size) (mk := refMaskDef ps ty) (fun p => ihL p) count pos
      simp only [unpackField, hc, if_false, hs, hrep, refDecodeField, hL, refMaskField]
      cases refElems (fun b => refDecodeDef ps b ty) L.size count (data.drop pos) <;> rfl
  | .bitsEx ty names sizes, hwf, hm => by
    have hwt : ty.wf ps = true := by
      simp only [Field.wf, Bool.and_eq_true] at hwf
      exact hwf.1.1.1
    have hmt : ty.modelled ps = true := by
      simp only [Field.modelled, Bool.and_eq_true] at hm
      exact hm.1
    have ih := defRef ps data ty hwt hmt
    intro m hrf pos ns
    obtain ⟨L, hL, rfl⟩ := refField_bitsEx hrf
    simp only [unpackField, ih L hL pos, refDecodeField, refMaskField, hL]
    cases hd : refDecodeDef ps (data.drop pos) ty with
    | none => rfl
    | some v => cases v <;> simp [(defRel_some hmt hL).1]
theorem defRef (ps : Nat) (data : Bytes) : (d : Def) → d.wf ps = true → d.modelled ps = true → DefRef ps data d
  | .mk kind packed fs, hwf, hm => by
    obtain ⟨hwfs, _, htd⟩ := wf_def hwf
    have hmfs := (modelled_def hm).1
    have ihs := fieldsRef ps data fs hwfs hmfs
    have hrt := defRT ps data _ hwf hm
    intro L hL pos
    obtain ⟨ms, hr, rfl⟩ := refDef_some hL
    cases kind with
    | struct =>
      simp only [refDecodeDef, hr]
      exact agg_ref ps data false packed fs Kind.struct rfl (fun _ => rfl) hrt hm ihs ms hr pos
    | union =>
      simp only [refDecodeDef, hr]
      exact agg_ref ps data true packed fs Kind.union rfl (fun _ => rfl) hrt hm ihs ms hr pos
    | typedef =>
      obtain ⟨rfl, hshape⟩ := htd rfl
      match fs, hshape, hwfs, hmfs, hm, hrt, hL, hr with
      | [], hshape, _, _, _, _, _, _ => simp [typedefShape] at hshape
      | _ :: _ :: _, hshape, _, _, _, _, _, _ => simp [typedefShape] at hshape
      | [f], _, hwfs, hmfs, hm, hrt, hL, hr =>
        have ihf := fieldRef ps data f (wf_cons hwfs).1 (modelled_cons hmfs).1
        obtain ⟨m, ms', rfl, hf, hs'⟩ := refMembers_cons hr
        cases Option.some.inj hs'
        have hlen := maskLenF ps f (modelled_cons hmfs).1 m hf
        -- a typedef reads its member at offset 0; the round trip gives the length of the result
        have hud : unpackDef ps data pos (.mk .typedef false [f]) = finishTypedef false (f.alignV ps)
            ((refDecodeField ps (data.drop pos) [] f).map fun v => (v, m.1, refMaskField ps f, true)) := by
          simp only [unpackDef, alignVs_single, ihf m hf pos [], Bool.false_eq_true, if_false]
        rw [hud]
        simp only [refDecodeDef, hr]
        cases hd : refDecodeField ps (data.drop pos) [] f with
        | none => rfl
        | some v =>
          rw [hd] at hud
          obtain ⟨_, _, hn⟩ := hrt pos _ _ _ _ hud rfl
          have hoff : (place false false [m]).offs = [0] := by
            simp only [place_offs, Bool.false_eq_true, if_false, packAl, placeMembers, roundUp_zero]
          simp only [Option.map_some, finishTypedef, hn _ (defRel_some hm hL).1, refMaskDef, hr, hoff,
            refMaskFields, maskAt, Nat.sub_self, zeros, List.replicate_zero, List.nil_append, List.append_nil, hlen,
            show (Kind.typedef == Kind.union) = false from rfl, Bool.false_eq_true, if_false]
theorem fieldsRef (ps : Nat) (data : Bytes) : (fs : List Field) → fieldsWf ps fs = true → fieldsModelled ps fs = true →
    FieldsRef ps data fs
  | [], _, _ => by
    intro ms hr base u packed rel ns
    simp only [refMembers, Option.some.injEq] at hr
    subst hr
    refine ⟨by simp [unpackFields, refDecodeFields], ?_⟩
    intro ns' res h
    simp only [unpackFields, Option.some.injEq, Prod.mk.injEq] at h
    obtain ⟨_, rfl⟩ := h
    simp [refMaskFields]
  | f :: fs, hwf, hm => by
    obtain ⟨hwf1, hwf2⟩ := wf_cons hwf
    obtain ⟨hm1, hm2⟩ := modelled_cons hm
    have ihf := fieldRef ps data f hwf1 hm1
    have ihs := fieldsRef ps data fs hwf2 hm2
    intro l hr base u packed rel ns
    obtain ⟨m, ms, rfl, hf, hs⟩ := refMembers_cons hr
    have hpos := (fieldRel ps f hm1).1
    have hal := (fieldRel_some hm1 hf).2
    have hrel1 : (if (!u && !packed) = true then alignTo rel (f.alignV ps) else rel)
        = (if u then rel else roundUp rel (if packed then 1 else m.2)) := by
      cases u
      · simpa [hal] using alignTo_unpacked packed rel hpos
      · rfl
    rw [offsOf_cons]
    unfold unpackFields
    simp only [hrel1, ihf m hf, refDecodeFields, List.drop_drop]
    cases hd : refDecodeField ps (data.drop (base + if u then rel else roundUp rel (if packed then 1 else m.2))) ns f with
    | none => simp
    | some v =>
      simp only [Option.map_some]
      have hrel2 : (if u = true then (if u then rel else roundUp rel (if packed then 1 else m.2))
            else (if u then rel else roundUp rel (if packed then 1 else m.2)) + m.1)
          = (if u then rel else roundUp rel (if packed then 1 else m.2) + m.1) := by
        cases u <;> simp
      rw [hrel2]
      obtain ⟨iA, iB⟩ := ihs ms hs base u packed
        (if u then rel else roundUp rel (if packed then 1 else m.2) + m.1) (store f v ns)
      cases hu : unpackFields ps data base u packed fs
        (if u then rel else roundUp rel (if packed then 1 else m.2) + m.1) (store f v ns) with
      | none =>
        rw [hu] at iA
        exact ⟨iA, fun _ _ h => nomatch h⟩
      | some r =>
        obtain ⟨ns2, res'⟩ := r
        rw [hu] at iA
        obtain ⟨j1, j2, j3⟩ := iB ns2 res' hu
        refine ⟨iA, fun ns' res h => ?_⟩
        cases Option.some.inj h
        exact ⟨by simp [j1], by simp [refMaskFields, j2], List.forall_mem_cons.mpr ⟨rfl, j3⟩⟩
end

end Amoco.Struct
