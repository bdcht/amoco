/-
  C06, x86 half: the helper models of `Model/Flags.lean` in the form the reference semantics of
  `Model/X86Sem.lean` uses; the carry / overflow / parity facts themselves are in `Proofs/Rv.lean`.
-/
import Amoco.Model.X86Sem
import Amoco.Proofs.Rv

namespace Amoco.X86Sem
open Amoco.Flags

theorem awc_res_eq {n} (x y : BitVec n) (c : Bool) :
    (addWithCarry x y c).res = x + y + BitVec.ofNat n c.toNat := by
  simp [addWithCarry, cin_eq]

theorem swb_res_eq {n} (x y : BitVec n) (c : Bool) :
    (subWithBorrow x y c).res = x - y - BitVec.ofNat n c.toNat := by
  simp [subWithBorrow, cin_eq]

/-- the SDM's ADD/ADC is `AddWithCarry` with `halfcarry` and `parity8`; SUB/SBB likewise below -/
theorem refAdd_eq {k : Nat} (a b : BitVec (k + 1)) (c : Bool) :
    refAdd a b c =
      { res := some (addWithCarry a b c).res, cf := .set (addWithCarry a b c).carry,
        of := .set (addWithCarry a b c).overflow, af := .set (halfcarry a b c),
        zf := .set ((addWithCarry a b c).res == 0), sf := .set (addWithCarry a b c).res.msb,
        pf := .set (parity8 ((addWithCarry a b c).res.setWidth 8)) } := by
  simp only [refAdd, sovf, awc_res_eq, awc_carry, awc_overflow, halfcarry_eq, parity8_even, Nat.add_sub_cancel]

theorem refSub_eq {k : Nat} (a b : BitVec (k + 1)) (c : Bool) :
    refSub a b c =
      { res := some (subWithBorrow a b c).res, cf := .set (subWithBorrow a b c).carry,
        of := .set (subWithBorrow a b c).overflow, af := .set (halfborrow a b c),
        zf := .set ((subWithBorrow a b c).res == 0), sf := .set (subWithBorrow a b c).res.msb,
        pf := .set (parity8 ((subWithBorrow a b c).res.setWidth 8)) } := by
  simp only [refSub, sovf, swb_res_eq, swb_carry, swb_overflow, halfborrow_eq, parity8_even, Nat.add_sub_cancel]

theorem mem_allMn (m : Mn) : m ∈ allMn := by cases m <;> decide

end Amoco.X86Sem
