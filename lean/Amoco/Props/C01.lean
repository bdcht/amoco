/-
  C01 — Expression algebra preserves bit-vector meaning.

  Property theorems about the executable model Amoco.Model.{Expr,Render,Simplify,Eval} of
  `cas/expressions.py`.  Values are natural numbers with an explicit width; `binSem o signed w a b` /
  `unSem o w a` (Amoco.Model.Eval) are the reference two's-complement meanings of the operators,
  `bitsOf a p s` the slice `a[p:p+s]`, `cat a wa b` the composition `{ [0:wa]→a | [wa:…]→b }`.

  One soundness lemma per rewrite rule, for all widths and operand values; constant folding per operator
  (`fold_*`); `eval_sound` for any well-formed tree; `simplify_sound` and the other entry points on the
  sign-agnostic fragment `Plain`.  What is outside that fragment is listed at `simplify_sound_partial`;
  rotations and `top` results are in Props/C01Ext.lean.
-/
import Amoco.Proofs.ExprSoundSimp

namespace Amoco.C01

open Amoco Amoco.Expr Amoco.Bits

/-! ## rules of `eqn2_helpers` with a constant right operand -/

/-- *mask_to_slice*: `(l & mask[i1..i2]) ⇒ { [0:i1]→0 | [i1:i2+1]→l[i1:i2+1] | [i2+1:w]→0 }` -/
theorem mask_to_slice (a i1 i2 : Nat) (h : i1 ≤ i2) :
    a &&& maskOf i1 i2 = (bitsOf a i1 (i2 + 1 - i1)) <<< i1 := Bits.mask_to_slice a i1 i2 h

/-- what `maskBounds` (the model of `ismask(v)` / `get_lsb_msb(v)`) accepts is a contiguous mask, with these bounds -/
theorem maskBounds_sound (v : Int) (i1 i2 : Nat) (h : maskBounds v = some (i1, i2)) :
    0 < v ∧ v.toNat = maskOf i1 i2 := Frag.maskBounds_sound v i1 i2 h

/-- *shl_to_comp*: `(l << n) ⇒ { [0:n]→0 | [n:w]→l[0:w-n] }` for a constant `n ≤ w` -/
theorem shl_to_comp (a w n : Nat) (h : n ≤ w) : binSem Op.lsl false w a n = if n = w then 0 else (bitsOf a 0 (w - n)) <<< n := by
  simp only [binSem]
  by_cases hn : n = w
  · subst hn; simp
  · have : ¬ n ≥ w := by omega
    simp only [this, hn, if_false]
    exact Bits.shl_to_comp a w n h

/-- *shr_to_comp*: `(l >> n) ⇒ { [0:w-n]→l[n:w] | [w-n:w]→0 }` -/
theorem shr_to_comp (a w n : Nat) (ha : a < 2 ^ w) : binSem Op.lsr false w a n = bitsOf a n (w - n) :=
  Bits.shr_to_comp a w n ha

/-- shifts by the width or more: `(l << n) ⇒ 0`, `(l >> n) ⇒ 0` (`eqn2_helpers` since `fix: eqn2_helpers rewrite
    rules preserve meaning and width`, the `cst` shifts since `fix: constant shifts take the amount as an unsigned
    number …`; before, the rule raised on the empty slice) -/
theorem shift_ge_width (a w n : Nat) (ha : a < 2 ^ w) (h : w ≤ n) :
    binSem Op.lsl false w a n = 0 ∧ binSem Op.lsr false w a n = 0 := by
  refine ⟨?_, Bits.shr_ge_width a w n ha h⟩
  simp [binSem, h]

/-- arithmetic shift by the width or more gives the sign fill -/
theorem asr_ge_width (a w n : Nat) (ha : a < 2 ^ w) (h : w ≤ n) (sg : Bool) :
    binSem Op.asr sg w a n = if a.testBit (w - 1) then 2 ^ w - 1 else 0 := Bits.asr_ge_width a w n ha h sg

/-- `(l op 0) ⇒ l` for `| ^ + - >> <<` -/
theorem op_zero_right (o : Op) (ho : o = Op.or ∨ o = Op.xor ∨ o = Op.add ∨ o = Op.sub ∨ o = Op.lsr ∨ o = Op.lsl)
    (sg : Bool) (w a : Nat) (h : a < 2 ^ w) (hw : 0 < w) : binSem o sg w a 0 = a :=
  Bits.op_zero_right o ho sg w a h hw

/-- `(l op 0) ⇒ 0` for `& *` (`**`: `mul2_zero`) -/
theorem op_zero_absorb (o : Op) (ho : o = Op.and ∨ o = Op.mul) (sg : Bool) (w a : Nat) : binSem o sg w a 0 = 0 :=
  Bits.op_zero_absorb o ho sg w a

theorem mul2_zero (sg : Bool) (w a : Nat) : binSem Op.mul2 sg w a 0 = 0 := Bits.mul2_zero sg w a

/-- `(l * 1) ⇒ l`, `(l / 1) ⇒ l` -/
theorem mul_one (sg : Bool) (w a : Nat) (h : a < 2 ^ w) : binSem Op.mul sg w a 1 = a := Bits.mul_one sg w a h
theorem div_one (w a : Nat) (h : a < 2 ^ w) : binSem Op.div false w a 1 = a := Bits.div_one_unsigned w a h

/-- the rule `(l ** 1) ⇒ l.extend(l.sf, 2w)` of `eqn2_helpers`: the widening product with 1 is the extension of `l`
    (zero extension for the unsigned reading, sign extension for the signed one); before `fix: eqn2_helpers rewrite
    rules preserve meaning and width` the rule returned `l` itself, `w` bits wide (C12) -/
theorem mul2_one (w a : Nat) (h : a < 2 ^ w) (hw : 0 < w) :
    binSem Op.mul2 false w a 1 = cat a w 0 ∧
    (1 < w → binSem Op.mul2 true w a 1 = cat a w (if a.testBit (w - 1) then 2 ^ w - 1 else 0)) := by
  constructor
  · simp only [binSem, Nat.mul_one, zext_value]
    apply Nat.mod_eq_of_lt
    calc a < 2 ^ w := h
      _ ≤ 2 ^ (2 * w) := Nat.pow_le_pow_right (by decide) (by omega)
  · intro hw1
    rw [sext_value a w w h]
    simp only [binSem]
    have : toInt w 1 = 1 := by
      unfold toInt
      have : (1 : Nat).testBit (w - 1) = false := testBit_of_lt 1 1 _ (by decide) (by omega)
      simp [this]
    rw [this, Int.mul_one, Nat.two_mul]
    simp

/-- *reassoc_pm (left)*: `((a lo c) o r) ⇒ ((a o r) lo c)` for `o, lo ∈ {+,-}` -/
theorem reassoc_pm_left (o lo : Op) (ho : o = Op.add ∨ o = Op.sub) (hlo : lo = Op.add ∨ lo = Op.sub)
    (sg1 sg2 sg3 sg4 : Bool) (w a c r : Nat) :
    binSem o sg1 w (binSem lo sg2 w a c) r = binSem lo sg3 w (binSem o sg4 w a r) c :=
  Bits.reassoc_pm_left o lo ho hlo sg1 sg2 sg3 sg4 w a c r

/-- *reassoc_pm (right)*: `(l o (a ro c)) ⇒ ((l o a) (o·ro) c)` -/
theorem reassoc_pm_right (o ro x : Op) (hx : Op.pm o ro = some x) (sg1 sg2 sg3 sg4 : Bool) (w l a c : Nat) :
    binSem o sg1 w l (binSem ro sg2 w a c) = binSem x sg3 w (binSem o sg4 w l a) c :=
  Bits.reassoc_pm_right o ro x hx sg1 sg2 sg3 sg4 w l a c

/-- *merge_consts*: `((a lo c2) o c1) ⇒ (a lo (c2 (o·lo) c1))` -/
theorem merge_consts (o lo x : Op) (hx : Op.pm o lo = some x) (sg1 sg2 sg3 sg4 : Bool) (w a c2 c1 : Nat) :
    binSem o sg1 w (binSem lo sg2 w a c2) c1 = binSem lo sg3 w a (binSem x sg4 w c2 c1) :=
  Bits.merge_consts o lo x hx sg1 sg2 sg3 sg4 w a c2 c1

/-- `(l + (-r)) ⇒ (l - r)` -/
theorem add_neg_to_sub (sg : Bool) (w l r : Nat) :
    binSem Op.add sg w l (unSem Op.sub w r) = binSem Op.sub sg w l r := Bits.add_neg_to_sub sg w l r

/-- operand order of `-` in `op.simplify`: `(l - r) ⇒ ((-r) + l)` -/
theorem sub_swap (sg1 sg2 : Bool) (w l r : Nat) :
    binSem Op.sub sg1 w l r = binSem Op.add sg2 w (unSem Op.sub w r) l := Bits.sub_swap sg1 sg2 w l r

/-- operand order of the commutative operators (`l._is_cst` pushed right, lexical order of symbols) -/
theorem comm_swap (o : Op) (ho : o = Op.add ∨ o = Op.mul ∨ o = Op.and ∨ o = Op.or ∨ o = Op.xor) (sg1 sg2 : Bool) (w a b : Nat) :
    binSem o sg1 w a b = binSem o sg2 w b a := Frag.comm_swap o ho sg1 sg2 w a b

/-- the widening multiply commutes when both operands carry the same declared signedness -/
theorem mul2_comm (sg : Bool) (w a b : Nat) : binSem Op.mul2 sg w a b = binSem Op.mul2 sg w b a := by
  simp only [binSem]; rw [Nat.mul_comm a b, Int.mul_comm]

/-! ## rules of `eqn1_helpers` -/

/-- *neg_of_sum*: `-(a ro b) ⇒ ((-a) (−·ro) b)` -/
theorem neg_of_sum (ro x : Op) (hx : Op.pm Op.sub ro = some x) (sg1 sg2 : Bool) (w a b : Nat) :
    unSem Op.sub w (binSem ro sg1 w a b) = binSem x sg2 w (unSem Op.sub w a) b :=
  Bits.neg_of_sum ro x hx sg1 sg2 w a b

/-- `-(-x) ⇒ x` -/
theorem neg_neg (w a : Nat) (h : a < 2 ^ w) : unSem Op.sub w (unSem Op.sub w a) = a := Bits.neg_neg w a h

/-- *not_cond*: `~(a o b) ⇒ (a notop(o) b)`, for either declared reading of the ordered comparisons -/
theorem not_cond (o o' : Op) (h : notop o = some o') (sg : Bool) (w a b : Nat) :
    unSem Op.not 1 (binSem o sg w a b) = binSem o' sg w a b := Bits.not_cond o o' h sg w a b

/-- *eq_bit*: `(c == 1) ⇒ c`, `(c == 0) ⇒ ~c`, `(c != 1) ⇒ ~c`, `(c != 0) ⇒ c` (`eqn2_helpers`) -/
theorem eq_bit (sg : Bool) (c : Nat) (h : c < 2) :
    binSem Op.eq sg 1 c 1 = c ∧ binSem Op.eq sg 1 c 0 = unSem Op.not 1 c ∧
    binSem Op.neq sg 1 c 1 = unSem Op.not 1 c ∧ binSem Op.neq sg 1 c 0 = c :=
  Bits.eq_bit sg c h

/-- before `fix: eqn2_helpers rewrite rules preserve meaning and width`, `eqn2_helpers` rewrote `(c != 0)` to `~c`:
    wrong for both values of `c` -/
theorem neq_bit0_unfixed_is_wrong (sg : Bool) (c : Nat) (h : c < 2) : binSem Op.neq sg 1 c 0 ≠ unSem Op.not 1 c := by
  have : c = 0 ∨ c = 1 := by omega
  rcases this with rfl | rfl <;> simp [binSem, unSem, b2n]

/-- *x_op_x*: operands with the same meaning -/
theorem x_op_x (sg : Bool) (w a : Nat) :
    binSem Op.sub sg w a a = 0 ∧ binSem Op.xor sg w a a = 0 ∧ binSem Op.and sg w a a = a ∧ binSem Op.or sg w a a = a ∧
    binSem Op.neq sg w a a = 0 ∧ binSem Op.lt sg w a a = 0 ∧ binSem Op.gt sg w a a = 0 ∧
    binSem Op.eq sg w a a = 1 ∧ binSem Op.le sg w a a = 1 ∧ binSem Op.ge sg w a a = 1 :=
  ⟨x_sub_x sg w a, x_xor_x sg w a, x_and_x sg w a, x_or_x sg w a,
   x_cmp_x_false _ (Or.inl rfl) sg w a, x_cmp_x_false _ (Or.inr (Or.inl rfl)) sg w a, x_cmp_x_false _ (Or.inr (Or.inr rfl)) sg w a,
   x_cmp_x_true _ (Or.inl rfl) sg w a, x_cmp_x_true _ (Or.inr (Or.inl rfl)) sg w a, x_cmp_x_true _ (Or.inr (Or.inr rfl)) sg w a⟩

/-- *slice-of-slice* (`slc.__getitem__`, `slc.__init__` on a slice) -/
theorem slice_of_slice (a p s q t : Nat) (h : q + t ≤ s) : bitsOf (bitsOf a p s) q t = bitsOf a (p + q) t :=
  Bits.slice_of_slice a p s q t h

/-- *slice-of-comp* (`comp.__getitem__`): a slice inside the low / the high part -/
theorem slice_of_comp (a wa b p s : Nat) (ha : a < 2 ^ wa) :
    (p + s ≤ wa → bitsOf (cat a wa b) p s = bitsOf a p s) ∧ (wa ≤ p → bitsOf (cat a wa b) p s = bitsOf b (p - wa) s) :=
  ⟨slice_cat_low a wa b p s ha, slice_cat_high a wa b p s ha⟩

/-- *comp merge of adjacent constants* (`restruct`): the merged constant has the two constants as its slices -/
theorem comp_merge (a wa b wb : Nat) (ha : a < 2 ^ wa) (hb : b < 2 ^ wb) :
    bitsOf (cat a wa b) 0 wa = a ∧ bitsOf (cat a wa b) wa wb = b ∧ cat a wa b < 2 ^ (wa + wb) :=
  ⟨cat_low a wa b ha, cat_high a wa b wb ha hb, cat_lt a wa b wb ha hb⟩

/-- *comp cut*: splitting a part in two at any position keeps its value -/
theorem comp_cut (a k : Nat) : cat (bitsOf a 0 k) k (a >>> k) = a := Bits.cat_split a k

/-- slices distribute over the logic operators and low slices over `+` (`slc.simplify` on an `op`) -/
theorem slice_logic (a b p s : Nat) :
    bitsOf (a &&& b) p s = bitsOf a p s &&& bitsOf b p s ∧ bitsOf (a ||| b) p s = bitsOf a p s ||| bitsOf b p s ∧
    bitsOf (a ^^^ b) p s = bitsOf a p s ^^^ bitsOf b p s := ⟨slice_and a b p s, slice_or a b p s, slice_xor a b p s⟩

theorem slice_add_low (a b w s : Nat) (h : s ≤ w) :
    bitsOf ((a + b) % 2 ^ w) 0 s = (bitsOf a 0 s + bitsOf b 0 s) % 2 ^ s := Bits.slice_add_low a b w s h

/-- *zero / sign extension*: `{ [0:w]→a | [w:n]→0 }` is `a`; `{ [0:w]→a | [w:n]→(a[w-1] ? -1 : 0) }` is the
    two's complement of the signed reading of `a` on `n` bits -/
theorem extension (a w xt : Nat) (ha : a < 2 ^ w) :
    cat a w 0 = a ∧ cat a w (if a.testBit (w - 1) then 2 ^ xt - 1 else 0) = wrap (w + xt) (toInt w a) :=
  ⟨zext_value a w, sext_value a w xt ha⟩

/-- *tst* rules: equal branches make the condition irrelevant (constant conditions select by definition) -/
theorem tst_same (c a : Nat) : (if c % 2 = 1 then a else a) = a := Bits.tst_same c a

/-- *bitslice*: a logic operator acts bit by bit -/
theorem bitslice_logic (a b i : Nat) :
    bitsOf (a &&& b) i 1 = bitsOf a i 1 &&& bitsOf b i 1 ∧ bitsOf (a ||| b) i 1 = bitsOf a i 1 ||| bitsOf b i 1 ∧
    bitsOf (a ^^^ b) i 1 = bitsOf a i 1 ^^^ bitsOf b i 1 := ⟨slice_and a b i 1, slice_or a b i 1, slice_xor a b i 1⟩

/-! ## constant folding: the `cst` operator table computes the reference meaning (`cstOut` = `(value, size)`) -/

theorem fold_add (lv ls : Nat) (lf : Bool) (rv : Nat) (rf sg : Bool) (hl : lv < 2 ^ ls) (hr : rv < 2 ^ ls) :
    cstOut (cstApi Op.add lv ls lf rv ls rf) = some (binSem Op.add sg ls lv rv, ls) := cst_add lv ls lf rv rf sg hl hr
theorem fold_sub (lv ls : Nat) (lf : Bool) (rv : Nat) (rf sg : Bool) (hl : lv < 2 ^ ls) (hr : rv < 2 ^ ls) :
    cstOut (cstApi Op.sub lv ls lf rv ls rf) = some (binSem Op.sub sg ls lv rv, ls) := cst_sub lv ls lf rv rf sg hl hr
theorem fold_mul (lv ls : Nat) (lf : Bool) (rv : Nat) (rf sg : Bool) (hl : lv < 2 ^ ls) (hr : rv < 2 ^ ls) :
    cstOut (cstApi Op.mul lv ls lf rv ls rf) = some (binSem Op.mul sg ls lv rv, ls) := cst_mul lv ls lf rv rf sg hl hr
/-- widening multiply, `/`, `%`, ordered comparisons: for operands with ONE declared signedness -/
theorem fold_mul2 (lv ls rv : Nat) (sg : Bool) :
    cstOut (cstApi Op.mul2 lv ls sg rv ls sg) = some (binSem Op.mul2 sg ls lv rv, 2 * ls) := cst_mul2 lv ls rv sg
theorem fold_div (lv ls rv : Nat) (sg : Bool) (hl : lv < 2 ^ ls) (h0 : cstValue rv ls sg ≠ 0) :
    cstOut (cstApi Op.div lv ls sg rv ls sg) = some (binSem Op.div sg ls lv rv, ls) := cst_div lv ls rv sg h0
theorem fold_mod (lv ls rv : Nat) (sg : Bool) (hl : lv < 2 ^ ls) (h0 : cstValue rv ls sg ≠ 0) :
    cstOut (cstApi Op.mod lv ls sg rv ls sg) = some (binSem Op.mod sg ls lv rv, ls) := cst_mod lv ls rv sg h0
theorem fold_cmp (o : Op) (ho : o = Op.lt ∨ o = Op.le ∨ o = Op.ge ∨ o = Op.gt) (lv ls rv : Nat) (sg : Bool) :
    cstOut (cstApi o lv ls sg rv ls sg) = some (binSem o sg ls lv rv, 1) := cst_cmp o ho lv ls rv sg
theorem fold_and (lv ls : Nat) (lf : Bool) (rv : Nat) (rf sg : Bool) (hl : lv < 2 ^ ls) :
    cstOut (cstApi Op.and lv ls lf rv ls rf) = some (binSem Op.and sg ls lv rv, ls) := cst_and lv ls lf rv rf sg hl
theorem fold_or (lv ls : Nat) (lf : Bool) (rv : Nat) (rf sg : Bool) (hl : lv < 2 ^ ls) (hr : rv < 2 ^ ls) :
    cstOut (cstApi Op.or lv ls lf rv ls rf) = some (binSem Op.or sg ls lv rv, ls) := cst_or lv ls lf rv rf sg hl hr
theorem fold_xor (lv ls : Nat) (lf : Bool) (rv : Nat) (rf sg : Bool) (hl : lv < 2 ^ ls) (hr : rv < 2 ^ ls) :
    cstOut (cstApi Op.xor lv ls lf rv ls rf) = some (binSem Op.xor sg ls lv rv, ls) := cst_xor lv ls lf rv rf sg hl hr
/-- shifts of constants by ANY amount (amount of any width, read unsigned) -/
theorem fold_lsl (lv ls : Nat) (lf : Bool) (rv rs : Nat) (rf sg : Bool) (hl : lv < 2 ^ ls) :
    cstOut (cstApi Op.lsl lv ls lf rv rs rf) = some (binSem Op.lsl sg ls lv rv, ls) := cst_lsl lv ls lf rv rs rf sg hl
theorem fold_lsr (lv ls rv rs : Nat) (rf sg : Bool) (hl : lv < 2 ^ ls) :
    cstOut (cstApi Op.lsr lv ls false rv rs rf) = some (binSem Op.lsr sg ls lv rv, ls) := cst_lsr lv ls rv rs rf sg hl
theorem fold_asr (lv ls rv rs : Nat) (rf sg : Bool) :
    cstOut (cstApi Op.asr lv ls true rv rs rf) = some (binSem Op.asr sg ls lv rv, ls) := cst_asr lv ls rv rs rf sg
theorem fold_eq (lv ls : Nat) (lf : Bool) (rv : Nat) (rf sg : Bool) :
    cstOut (cstApi Op.eq lv ls lf rv ls rf) = some (binSem Op.eq sg ls lv rv, 1) := cst_eq lv ls lf rv rf sg
theorem fold_neq (lv ls : Nat) (lf : Bool) (rv : Nat) (rf sg : Bool) :
    cstOut (cstApi Op.neq lv ls lf rv ls rf) = some (binSem Op.neq sg ls lv rv, 1) := cst_neq lv ls lf rv rf sg
/-- the explicitly unsigned comparisons: `ltu` / `geu` clear both sign flags before comparing -/
theorem fold_ltu (lv ls rv : Nat) (sg : Bool) :
    cstOut (cstApi Op.lt lv ls false rv ls false) = some (binSem Op.ltu sg ls lv rv, 1) := cst_ltu lv ls rv sg
theorem fold_geu (lv ls rv : Nat) (sg : Bool) :
    cstOut (cstApi Op.ge lv ls false rv ls false) = some (binSem Op.geu sg ls lv rv, 1) := cst_geu lv ls rv sg
/-- before `fix: ltu/geu on constants compare unsigned`, `ltu` set both sign flags: `0x80000000 <. 1` evaluated to 1 -/
theorem ltu_unfixed_is_wrong :
    cstOut (cstApi Op.lt 0x80000000 32 true 1 32 true) ≠ some (binSem Op.ltu false 32 0x80000000 1, 1) :=
  ltu_signed_is_wrong
theorem fold_neg (v s : Nat) (f : Bool) (h : v < 2 ^ s) : wrap s (-(cstValue v s f)) = unSem Op.sub s v := cst_neg v s f h
theorem fold_not (v s : Nat) (h : v < 2 ^ s) : wrap s ((mask s - v % 2 ^ s : Nat) : Int) = unSem Op.not s v := cst_not v s
/-- rotations of a constant by a constant amount (amount reduced modulo the width) -/
theorem fold_ror (a w n : Nat) (ha : a < 2 ^ w) :
    ((a >>> (n % w)) ||| ((a <<< (w - n % w)) % 2 ^ w)) = binSem Op.ror false w a n := ror_formula a w n ha
theorem fold_rol (a w n : Nat) (ha : a < 2 ^ w) :
    (((a <<< (n % w)) % 2 ^ w) ||| (a >>> (w - n % w))) = binSem Op.rol false w a n := rol_formula a w n ha

/-- **eval_sound**.  `e` well-formed, built from constants and registers that `env` binds to constants
    (`Ground`), every sign-dependent operator applied to operands of one declared signedness (`SignOK`):
    if `eval` returns at all (it raises on division by zero) it returns the constant whose value is the ideal
    value of `e` under the valuation `env` stands for, and whose width is the width of `e`.
    For every fuel and every complexity oracle. -/
theorem eval_sound (cfg : Cfg) (fuel : Nat) (env : Env) (henv : EnvOK env) (e r : Expr)
    (he : WF e) (hg : Ground env e) (hs : SignOK e) (h : eval cfg fuel env e = .ok r) :
    ∃ f, r = .cst (ideal (envVal env) e) e.size f ∧ ideal (envVal env) e < 2 ^ e.size :=
  let ⟨f, h1, h2, _⟩ := eval_const cfg env henv fuel e r he hg hs h
  ⟨f, h1, h2⟩

/-- what `_operator.__call__` returns on two constants is the reference meaning of the operator (every
    operator, incl. `<. >=. >>> <<<` and shifts by any amount), read with the signedness both operands carry -/
theorem operator_on_constants (cfg : Cfg) (fuel : Nat) (o : Op) (lv ls : Nat) (lf : Bool) (rv rs : Nat) (rf sg : Bool)
    (res : Expr) (hl : lv < 2 ^ ls) (hr : rv < 2 ^ rs) (hls : 0 < ls) (hsz : o.type ≠ 8 → ls = rs)
    (hsd : signDep o = true → cstValue lv ls lf = reading sg ls lv ∧ cstValue rv rs rf = reading sg rs rv)
    (h : callOp cfg fuel o (.cst lv ls lf) (.cst rv rs rf) = .ok res) :
    ∃ f, res = .cst (binSem o sg ls lv rv) (if o.type = 4 then 1 else if o = Op.mul2 then 2 * ls else ls) f :=
  callOp_cst_sound cfg fuel o lv ls lf rv rs rf sg res hl hr hls hsz hsd h

/-- a tiled composition of constants is merged by `restruct` into ONE constant: its value is the composition -/
theorem comp_of_constants (ρ : Val) (n k : Nat) (ps : List Part) (hl : ps.length = k + 1) (ht : Tiles n ps)
    (hw : ∀ p ∈ ps, WF p.2.2) (hc : AllCst ps) (hn : 0 < n) :
    ∃ v f, restruct ps = [(0, n, .cst v n f)] ∧ v < 2 ^ n ∧ v = idealParts ρ ps := by
  obtain ⟨v, f, h1, h2, h3⟩ := restruct_allcst ρ n k ps hl ht hw hc hn
  exact ⟨v, f, by unfold restruct; rw [hl]; exact h1, h2, h3⟩

/-- `NoRenderClash ρ`: the simplifier decides `x op x`, the comparison shortcuts and the equality of `tst`
    branches by comparing renderings (`str(l) == str(r)`) or `hash(str)+size` (`exp.__eq__`).  The hypothesis:
    under `ρ`, two well-formed `Plain` expressions of one size that render alike (or are `exp.__eq__`-equal) have
    the same value.  (It fails e.g. for a register *named* `"(a+0x1)"` whose value is not `a+1`.) -/
abbrev NoRenderClash (ρ : Val) : Prop := EqOK ρ

/-- the complexity threshold is off (`conf.Cas.complexity = 0`, or never exceeded) -/
abbrev NoThreshold (cfg : Cfg) : Prop := ∀ e, cfg.cplx e = false

/-- **simplify_sound**.  `e` well-formed and in the sign-agnostic fragment `Plain` (constants, registers,
    slices, compositions, conditionals, `+ - * & | ^ == != <. >=. << >> //` and unary `- ~`, all widths, shifts by
    any amount): whatever `e.simplify()` or `e.simplify(bitslice=True)` returns is again well-formed and `Plain`, has the width of `e`, and
    under every valuation without rendering clashes **the same value as `e`**.  For every fuel. -/
theorem simplify_sound (cfg : Cfg) (hc : NoThreshold cfg) (ρ : Val) (hρ : NoRenderClash ρ) (fuel : Nat) (opts : Opts)
    (ho : opts.widening = false) (e r : Expr) (he : WF e) (hp : Plain e) (h : simplify cfg fuel opts e = .ok r) :
    WF r ∧ r.size = e.size ∧ Plain r ∧ ideal ρ r = ideal ρ e :=
  ((widthIH_all cfg fuel).simplify opts e he).and_sound ((soundIH_all cfg hc ρ hρ fuel).simplify opts e he hp ho) h

/-- **oper_sound**.  `_operator.__call__(l, r)` (the Python operators `l + r`, `l & r`, `l == r`, `ltu(l,r)`,
    `l << r` …, each followed by the simplification of the new node) on well-formed `Plain` operands returns an
    expression with the reference meaning of the operator applied to the values of the operands. -/
theorem oper_sound (cfg : Cfg) (hc : NoThreshold cfg) (ρ : Val) (hρ : NoRenderClash ρ) (fuel : Nat) (o : Op)
    (l r res : Expr) (hl : WF l) (hr : WF r) (hpl : Plain l) (hpr : Plain r) (ho : agnOp o = true)
    (hsz : o.type ≠ 8 → l.size = r.size) (h : callOp cfg fuel o l r = .ok res) :
    WF res ∧ res.size = (if o.type = 4 then 1 else l.size) ∧ Plain res ∧
      ideal ρ res = binSem o false l.size (ideal ρ l) (ideal ρ r) := by
  obtain ⟨h1, h2, h3⟩ := ((widthIH_all cfg fuel).callOp o l r hl hr (fun h4 => hsz (by omega))).and_sound
    ((soundIH_all cfg hc ρ hρ fuel).callOp o l r hl hr hpl hpr ho hsz) h
  exact ⟨h1, h2.trans (Frag.resSize_ag ho l), h3⟩

/-- unary `-x`, `~x` -/
theorem uoper_sound (cfg : Cfg) (hc : NoThreshold cfg) (ρ : Val) (hρ : NoRenderClash ρ) (fuel : Nat) (o : Op)
    (x res : Expr) (hx : WF x) (hp : Plain x) (ho : o = Op.sub ∨ o = Op.not) (h : callUop cfg fuel o x = .ok res) :
    WF res ∧ res.size = x.size ∧ Plain res ∧ ideal ρ res = unSem o x.size (ideal ρ x) :=
  ((widthIH_all cfg fuel).callUop o x hx).and_sound ((soundIH_all cfg hc ρ hρ fuel).callUop o x hx hp ho) h

/-- **slice_sound**.  `x[a:b]` is the slice of the value (through `comp.__getitem__`, `cut`, `restruct`,
    slices of slices …). -/
theorem slice_sound (cfg : Cfg) (hc : NoThreshold cfg) (ρ : Val) (hρ : NoRenderClash ρ) (fuel : Nat)
    (x res : Expr) (a b : Int) (hx : WF x) (hp : Plain x) (h : getitem cfg fuel x a b = .ok res) :
    WF res ∧ res.size = (b - a).toNat ∧ Plain res ∧ ideal ρ res = bitsOf (ideal ρ x) a.toNat (b.toNat - a.toNat) :=
  ((widthIH_all cfg fuel).getitem x a b hx).and_sound ((soundIH_all cfg hc ρ hρ fuel).getitem x a b hx hp) h

/-- **compose_sound**.  `composer([x0, x1, …])` (a `comp` filled by `__setitem__`, then simplified) is the
    concatenation of the values, `x0` lowest. -/
theorem compose_sound (cfg : Cfg) (hc : NoThreshold cfg) (ρ : Val) (hρ : NoRenderClash ρ) (fuel : Nat)
    (parts : List Expr) (res : Expr) (hw : ∀ x ∈ parts, WF x) (hp : ∀ x ∈ parts, Plain x)
    (h : composer cfg fuel parts = .ok res) :
    WF res ∧ res.size = parts.foldl (fun a x => a + x.size) 0 ∧ Plain res ∧ ideal ρ res = catVal ρ parts :=
  ((widthIH_all cfg fuel).composer parts hw).and_sound ((soundIH_all cfg hc ρ hρ fuel).composer parts hw hp) h

/-- **extend_sound**.  `x.zeroextend(n)` keeps the value, `x.signextend(n)` is the `n`-bit two's complement of
    the signed reading of `x` (for a non-constant `x` and `n > x.size`; constants: `fold_*`/`extension`). -/
theorem extend_sound (cfg : Cfg) (hc : NoThreshold cfg) (ρ : Val) (hρ : NoRenderClash ρ) (fuel : Nat) (sign : Bool)
    (x res : Expr) (n : Nat) (hx : WF x) (hp : Plain x) (hn : x.size < n) (h : extendExp cfg fuel sign x n = .ok res) :
    WF res ∧ res.size = n ∧ Plain res ∧
      ideal ρ res = (if sign then wrap n (toInt x.size (ideal ρ x)) else ideal ρ x) := by
  obtain ⟨h1, h2, h3⟩ := ((widthIH_all cfg fuel).extendExp sign x n hx).and_sound
    ((soundIH_all cfg hc ρ hρ fuel).extendExp sign x n hx hp hn) h
  exact ⟨h1, h2.trans (by omega), h3⟩

/-! ### outside the fragment of `simplify_sound`

`simplify_sound_partial`: for EVERY well-formed tree, every fuel, option and complexity oracle, the rewrite
system returns a WELL-FORMED expression of the SAME WIDTH (so a constant result `cst v w` satisfies `v < 2^w`
with `w` the dictated width).  Value soundness of `simplify` on trees outside `Plain`:
  * the rotations `>>> <<<`, anywhere in the tree: proved in Props/C01Ext.lean (`simplify_sound_rot`, `rotate_sound`);
  * a result that is itself `top` / `vecw` (threshold on, `top` operand absorbed, `widening=True`): it covers every
    value of its width (`C01Ext.simplify_sound_top`);
and NOT proved (covered on every run by the correspondence tie and the reference evaluator) for:
  * trees containing the sign-dependent operators `< <= > >= ** / %` (their own rules are proved alone above:
    `x_op_x`, `not_cond`, `mul2_one`, `div_one`, `fold_*`; the declared-signedness side condition `SignOK` is not
    threaded through the rewriting of their operands; an ordered comparison as root, under a hypothesis on the
    flags of the simplified operands: `C01Ext.simplify_sound_cmp_partial`);
  * trees containing `top`, `vec`, `vecw`, `mem`, `ptr` (non-deterministic or memory-dependent meanings: C19 / C13),
    externals (`ext == 0 ⇒ false` is an assumption about the loader), a unary operator applied to a literal constant;
  * `widening=True` or the threshold on, when the result is not itself `top` / `vecw`.
Evaluation is proved for all operators (`eval_sound` above). -/
theorem cst_bound {r : Expr} {n : Nat} (h : WF r ∧ r.size = n) :
    WF r ∧ r.size = n ∧ (∀ v s f, r = .cst v s f → v < 2 ^ s ∧ s = n) :=
  ⟨h.1, h.2, by rintro v s f rfl; exact ⟨h.1.2, h.2⟩⟩

theorem simplify_sound_partial (cfg : Cfg) (fuel : Nat) (opts : Opts) (e r : Expr) (he : WF e)
    (h : simplify cfg fuel opts e = .ok r) :
    WF r ∧ r.size = e.size ∧ (∀ v s f, r = .cst v s f → v < 2 ^ s ∧ s = e.size) :=
  cst_bound ((widthIH_all cfg fuel).simplify opts e he r h)

theorem eval_sound_partial (cfg : Cfg) (fuel : Nat) (env : Env) (henv : EnvOK env) (e r : Expr) (he : WF e)
    (h : eval cfg fuel env e = .ok r) :
    WF r ∧ r.size = e.size ∧ (∀ v s f, r = .cst v s f → v < 2 ^ s ∧ s = e.size) :=
  cst_bound (eval_width cfg env henv fuel e he r h)

/-! ### non-vacuity -/

def exEnv : Env := [("a", 32, .cst 0x123 32 false)]
/-- `((a + 0xfffffff0) >> 4)[0:8]`; with `a = 0x123` it is well-formed, ground, sign-agnostic, and `eval` returns `0x11` -/
def exE : Expr :=
  .slc (.op .lsr (.op .add (.reg "a" 32 false) (.cst 0xfffffff0 32 false) 32 false 1) (.cst 4 32 false) 32 false 9) 0 8 false none 0

example : WF exE ∧ Ground exEnv exE ∧ SignOK exE := by
  refine ⟨by simp [exE, WF, Op.type], ?_, by simp [exE, SignOK, signDep]⟩
  simp only [exE, Ground, and_true]
  exact ⟨0x123, false, rfl, by decide⟩

example : EnvOK exEnv := by
  intro n s v h
  simp only [exEnv, Env.lookup] at h
  split at h
  · rename_i hc
    simp only [Bool.and_eq_true, beq_iff_eq] at hc
    cases h; simp [WF]; exact hc.2
  · cases h

def cfg0 : Cfg := { cplx := fun _ => false, vecCplx := fun _ => false }

example : (match eval cfg0 30 exEnv exE with | .ok (.cst v s _) => v == 0x11 && s == 8 | _ => false) = true := by
  decide +kernel


/-- a tree of the fragment of `simplify_sound`: `((a + 3) - a) & 0xff00`; `simplify` returns on it, with the width kept -/
def exS : Expr :=
  .op .and (.op .sub (.op .add (.reg "a" 32 false) (.cst 3 32 false) 32 false 1) (.reg "a" 32 false) 32 false 1)
    (.cst 0xff00 32 false) 32 false 3

example : WF exS ∧ Plain exS := by
  constructor
  · simp [exS, WF, Op.type]
  · exact ⟨rfl, ⟨rfl, ⟨rfl, trivial, trivial⟩, trivial⟩, trivial⟩

example : (match simplify cfg0 40 {} exS with | .ok r => r.size == 32 | _ => false) = true := by decide +kernel

example : binSem Op.and false 32 0x12345678 0xff00 = (bitsOf 0x12345678 8 8) <<< 8 := by decide
example : maskBounds 0xff00 = some (8, 15) := by decide +kernel
example : Op.pm Op.sub Op.add = some Op.sub := rfl
example : notop Op.lt = some Op.ge := rfl
example : cstOut (cstApi Op.lt 0x80000000 32 false 1 32 false) = some (0, 1) := by decide +kernel

end Amoco.C01
