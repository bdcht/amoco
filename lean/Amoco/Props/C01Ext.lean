/-
  C01 (extension) — value soundness of the rewrite system on the fragment WITH ROTATIONS.

  The theorems of `Props/C01.lean` (`simplify_sound / oper_sound / slice_sound / compose_sound / extend_sound`) on the
  fragment `PlainRot` = `Plain` + rotation nodes `>>>` (`ror`), `<<<` (`rol`) anywhere in the tree, the amounts
  arbitrary expressions of any width.  The model (`Model/Simplify.lean`) is the same; the induction is
  `Amoco.Rot.soundIH_all`.

  What the rewrite system does with a rotation, each step proved value-preserving:
    * `ror(x, n)` / `rol(x, n)` on two constants folds (`helperRot` → `>> << |` of the `cst` table; `fold_ror/rol`);
    * on anything else the `op` node is kept (`helperRot`), its operands simplified (`op.simplify`);
    * `(l >>> 0) ⇒ l`, `(l <<< 0) ⇒ l` (`eqn2_helpers`; `rot_zero` below);
    * `x >>> x` is kept (no `x op x` rule fires), `-(x >>> n)`, `~(x >>> n)`, `(x >>> n)[a:b]` stay as they are,
      `+`/`-` re-association does not look through a rotation, `bitslice=True` does not split a rotation.
  NOT proved: `< <= > >=` as operands and without the flag hypothesis, `** / %`, trees containing
  `top/vec/vecw/mem/ptr/ext`, `widening=True`, threshold on when the result is not itself `top`.
-/
import Amoco.Proofs.ExprSoundSimp
import Amoco.Proofs.ExprSoundExtRot
import Amoco.Proofs.ExprSoundExtCmp

namespace Amoco.C01Ext

open Amoco Amoco.Expr Amoco.Bits

/-- the fragment: `Plain` of C01 plus `>>>` / `<<<` nodes (`Amoco.Rot.Plain`): constants, registers, slices,
    compositions, conditionals, `+ - * & | ^ == != <. >=. << >> // >>> <<<` and unary `- ~` -/
abbrev PlainRot (e : Expr) : Prop := Amoco.Rot.Plain e

abbrev agnRot (o : Op) : Bool := Amoco.Rot.agnOp o

/-- as `C01.NoRenderClash`, stated for the larger fragment: two well-formed `PlainRot` expressions of one size that
    render alike (or are `exp.__eq__`-equal) have the same value under `ρ` -/
abbrev NoRenderClashRot (ρ : Val) : Prop := Amoco.Rot.EqOK ρ

abbrev NoThreshold (cfg : Cfg) : Prop := ∀ e, cfg.cplx e = false

/-- the rule `(l >>> 0) ⇒ l`, `(l <<< 0) ⇒ l` of `eqn2_helpers`, all widths -/
theorem rot_zero (o : Op) (ho : o = Op.ror ∨ o = Op.rol) (sg : Bool) (w a : Nat) (h : a < 2 ^ w) :
    binSem o sg w a 0 = a := Amoco.Rot.rot_zero o ho sg w a h

/-! ## stand-alone rotation facts, all widths (`a` the `w`-bit value rotated, `n` the amount, of any size) -/

/-- bit `j` of `a >>> n` is bit `(j + n) mod w` of `a`; bit `j` of `a <<< n` is bit `(j + (w - n mod w)) mod w` -/
theorem rot_bits (sg : Bool) (w a n j : Nat) (ha : a < 2 ^ w) (hj : j < w) :
    (binSem Op.ror sg w a n).testBit j = a.testBit ((j + n) % w) ∧
    (binSem Op.rol sg w a n).testBit j = a.testBit ((j + (w - n % w)) % w) :=
  ⟨Amoco.Rot.ror_testBit sg w a n j ha hj, Amoco.Rot.rol_testBit sg w a n j ha hj⟩

/-- *rol_as_ror*: `(a <<< n) = (a >>> (w - n mod w))` -/
theorem rol_as_ror (sg1 sg2 : Bool) (w a n : Nat) (ha : a < 2 ^ w) :
    binSem Op.rol sg1 w a n = binSem Op.ror sg2 w a (w - n % w) := Amoco.Rot.rol_as_ror sg1 sg2 w a n ha

/-- *rotation composition*: `((a >>> n) >>> k) = (a >>> (n + k))` -/
theorem ror_ror (sg1 sg2 sg3 : Bool) (w a n k : Nat) (ha : a < 2 ^ w) (hw : 0 < w) :
    binSem Op.ror sg1 w (binSem Op.ror sg2 w a n) k = binSem Op.ror sg3 w a (n + k) :=
  Amoco.Rot.ror_ror sg1 sg2 sg3 w a n k ha hw

/-- the amount counts modulo the width, a rotation by the width is the identity, `<<<` undoes `>>>` -/
theorem rot_amount (sg1 sg2 : Bool) (w a n : Nat) (ha : a < 2 ^ w) (hw : 0 < w) :
    binSem Op.ror sg1 w a (n % w) = binSem Op.ror sg1 w a n ∧ binSem Op.ror sg1 w a w = a ∧
    binSem Op.rol sg1 w (binSem Op.ror sg2 w a n) n = a :=
  ⟨Amoco.Rot.ror_mod sg1 w a n, Amoco.Rot.ror_width sg1 w a ha, Amoco.Rot.rol_ror sg1 sg2 w a n ha hw⟩

/-- *slice-of-rotation* (no wrap-around): `(a >>> n)[p:p+s] = a[p+n : p+n+s]` when `p + s + n mod w ≤ w` -/
theorem slice_ror_nowrap (sg : Bool) (w a n p s : Nat) (ha : a < 2 ^ w) (h : p + s + n % w ≤ w) (hs : 0 < s) :
    bitsOf (binSem Op.ror sg w a n) p s = bitsOf a (p + n % w) s := Amoco.Rot.slice_ror_nowrap sg w a n p s ha h hs

/-- the fragment of C01 is contained in `PlainRot` (so the theorems below subsume those of C01, under the hypothesis
    `NoRenderClashRot`, which quantifies over the larger fragment) -/
theorem plain_subset (e : Expr) (h : Amoco.Expr.Plain e) : PlainRot e := Amoco.Rot.plain_of_plain e h

/-- **simplify_sound_rot**.  `e` well-formed and in `PlainRot`: whatever `e.simplify()` or
    `e.simplify(bitslice=True)` returns is again well-formed and `PlainRot`, has the width of `e`, and under every
    valuation without rendering clashes **the same value as `e`**.  For every fuel. -/
theorem simplify_sound_rot (cfg : Cfg) (hc : NoThreshold cfg) (ρ : Val) (hρ : NoRenderClashRot ρ) (fuel : Nat) (opts : Opts)
    (ho : opts.widening = false) (e r : Expr) (he : WF e) (hp : PlainRot e) (h : simplify cfg fuel opts e = .ok r) :
    WF r ∧ r.size = e.size ∧ PlainRot r ∧ ideal ρ r = ideal ρ e :=
  ((widthIH_all cfg fuel).simplify opts e he).and_sound ((Amoco.Rot.soundIH_all cfg hc ρ hρ fuel).simplify opts e he hp ho) h

/-- **oper_sound_rot**.  `_operator.__call__(l, r)` for every operator of the fragment, now including
    `ror(l, r)` / `rol(l, r)` (`helperRot`), on well-formed `PlainRot` operands: the result has the reference meaning
    of the operator applied to the values of the operands (for a rotation: `binSem ror/rol`, amount of any width,
    reduced modulo the width of `l`). -/
theorem oper_sound_rot (cfg : Cfg) (hc : NoThreshold cfg) (ρ : Val) (hρ : NoRenderClashRot ρ) (fuel : Nat) (o : Op)
    (l r res : Expr) (hl : WF l) (hr : WF r) (hpl : PlainRot l) (hpr : PlainRot r) (ho : agnRot o = true)
    (hsz : o.type ≠ 8 → l.size = r.size) (h : callOp cfg fuel o l r = .ok res) :
    WF res ∧ res.size = (if o.type = 4 then 1 else l.size) ∧ PlainRot res ∧
      ideal ρ res = binSem o false l.size (ideal ρ l) (ideal ρ r) := by
  obtain ⟨h1, h2, h3⟩ := ((widthIH_all cfg fuel).callOp o l r hl hr (fun h4 => hsz (by omega))).and_sound
    ((Amoco.Rot.soundIH_all cfg hc ρ hρ fuel).callOp o l r hl hr hpl hpr ho hsz) h
  exact ⟨h1, h2.trans (Frag.resSize_ag (ag := Amoco.Rot.agnOp) ho l), h3⟩

/-- the special case the C01 theorem does not have: a rotation of any `PlainRot` operand by any `PlainRot` amount -/
theorem rotate_sound (cfg : Cfg) (hc : NoThreshold cfg) (ρ : Val) (hρ : NoRenderClashRot ρ) (fuel : Nat) (o : Op)
    (ho : o = Op.ror ∨ o = Op.rol) (x n res : Expr) (hx : WF x) (hn : WF n) (hpx : PlainRot x) (hpn : PlainRot n)
    (h : callOp cfg fuel o x n = .ok res) :
    WF res ∧ res.size = x.size ∧ PlainRot res ∧ ideal ρ res = binSem o false x.size (ideal ρ x) (ideal ρ n) := by
  have ha : agnRot o = true := by rcases ho with rfl | rfl <;> rfl
  have ht : o.type = 8 := by rcases ho with rfl | rfl <;> rfl
  obtain ⟨h1, h2, h3, h4⟩ := oper_sound_rot cfg hc ρ hρ fuel o x n res hx hn hpx hpn ha (fun h8 => absurd ht h8) h
  refine ⟨h1, ?_, h3, h4⟩
  rw [h2, ht]; simp

/-- unary `-x`, `~x` on the larger fragment -/
theorem uoper_sound_rot (cfg : Cfg) (hc : NoThreshold cfg) (ρ : Val) (hρ : NoRenderClashRot ρ) (fuel : Nat) (o : Op)
    (x res : Expr) (hx : WF x) (hp : PlainRot x) (ho : o = Op.sub ∨ o = Op.not) (h : callUop cfg fuel o x = .ok res) :
    WF res ∧ res.size = x.size ∧ PlainRot res ∧ ideal ρ res = unSem o x.size (ideal ρ x) :=
  ((widthIH_all cfg fuel).callUop o x hx).and_sound ((Amoco.Rot.soundIH_all cfg hc ρ hρ fuel).callUop o x hx hp ho) h

/-- **slice_sound_rot**.  `x[a:b]` is the slice of the value, also when `x` contains rotations -/
theorem slice_sound_rot (cfg : Cfg) (hc : NoThreshold cfg) (ρ : Val) (hρ : NoRenderClashRot ρ) (fuel : Nat)
    (x res : Expr) (a b : Int) (hx : WF x) (hp : PlainRot x) (h : getitem cfg fuel x a b = .ok res) :
    WF res ∧ res.size = (b - a).toNat ∧ PlainRot res ∧ ideal ρ res = bitsOf (ideal ρ x) a.toNat (b.toNat - a.toNat) :=
  ((widthIH_all cfg fuel).getitem x a b hx).and_sound ((Amoco.Rot.soundIH_all cfg hc ρ hρ fuel).getitem x a b hx hp) h

/-- **compose_sound_rot**.  `composer([x0, x1, …])` is the concatenation of the values, `x0` lowest -/
theorem compose_sound_rot (cfg : Cfg) (hc : NoThreshold cfg) (ρ : Val) (hρ : NoRenderClashRot ρ) (fuel : Nat)
    (parts : List Expr) (res : Expr) (hw : ∀ x ∈ parts, WF x) (hp : ∀ x ∈ parts, PlainRot x)
    (h : composer cfg fuel parts = .ok res) :
    WF res ∧ res.size = parts.foldl (fun a x => a + x.size) 0 ∧ PlainRot res ∧ ideal ρ res = Amoco.Rot.catVal ρ parts :=
  ((widthIH_all cfg fuel).composer parts hw).and_sound ((Amoco.Rot.soundIH_all cfg hc ρ hρ fuel).composer parts hw hp) h

/-- `catVal` (value of `composer(parts)`: the parts one after the other from bit 0) is the same recursion as in C01 -/
theorem catVal_nil (ρ : Val) : Amoco.Rot.catVal ρ [] = 0 := rfl
theorem catVal_cons (ρ : Val) (x : Expr) (tl : List Expr) :
    Amoco.Rot.catVal ρ (x :: tl) = cat (ideal ρ x) x.size (Amoco.Rot.catVal ρ tl) := rfl

/-- **extend_sound_rot**.  `x.zeroextend(n)` keeps the value, `x.signextend(n)` is the `n`-bit two's complement of
    the signed reading of `x` (non-constant `x`, `n > x.size`) -/
theorem extend_sound_rot (cfg : Cfg) (hc : NoThreshold cfg) (ρ : Val) (hρ : NoRenderClashRot ρ) (fuel : Nat) (sign : Bool)
    (x res : Expr) (n : Nat) (hx : WF x) (hp : PlainRot x) (hn : x.size < n) (h : extendExp cfg fuel sign x n = .ok res) :
    WF res ∧ res.size = n ∧ PlainRot res ∧
      ideal ρ res = (if sign then wrap n (toInt x.size (ideal ρ x)) else ideal ρ x) := by
  obtain ⟨h1, h2, h3⟩ := ((widthIH_all cfg fuel).extendExp sign x n hx).and_sound
    ((Amoco.Rot.soundIH_all cfg hc ρ hρ fuel).extendExp sign x n hx hp hn) h
  exact ⟨h1, h2.trans (by omega), h3⟩

/-! ## results that are `top` (complexity threshold ON, `top` operands, `widening`): only the width matters

Whenever an entry point returns an undefined value (`top`, or `vecw` under
`widening=True`) — the complexity threshold fired at the root, or a `top` operand was absorbed — the result stands for
EVERY value of its width (`Den`), so it covers the value of the input: for every well-formed tree (all operators, no
fragment), every complexity oracle, every option.  (Not proved: results that contain `top` strictly inside, and
top-free results computed through intermediate `top`s.) -/

theorem den_of_isTop (ρ : Val) (r : Expr) (ht : r.isTop = true) (x : Nat) (hx : x < 2 ^ r.size) : Den ρ r x := by
  cases r <;> first | exact absurd ht Bool.false_ne_true | exact hx

/-- **simplify_sound_top**: a `top`/`vecw` returned by `simplify` has the width of `e`, hence denotes (among all values
    of that width) the value of `e` -/
theorem simplify_sound_top (cfg : Cfg) (fuel : Nat) (opts : Opts) (ρ : Val) (e r : Expr) (he : WF e)
    (h : simplify cfg fuel opts e = .ok r) (ht : r.isTop = true) : r.size = e.size ∧ Den ρ r (ideal ρ e) := by
  obtain ⟨_, h2⟩ := (widthIH_all cfg fuel).simplify opts e he r h
  exact ⟨h2, den_of_isTop ρ r ht _ (by rw [h2]; exact ideal_lt ρ e he)⟩

/-- the same for `_operator.__call__(l, r)` (any operator): an undefined result covers the reference meaning -/
theorem oper_sound_top (cfg : Cfg) (fuel : Nat) (ρ : Val) (o : Op) (sg : Bool) (l r res : Expr) (hl : WF l) (hr : WF r)
    (hsz : o.type ≠ 8 → l.size = r.size) (h : callOp cfg fuel o l r = .ok res) (ht : res.isTop = true) :
    Den ρ res (binSem o sg l.size (ideal ρ l) (ideal ρ r)) := by
  obtain ⟨_, h2⟩ := (widthIH_all cfg fuel).callOp o l r hl hr (fun h4 => hsz (by omega)) res h
  refine den_of_isTop ρ res ht _ ?_
  rw [h2]
  exact binSem_lt o sg l.size _ _ (ideal_lt ρ l hl) (fun h8 => by rw [hsz h8]; exact ideal_lt ρ r hr)

/-! ### non-vacuity -/

/-- a complexity oracle that finds every 32-bit operand too complex: `a + b` simplifies to `top(32)` -/
def cfgT : Cfg := { cplx := fun e => e.size == 32, vecCplx := fun _ => false }

example : (match simplify cfgT 10 {} (.op .add (.reg "a" 32 false) (.reg "b" 32 false) 32 false 1) with
    | .ok (.top 32 _) => true | _ => false) = true := by decide +kernel


def cfg0 : Cfg := { cplx := fun _ => false, vecCplx := fun _ => false }

example : NoThreshold cfg0 := fun _ => rfl

/-- `(((a >>> 0) + 3) - a) & 0xff00`: a rotation of a register by a constant, below other operators -/
def exR1 : Expr :=
  .op .and (.op .sub (.op .add (.op .ror (.reg "a" 32 false) (.cst 0 32 false) 32 false 8) (.cst 3 32 false) 32 false 9)
    (.reg "a" 32 false) 32 false 9) (.cst 0xff00 32 false) 32 false 11

/-- `(a >>> b[0:8]) <<< 0x4`: a rotation by a non-constant amount, under a rotation -/
def exR2 : Expr :=
  .op .rol (.op .ror (.reg "a" 32 false) (.slc (.reg "b" 32 false) 0 8 false none 1) 32 false 8) (.cst 4 32 false) 32 false 8

/-- a rotation of a constant by a constant, under a slice -/
def exR3 : Expr := .slc (.op .ror (.cst 0x12345678 32 false) (.cst 8 32 false) 32 false 8) 24 8 false none 0

example : WF exR1 ∧ PlainRot exR1 := by
  constructor
  · simp [exR1, WF, Op.type]
  · exact ⟨rfl, ⟨rfl, ⟨rfl, ⟨rfl, trivial, trivial⟩, trivial⟩, trivial⟩, trivial⟩

example : WF exR2 ∧ PlainRot exR2 := by
  constructor
  · simp [exR2, WF, Op.type]
  · exact ⟨rfl, ⟨rfl, trivial, by decide, trivial⟩, trivial⟩

example : WF exR3 ∧ PlainRot exR3 := by
  constructor
  · simp [exR3, WF, Op.type]
  · exact ⟨by decide, rfl, trivial, trivial⟩

/-- none of them is in the fragment of C01 -/
example : ¬ Amoco.Expr.Plain exR1 ∧ ¬ Amoco.Expr.Plain exR2 ∧ ¬ Amoco.Expr.Plain exR3 :=
  ⟨fun ⟨_, ⟨_, ⟨_, ⟨h, _⟩, _⟩, _⟩, _⟩ => (nomatch h), fun ⟨h, _⟩ => (nomatch h), fun ⟨_, h, _⟩ => (nomatch h)⟩

/-- `simplify` returns on them: on `exR1` something of width 32; on `exR2` the rotation by a non-constant amount is
    kept; on `exR3` the slice of the rotated constant is the constant `0x78` -/
example : (match simplify cfg0 40 {} exR1 with | .ok r => r.size == 32 | _ => false) = true := by decide +kernel
example : (match simplify cfg0 40 {} exR2 with | .ok (.op .rol (.op .ror ..) ..) => true | _ => false) = true := by decide +kernel
example : (match simplify cfg0 40 {} exR3 with | .ok (.cst v s _) => v == 0x78 && s == 8 | _ => false) = true := by decide +kernel
example : bitsOf (binSem Op.ror false 32 0x12345678 8) 24 8 = 0x78 := by decide

example : binSem Op.rol false 8 0x81 1 = 0x03 ∧ binSem Op.ror false 8 0x81 9 = 0xc0 := by decide
example : bitsOf (binSem Op.ror false 32 0x12345678 8) 4 16 = bitsOf 0x12345678 12 16 := by decide

/-! ## why the ordered comparisons `< <= > >=` are not in the fragment: the reading `ideal` gives them

`ideal ρ (op < l r)` reads BOTH operands with the flag of the left one (`binSem o l.sf`).  The rewrite system does not
keep that flag: `(a - a) < b` over signed registers simplifies to `0x0 < b` where the new constant `0x0` is unsigned
(`x_op_x` returns `cst(0, size)`), so `ideal` reads the simplified tree unsigned: with `b = 0x80000000` the tree is
worth 0 and what `simplify` returns is worth 1 under `ideal`.  The real code is NOT wrong here (replayed: both
`((a-a)<b).eval(m)` and `((a-a)<b).simplify().eval(m)` give `0x0` for `b ↦ 0x80000000`, because `cst.__lt__` reads each
side with its own flag and `0x0` reads the same either way).  So value soundness of ordered comparisons cannot be stated
with `ideal`: it needs the reading of `eval_sound` (`SfIs`: a constant whose top bit is clear is sign-neutral, each side
read with its own declared flag) threaded through the rewriting. -/

def cmpE : Expr := .op .lt (.op .sub (.reg "a" 32 true) (.reg "a" 32 true) 32 true 1) (.reg "b" 32 true) 1 false 5
def cmpρ : Val := fun n _ => if n == "b" then 0x80000000 else 5

/-- `simplify` maps `(a - a) < b` (signed registers) to `0x0 < b` with an UNSIGNED `0x0`: under the one-flag reading
    `ideal` the value changes from 0 to 1 at `b = 0x80000000` (a limit of the reading, not of the code) -/
theorem cmp_one_flag_reading_not_preserved :
    (match simplify cfg0 40 {} cmpE with
     | .ok (.op .lt (.cst 0 32 false) (.reg "b" 32 true) 1 _ _) => true | _ => false) = true ∧
    (match simplify cfg0 40 {} cmpE with | .ok r => ideal cmpρ r | _ => 2) = 1 ∧ ideal cmpρ cmpE = 0 := by
  decide +kernel

/-! ## an ordered comparison as ROOT over operands of the fragment

`simplify_sound_cmp_partial`: `e = (l o r)` with `o ∈ {<, <=, >, >=}` and `l`, `r` in `PlainRot`.  `op.simplify` simplifies
the operands (value kept: the induction above), `eqn2_helpers` then does no re-association, applies no constant-operand
rule, folds two constants with the `cst` table (`cst.__lt__` …), answers `x < x ⇒ 0` / `x <= x ⇒ 1` by rendering, or keeps
the node — each step proved.  PARTIAL: the excluded case is made an explicit (decidable for given inputs) hypothesis
`hsf`: the simplified operands still carry the declared signedness of `l` (it fails for `cmpE` above: `a - a ⇒ 0x0`
unsigned).  Missing for the full statement: the two-flag reading with sign-neutral constants threaded through rewriting;
comparisons as operands of other nodes; `** / %`. -/
theorem simplify_sound_cmp_partial (cfg : Cfg) (hc : NoThreshold cfg) (ρ : Val) (hρ : NoRenderClashRot ρ) (fuel : Nat)
    (opts : Opts) (ho : opts.widening = false) (o : Op) (hord : o = Op.lt ∨ o = Op.le ∨ o = Op.gt ∨ o = Op.ge)
    (l r : Expr) (size : Nat) (sf : Bool) (prop : Nat) (res : Expr)
    (he : WF (.op o l r size sf prop)) (hpl : PlainRot l) (hpr : PlainRot r)
    (hsf : ∀ l' r', simplify cfg fuel opts l = .ok l' → simplify cfg fuel opts r = .ok r' → l'.sf = l.sf ∧ r'.sf = l.sf)
    (h : simplify cfg (fuel + 1) opts (.op o l r size sf prop) = .ok res) :
    WF res ∧ res.size = 1 ∧ ideal ρ res = binSem o l.sf l.size (ideal ρ l) (ideal ρ r) := by
  have hord' : Amoco.Rot.ordOp o = true := by rcases hord with rfl | rfl | rfl | rfl <;> rfl
  obtain ⟨h1, h2⟩ := (widthIH_all cfg (fuel + 1)).simplify opts _ he res h
  have h3 := Amoco.Rot.simplify_ord cfg hρ hc hord' opts ho l r size sf prop he hpl hpr fuel hsf res h
  refine ⟨h1, ?_, by rw [h3]; simp only [ideal]⟩
  obtain ⟨_, _, _, _, hs, _⟩ := (WF_op_iff ..).mp he
  rw [h2, size_op, hs]
  simp [resSize, Amoco.Rot.ord_type hord']

/-- non-vacuity: `a < (b >>> 8)` over signed registers; the operands simplify to themselves, flags kept -/
def cmpL : Expr := .reg "a" 32 true
def cmpR : Expr := .op .ror (.reg "b" 32 true) (.cst 8 32 false) 32 true 8
def cmpOK : Expr := .op .lt cmpL cmpR 1 false 12

example : WF cmpOK ∧ PlainRot cmpL ∧ PlainRot cmpR :=
  ⟨by simp [cmpOK, cmpL, cmpR, WF, Op.type], trivial, rfl, trivial, trivial⟩

example : ∀ l' r', simplify cfg0 20 {} cmpL = .ok l' → simplify cfg0 20 {} cmpR = .ok r' → l'.sf = cmpL.sf ∧ r'.sf = cmpL.sf := by
  intro l' r' h1 h2
  have e1 : (match simplify cfg0 20 {} cmpL with | .ok x => x.sf == true | _ => false) = true := by decide +kernel
  have e2 : (match simplify cfg0 20 {} cmpR with | .ok x => x.sf == true | _ => false) = true := by decide +kernel
  rw [h1] at e1; rw [h2] at e2
  simp only [beq_iff_eq] at e1 e2
  exact ⟨e1, e2⟩

example : (match simplify cfg0 21 {} cmpOK with | .ok (.op .lt (.reg "a" 32 true) (.op .ror ..) 1 _ _) => true | _ => false) = true := by
  decide +kernel
example : (match simplify cfg0 21 {} (.op .le cmpR cmpR 1 false 12) with | .ok (.cst 1 1 _) => true | _ => false) = true := by
  decide +kernel

end Amoco.C01Ext
