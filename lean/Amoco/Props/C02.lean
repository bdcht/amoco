/-
  C02 — Symbolic block map agrees with step-by-step concrete execution.

  Vocabulary (model: Amoco/Model/Mapper.lean):
    `Prog`            an IR program: statements `reg[pos:pos+size] := e` and `[base+disp] := e` whose right-hand
                      sides (constants, registers, slices, compositions, `x + c`, binary operators of arbitrary
                      meaning `sem`, loads) are evaluated in the current map — what an `i_XXX` body does to `fmap`;
    `symExec cfg P`   the map built by the model of `mapper.__setitem__/__call__/M/aliasing/_Mem_read/_Mem_write`
                      under the settings `cfg = (noaliasing, memtrace)`;
    `applyMap σ m`    `σ >> m`: every register takes the value of its expression in `σ` (loads read `σ`'s memory
                      after replaying their mods), the pointer items are replayed in map order on `σ`'s memory;
    `concExec P σ`    sequential execution on registers and a byte memory (either byte order);
    `agrees`          registers equal modulo their width, memory equal byte for byte;
    `accessesOf`      the accesses of the program as (symbolic base, displacement, length);
    `Access.noWrap`   the access does not wrap around the address space (address = zone base + zone offset);
    `Access.apart`    two accesses through different zones touch no common byte.
  What is NOT covered by a theorem: that each ISA's Python semantics function performs the same IR program
  on a symbolic and on a concrete map (checked per generated instruction by the harness: partial);
  and the setting noaliasing ∧ ¬memtrace, where stores are not recorded and `>>` drops them (a known finding).
-/
import Amoco.Proofs.Mapper

namespace Amoco.Mapper.Props

open Amoco.Mapper

/-- **registers and sub-register slices**: for every IR program over registers and slices (any operators,
    any widths), every state and every setting, applying the symbolic map gives the registers and memory of
    the sequential execution. -/
theorem block_map_sound_regs (sem : OpSem) (cfg : Cfg) (P : Prog) (σ : St)
    (hwf : P.wf = true) (hr : P.regsOnly = true) :
    (applyMap sem σ (symExec cfg P)).agrees (concExec sem P σ) :=
  prog_sound ⟨sem, σ, cfg, P.be, accessesOf cfg P⟩ P rfl hwf (Or.inl hr) (fun _ h => h)

/-- hypotheses on the state: memory cells hold bytes, no access wraps around the address space and — under
    the no-aliasing assumption — accesses through distinct symbolic bases do not overlap -/
structure StateOK (sem : OpSem) (cfg : Cfg) (P : Prog) (σ : St) : Prop where
  bytes : ∀ x, σ.mem x < 256
  nowrap : ∀ a ∈ accessesOf cfg P, a.noWrap sem σ
  apart : cfg.noaliasing = true → ∀ a ∈ accessesOf cfg P, ∀ b ∈ accessesOf cfg P, Access.apart sem σ a b

/-- **the general statement** (registers, slices, loads and stores through concrete and symbolic
    pointers, either byte order, every setting in which stores are recorded): `σ >> symExec P` is the
    state reached by executing `P` statement by statement on `σ`. -/
theorem block_map_sound (sem : OpSem) (cfg : Cfg) (P : Prog) (σ : St)
    (hwf : P.wf = true) (hrec : cfg.records = true) (hσ : StateOK sem cfg P σ) :
    (applyMap sem σ (symExec cfg P)).agrees (concExec sem P σ) :=
  prog_sound ⟨sem, σ, cfg, P.be, accessesOf cfg P⟩ P rfl hwf
    (Or.inr ⟨hrec, hσ.bytes, hσ.nowrap, hσ.apart⟩) (fun _ h => h)

/-- **loads and stores at concrete addresses**, both byte orders: no assumption on aliasing is needed — only
    that no access runs past the end of the address space (a constant base makes `StateOK` follow from that:
    the proof is a reduction to `block_map_sound`). -/
theorem block_map_sound_mem_concrete (sem : OpSem) (cfg : Cfg) (P : Prog) (σ : St)
    (hwf : P.wf = true) (hc : P.concOnly = true) (hrec : cfg.records = true) (hb : ∀ x, σ.mem x < 256)
    (htop : ∀ a ∈ accessesOf cfg P, (zref a.base a.disp).2 + (a.len : Int) ≤ ((2 ^ a.base.size : Nat) : Int)) :
    (applyMap sem σ (symExec cfg P)).agrees (concExec sem P σ) := by
  have hcst : ∀ a ∈ accessesOf cfg P, ∃ v s, a.base = .cst v s := by
    apply progAccesses_conc
    intro s hs
    simp only [Prog.concOnly, List.all_eq_true] at hc
    exact hc s hs
  apply block_map_sound sem cfg P σ hwf hrec
  refine ⟨hb, ?_, ?_⟩
  · intro a ha
    obtain ⟨v, s, hbase⟩ := hcst a ha
    have ht := htop a ha
    constructor
    · show locAddr sem σ a.base a.disp = _
      rw [hbase, locAddr_cst]
      simp [zref, zbase]
    · rw [hbase] at ht ⊢
      simp only [zref, zbase, E.size] at ht ⊢
      push_cast at ht ⊢
      omega
  · intro _ a ha b hb'
    obtain ⟨v, s, h1⟩ := hcst a ha
    obtain ⟨v', s', h2⟩ := hcst b hb'
    left
    rw [h1, h2]; rfl

/-- **symbolic base + displacement pointers under the no-aliasing assumption**: for states in which
    distinct symbolic bases do not overlap. -/
theorem block_map_sound_noalias (sem : OpSem) (memtrace : Bool) (P : Prog) (σ : St)
    (hwf : P.wf = true) (hmt : memtrace = true) (hσ : StateOK sem ⟨true, memtrace⟩ P σ) :
    (applyMap sem σ (symExec ⟨true, memtrace⟩ P)).agrees (concExec sem P σ) :=
  block_map_sound sem _ P σ hwf (by simp [Cfg.records, hmt]) hσ

/-- **composition** (`m1 >> m2`, `mapper.rcompose`): composing the map of a program with any well-formed map
    `m2` (distinct locations, whole-byte pointer items in the program's byte order — what `symExec`
    produces; loads with mods allowed) and then applying the result to `σ` equals applying `m1` and then `m2`
    in sequence:  `σ >> (m1 >> m2) = (σ >> m1) >> m2`.  The accesses of the composition (the loads of `m2`'s
    pointers and values evaluated in `m1`, and `m2`'s stores) are subject to the same hypotheses as the
    program's. -/
theorem rcompose_assoc_eval (sem : OpSem) (cfg : Cfg) (P1 : Prog) (m2 : MapSt) (σ : St)
    (hwf : P1.wf = true) (hrec : cfg.records = true) (hm2 : m2.ok P1.be = true) (hb : ∀ x, σ.mem x < 256)
    (hnw : ∀ a ∈ accessesOf cfg P1 ++ rcomposeAccesses cfg m2 (symExec cfg P1), a.noWrap sem σ)
    (hap : cfg.noaliasing = true →
      ∀ a ∈ accessesOf cfg P1 ++ rcomposeAccesses cfg m2 (symExec cfg P1),
      ∀ b ∈ accessesOf cfg P1 ++ rcomposeAccesses cfg m2 (symExec cfg P1), Access.apart sem σ a b) :
    (applyMap sem σ (rcompose cfg m2 (symExec cfg P1))).agrees
      (applyMap sem (applyMap sem σ (symExec cfg P1)) m2) := by
  let c : Ctx := ⟨sem, σ, cfg, P1.be, accessesOf cfg P1 ++ rcomposeAccesses cfg m2 (symExec cfg P1)⟩
  have ok : c.OK := ⟨hrec, hb, hnw, hap⟩
  have h1 := prog_inv c P1 rfl hwf (Or.inr ok) (fun a ha => List.mem_append_left _ ha)
  have h2 := rcompose_sound ok h1 m2 hm2 (fun a ha => List.mem_append_right _ ha)
  refine agrees_trans h2 (applyMap_congr sem _ _ ?_ m2)
  exact agrees_symm (agrees_of_inv h1)

/-! ## Non-vacuity -/

def exSem : OpSem := fun o w a b => if o = "+" then (a + b) % 2 ^ w else a ^^^ b

/-- `al := bl ^ 0x5a ; ax[8:16] := al ; ecx := eax + ebx` over 32-bit registers with 8-bit slices -/
def exRegs : Prog := ⟨false,
  [.set "eax" 32 0 8 (.op "^" (.slc (.reg "ebx" 32) 0 8) (.cst 0x5a 8) 8),
   .set "eax" 32 8 8 (.slc (.reg "eax" 32) 0 8),
   .set "ecx" 32 0 32 (.op "+" (.reg "eax" 32) (.reg "ebx" 32) 32)]⟩

example : exRegs.wf = true ∧ exRegs.regsOnly = true := by decide

/-- a big-endian program at concrete addresses: wide store, narrower store into it, load across both -/
def exConc : Prog := ⟨true,
  [.store (.cst 0x1000 32) 0 32 (.reg "a" 32),
   .store (.cst 0x1000 32) 1 8 (.cst 0x11 8),
   .set "b" 32 0 32 (.load (.cst 0x1000 32) 0 32)]⟩

example : exConc.wf = true ∧ exConc.concOnly = true := by decide

example : ∀ a ∈ accessesOf ⟨true, true⟩ exConc,
    (zref a.base a.disp).2 + (a.len : Int) ≤ ((2 ^ a.base.size : Nat) : Int) := by decide

def exSt0 : St := ⟨fun n _ => if n = "a" then 0xaabbccdd else 0x55, fun a => (a % 251).toNat⟩

/-- the theorem, instantiated: big-endian `[0x1000] := a ; [0x1001] := 0x11 ; b := [0x1000]` gives
    `b = 0xaa11ccdd` through the symbolic map -/
example : (applyMap exSem exSt0 (symExec ⟨true, true⟩ exConc)).reg "b" 32 % 2 ^ 32 = 0xaa11ccdd := by
  rw [(block_map_sound_mem_concrete exSem ⟨true, true⟩ exConc exSt0 (by decide) (by decide) (by decide)
    (by intro x; simp only [exSt0]; omega) (by decide)).1 "b" 32]
  decide

/-- … and `al := bl ^ 0x5a ; ah := al ; ecx := eax + ebx` on `eax = ebx = 0x55` -/
example : (applyMap exSem exSt0 (symExec ⟨true, false⟩ exRegs)).reg "ecx" 32 % 2 ^ 32 = 0x0f64 := by
  rw [(block_map_sound_regs exSem ⟨true, false⟩ exRegs exSt0 (by decide) (by decide)).1 "ecx" 32]
  decide

/-- `[p] := a ; q := p + 4` then `b := [q - 4] ; [q] := b` composed: the second map loads through the
    pointer the first one computed -/
def exP1 : Prog := ⟨false,
  [.store (.reg "p" 32) 0 32 (.reg "a" 32),
   .set "q" 32 0 32 (.addc (.reg "p" 32) 4)]⟩
def exP2 : Prog := ⟨false,
  [.set "b" 32 0 32 (.load (.reg "q" 32) (-4) 32),
   .store (.reg "q" 32) 0 32 (.reg "b" 32)]⟩

def exSt1 : St := ⟨fun n _ => if n = "p" then 0x2000 else if n = "a" then 0xaabbccdd else 0x55, fun a => (a % 251).toNat⟩

instance (sem : OpSem) (σ : St) (a : Access) : Decidable (a.noWrap sem σ) := by
  unfold Access.noWrap; exact inferInstance

example : exP1.wf = true ∧ (symExec ⟨false, true⟩ exP2).ok false = true := by decide
example : ∀ a ∈ accessesOf ⟨false, true⟩ exP1 ++ rcomposeAccesses ⟨false, true⟩ (symExec ⟨false, true⟩ exP2)
    (symExec ⟨false, true⟩ exP1), a.noWrap exSem exSt1 := by decide

end Amoco.Mapper.Props
