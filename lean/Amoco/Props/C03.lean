/-
  C03 — Instruction specifications mean what the format language says.
-/
import Amoco.Model.Spec
import Amoco.Proofs.Spec

namespace Amoco.Spec.Props

open Amoco Amoco.Spec

/-- For every format the grammar admits (`GrammarOK`, decidable: any length, both directions, every
    directive kind, overlapping `=` fields, variable tails, names already bound in `iattr`/`fargs`),
    `buildspec` **as coded** (list reversal for `<`, running index `i`, `count`, the `=` overlap
    arithmetic, `(*)` sizing, the `redefined`/`out of bound`/`mismatch` tests) succeeds and its fix, mask
    and extractors are the documented meaning (`refCells`, `refFields`: written-order positions,
    direction aware).  Proof: processing-order form of the reference + loop invariant `bloop_inv`. -/
theorem buildspec_meaning (a : Ast) (keysA keysF : List String)
    (hok : GrammarOK a keysA keysF = true) :
    ∃ s, buildspec a keysA keysF = .ok s ∧
      s.fixSize = bitSize a ∧
      s.fix = cellsFix (refCells a) ∧ s.mask = cellsMask (refCells a) ∧
      s.exts.map Ext.toRField = refFields a ∧
      s.size = a.size.getD 0 ∧ s.pfx = a.pfx ∧ s.xdata = a.xdata := by
  simp only [GrammarOK, Bool.and_eq_true] at hok
  obtain ⟨⟨⟨⟨hsl, _⟩, hnd⟩, hov⟩, hsz⟩ := hok
  have hT := sumE_total a hsl hsz
  have hT' : sumE (starWidth a) a.items = bitSize a := by rw [← sumE_processed]; exact hT
  obtain ⟨st, h1, h2, ⟨hc, _, h3, h4⟩, h5⟩ :=
    bloop_inv (bitSize a) (a.dir == .lsb) keysA keysF (starWidth a) (processed a) {} []
      hsl ((Nat.zero_add _).trans hT) ⟨rfl, rfl, rfl, rfl⟩ hnd
      (fun e he => by cases he) (ovlOK_processed a hT' hov)
  have hne : (st.count != bitSize a) = false := by rw [hc, h2]; exact bne_self_eq_false _
  refine ⟨{ size := a.size.getD 0, fixSize := bitSize a, fix := st.fix, mask := st.mask,
            pfx := a.pfx, xdata := a.xdata, exts := st.exts.reverse }, ?_, rfl, ?_, ?_, ?_, rfl, rfl, rfl⟩
  · simp only [buildspec, h1, hne]
    rfl
  · simpa [refCells_processed] using h3
  · simpa [refCells_processed] using h4
  · simp only [h5, List.append_nil, List.reverse_reverse]
    exact (refFields_processed a hT').symm

-- non-vacuity: AVR-style `<` format with an overlapping `=` field (s re-reads the fixed bit
-- written just before it) — the grammar admits it, and this is what `buildspec` returns
example :
    (parse "16<[ 1001 000=s d(5) 1100 ]").map (fun a => (GrammarOK a, (buildspec a).toOption)) =
      some (true, some ({ size := 16, fixSize := 16, fix := 0x900c, mask := 0xfe0f, pfx := false,
                          xdata := false,
                          exts := [⟨false, "d", .int, 4, some 9, false⟩,
                                 ⟨false, "s", .int, 9, some 10, false⟩] } : Spec)) := by decide +kernel

-- non-vacuity: x86-style `>` variable-length format with a byte, fixed bits, a field and a tail
example :
    (parse "*>[ {0f} 1000 cc(4) ~data(*) ]").map (fun a => (GrammarOK a, (buildspec a).toOption)) =
      some (true, some ({ size := 0, fixSize := 16, fix := 0x010f, mask := 0x0fff, pfx := false,
                          xdata := false,
                          exts := [⟨false, "cc", .int, 12, some 16, true⟩,
                                 ⟨false, "data", .bits, 16, none, true⟩] } : Spec)) := by decide +kernel

-- non-vacuity with names already bound: `.cond` goes to `iattr`, `cond` to `fargs`; same symbol in
-- the two dictionaries is admitted, a symbol already in the *same* dictionary is not
example :
    (parse "8>[ .cond(4) cond(4) ]").map
        (fun a => (GrammarOK a ["x"] ["y"], GrammarOK a ["cond"] [], (buildspec a ["x"] ["y"]).toOption.map (·.exts.length))) =
      some (true, false, some 2) := by decide +kernel

/-- A spec accepts a byte string iff it is long enough and every fixed bit of the instruction word
    (fetched with the given endianness) has the value the format fixes. -/
theorem decode_accepts_iff (s : Spec) (istr : List Nat) (be : Bool) :
    (decode s istr be).isSome ↔
      (s.fixSize / 8 ≤ istr.length ∧ (word s istr be) &&& s.mask = s.fix) := by
  unfold decode
  by_cases h1 : istr.length < s.fixSize / 8
  · simp [h1]; omega
  · by_cases h2 : (word s istr be) &&& s.mask = s.fix
    · simp [h1, h2]; omega
    · simp [h1, h2]

theorem decode_accepts_bits (s : Spec) (istr : List Nat) (be : Bool)
    (h : (decode s istr be).isSome) (k : Nat) (hk : s.mask.testBit k = true) :
    (word s istr be).testBit k = s.fix.testBit k := by
  have := ((decode_accepts_iff s istr be).mp h).2
  rw [← this, Nat.testBit_and, hk, Bool.and_true]

/-- An accepted word delivers, for every extractor, `deliver` applied to the instruction word (extended by
    the tail for variable-length specs); that this is the bits `[sta, sto)` is `sliceBits_testBit`. -/
theorem decode_fields (s : Spec) (istr : List Nat) (be : Bool) (ds : List Delivered)
    (h : decode s istr be = some ds) :
    ds = s.exts.map (deliver (fullBits s istr be)) := by
  unfold decode at h
  split at h
  · cases h
  · split at h
    · cases h
    · exact (Option.some.inj h).symm

theorem sliceBits_testBit (v n p : Nat) (q : Option Nat) (j : Nat) :
    (sliceBits v n p q).1.testBit j =
      (decide (j < (sliceBits v n p q).2) && v.testBit (min p (min (q.getD n) n) + j)) := by
  unfold sliceBits
  simp only [testBit_bitsAt]

/-- Fixed-length specs read only their own bytes: trailing bytes never change the outcome. -/
theorem decode_reads_prefix (s : Spec) (b t : List Nat) (be : Bool)
    (hfix : s.size ≠ 0) (hlen : s.fixSize / 8 ≤ b.length) :
    decode s (b ++ t) be = decode s b be := by
  have hw : word s (b ++ t) be = word s b be := by
    unfold word
    rw [List.take_append_of_le_length hlen]
  have hf : fullBits s (b ++ t) be = fullBits s b be := by
    unfold fullBits
    simp [hfix, hw]
  unfold decode
  rw [hw, hf]
  have h1 : ¬ (b ++ t).length < s.fixSize / 8 := by
    rw [List.length_append]; omega
  have h2 : ¬ b.length < s.fixSize / 8 := by omega
  rw [if_neg h1, if_neg h2]

/-- the `/r` and `/digit` macros of the x86 spec files -/
theorem modrm_macro_r :
    expandIa32 "*>[ {0f}{b6} /r ]" = some "*>[ {0f}{b6} RM(3) REG(3) Mod(2) ~data(*) ]" := by decide +kernel

theorem modrm_macro_digit :
    ∀ d : Fin 8, expandIa32 (String.ofList ("*>[ {ff} /".toList ++ [Char.ofNat (48 + d.val)] ++ " ]".toList))
      = some (String.ofList ("*>[ {ff} RM(3) ".toList ++ bits3 d.val ++ " Mod(2) ~data(*) ]".toList)) := by
  intro d
  rw [expandIa32_eq, String.toList_ofList]
  refine congrArg (Option.map String.ofList) (?_ : _ = some _)
  revert d
  decide +kernel

-- non-vacuity: a concrete spec, word and tail meeting the hypotheses
example : (decode { size := 8, fixSize := 8, fix := 0x90, mask := 0xff, pfx := false, xdata := false, exts := [] }
            [0x90, 1, 2] false).isSome = true := by decide

end Amoco.Spec.Props
