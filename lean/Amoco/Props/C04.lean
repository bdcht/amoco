/-
  C04 — Decoder index is equivalent to a most-constrained-first scan.
-/
import Amoco.Proofs.Dis
import Amoco.Proofs.DisKey
import Amoco.Proofs.DisSetup

namespace Amoco.Dis.Props

open Amoco Amoco.Dis

/-- **The decision tree is only an index.**  For every tree that passes the routing check for the
    weight-sorted spec list `S` (the real trees are checked on every run; `setup` always produces
    such a tree, see `setup_checks`), every decode-outcome function whose non-rejections imply that
    the spec's justified fixed bits are present in the search key, every pending state, input and
    recursion budget, `__call__` through the tree returns the same outcome — and leaves the same
    pending state — as scanning all of `S` in order. Includes prefix recursion and short inputs. -/
theorem lookup_eq_scan (be : Bool) (maxlen : Nat) (t : Tree) (S : List SpecK)
    (hc : checkTree be maxlen t S = true) {I : Type}
    (dec : Option I → List Nat → SpecK → Out I) (xd : I → Option I)
    (hacc : ∀ st bytes s, s ∈ S → dec st bytes s ≠ .reject →
              key be maxlen bytes &&& s.amask be maxlen = s.afix be maxlen)
    (r : Bool) (fuel : Nat) (st : Option I) (bytes : List Nat) :
    call r (fun bs => route t (key be maxlen bs)) dec xd fuel st bytes
      = call r (fun _ => S) dec xd fuel st bytes := by
  refine call_rel r _ _ dec xd (fun _ b1 b2 => b1 = b2) ?_ ?_ fuel st bytes bytes rfl
  · rintro st b _ rfl
    exact firstHit_route be maxlen (dec st b) (key be maxlen b) t S hc (hacc st b)
  · rintro _ _ _ _ _ rfl _ _
    rfl

/-- The hypothesis of `lookup_eq_scan` holds for `ispec.decode` (little-endian fetch): a spec that
    does not raise `DecodeError` has its fixed bits in the key. -/
theorem accept_in_key_le (s : Spec.Spec) (bytes : List Nat) (maxlen : Nat)
    (h8 : s.fixSize % 8 = 0) (hm : s.fixSize / 8 ≤ maxlen) (hmask : s.mask < 2 ^ s.fixSize)
    (hacc : (Spec.decode s bytes false).isSome) :
    key false maxlen bytes &&& adj false maxlen s.fixSize s.mask = adj false maxlen s.fixSize s.fix :=
  accept_key false s bytes maxlen h8 hm hmask hacc

/-- Same for big-endian fetch, where key, mask and fix are left-justified to `maxlen*8` bits
    (16-bit specs among 32-bit ones). -/
theorem accept_in_key_be (s : Spec.Spec) (bytes : List Nat) (maxlen : Nat)
    (h8 : s.fixSize % 8 = 0) (hm : s.fixSize / 8 ≤ maxlen) (hmask : s.mask < 2 ^ s.fixSize)
    (hacc : (Spec.decode s bytes true).isSome) :
    key true maxlen bytes &&& adj true maxlen s.fixSize s.mask = adj true maxlen s.fixSize s.fix :=
  accept_key true s bytes maxlen h8 hm hmask hacc

/-- the index never hides a matching specification. -/
theorem index_hides_nothing (be : Bool) (maxlen : Nat) (t : Tree) (S : List SpecK)
    (hc : checkTree be maxlen t S = true) {I : Type} (dec : SpecK → Out I) (b : Nat)
    (hacc : ∀ s ∈ S, dec s ≠ .reject → b &&& s.amask be maxlen = s.afix be maxlen) :
    firstHit dec (route t b) = firstHit dec S :=
  firstHit_route be maxlen dec b t S hc hacc

/-- `disassembler.setup`, as coded, always builds a tree that passes the routing check. -/
theorem setup_checks (be : Bool) (maxlen fuel : Nat) (S : List SpecK) :
    checkTree be maxlen (setup be maxlen fuel S) (sortW S) = true :=
  Amoco.Dis.setup_checks be maxlen fuel S

/-- **End to end on the model**: decoding through the tree that `setup` builds from ANY specification
    list equals the most-constrained-first scan of that list. -/
theorem lookup_setup_eq_scan (be : Bool) (maxlen sfuel : Nat) (S : List SpecK) {I : Type}
    (dec : Option I → List Nat → SpecK → Out I) (xd : I → Option I)
    (hacc : ∀ st bytes s, s ∈ sortW S → dec st bytes s ≠ .reject →
              key be maxlen bytes &&& s.amask be maxlen = s.afix be maxlen)
    (r : Bool) (fuel : Nat) (st : Option I) (bytes : List Nat) :
    call r (fun bs => route (setup be maxlen sfuel S) (key be maxlen bs)) dec xd fuel st bytes
      = call r (fun _ => sortW S) dec xd fuel st bytes :=
  lookup_eq_scan be maxlen _ _ (setup_checks be maxlen sfuel S) dec xd hacc r fuel st bytes

-- non-vacuity: a two-level tree over six specs passes the check and routes a key
def exS : List SpecK :=
  [⟨0, 8, 0xff, 0x10, .no⟩, ⟨1, 8, 0xff, 0x11, .no⟩, ⟨2, 8, 0xff, 0x20, .no⟩,
   ⟨3, 8, 0xff, 0x21, .no⟩, ⟨4, 8, 0xf0, 0x30, .no⟩, ⟨5, 8, 0xf0, 0x40, .prefix⟩]
example : checkTree false 1 (setup false 1 7 exS) (sortW exS) = true := by decide +kernel
example : (route (setup false 1 7 exS) (key false 1 [0x21, 9])).map (·.id) = [2, 3] := by decide +kernel

end Amoco.Dis.Props
