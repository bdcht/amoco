/-
  C05 — A decoded instruction is determined by the bytes it consumes.
-/
import Amoco.Props.C04
import Amoco.Props.C11
import Amoco.Props.C03
import Amoco.Proofs.LebOperand

namespace Amoco.Dis.Props05

open Amoco Amoco.Dis

/-- A decoded instruction consumes a prefix of its input. -/
theorem consumes_prefix (cands : List Nat → List SpecK)
    (accepts : SpecK → List Nat → Bool) (hook : SpecK → List Nat → Option Ins → HookOut)
    (xd : Ins → Option Ins) (hxd : ∀ i i', xd i = some i' → i'.bytes = i.bytes)
    (fuel : Nat) (bytes : List Nat) (i : Ins)
    (h : (call true cands (decBytes accepts hook) xd fuel none bytes).2 = .instr i) :
    i.bytes = bytes.take i.bytes.length ∧ i.bytes.length ≤ bytes.length := by
  have hp := Props11.no_prefix_leak cands accepts hook xd hxd fuel bytes i h
  exact ⟨List.prefix_iff_eq_take.mp hp, hp.length_le⟩

/-- …and its length is at least one byte when no spec is empty. -/
theorem length_pos (cands : List Nat → List SpecK) (hpos : ∀ b, ∀ s ∈ cands b, 8 ≤ s.size)
    (accepts : SpecK → List Nat → Bool) (hook : SpecK → List Nat → Option Ins → HookOut)
    (xd : Ins → Option Ins) (hxd : ∀ i i', xd i = some i' → i'.bytes = i.bytes) :
    ∀ (fuel : Nat) (st : Option Ins) (bytes : List Nat) (i : Ins),
      (call true cands (decBytes accepts hook) xd fuel st bytes).2 = .instr i → 1 ≤ i.bytes.length := by
  intro fuel st bytes
  refine call_instr (fun _ _ => True) (fun i => 1 ≤ i.bytes.length) ?_ ?_ fuel st bytes trivial
  · intro st bytes s i0 _ hfh
    have hs := firstHit_some _ _ _ _ hfh
    obtain ⟨n, hn, hge, _, hb⟩ := decBytes_ok accepts hook st bytes s i0 hs.1
    have h8 := hpos bytes s hs.2
    rw [hb, List.length_append, List.length_take]
    exact ⟨by omega, fun _ => trivial⟩
  · intro i i' h hx
    rw [hxd i i' hx]
    exact h

/-- **The index adds no dependence on trailing bytes.**  Through a checked tree, if every
    specification gives the same outcome on two inputs (at every offset reached by the prefix
    recursion), `__call__` returns the same result on both — although the two search keys, taken from
    the first `maxlen` bytes, may differ.  With `b2 = b1.take n ++ t'` this is "decoding the consumed
    bytes followed by anything else yields the same instruction"; with `b2 = b1.take maxlen` it is
    "a fetch window of the advertised maximum length suffices". -/
theorem index_adds_no_tail_dependence (be : Bool) (maxlen : Nat) (t : Tree) (S : List SpecK)
    (hc : checkTree be maxlen t S = true) {I : Type}
    (dec : Option I → List Nat → SpecK → Out I) (xd : I → Option I)
    (hacc : ∀ st bytes s, s ∈ S → dec st bytes s ≠ .reject →
              key be maxlen bytes &&& s.amask be maxlen = s.afix be maxlen)
    (b1 b2 : List Nat)
    (hsame : ∀ k st s, s ∈ S → dec st (b1.drop k) s = dec st (b2.drop k) s)
    (r : Bool) (fuel : Nat) (st : Option I) :
    call r (fun bs => route t (key be maxlen bs)) dec xd fuel st b1
      = call r (fun bs => route t (key be maxlen bs)) dec xd fuel st b2 := by
  rw [Props.lookup_eq_scan be maxlen t S hc dec xd hacc, Props.lookup_eq_scan be maxlen t S hc dec xd hacc]
  refine call_rel r _ _ dec xd (fun _ x y => ∃ k, x = b1.drop k ∧ y = b2.drop k) ?_ ?_
    fuel st b1 b2 ⟨0, rfl, rfl⟩
  · rintro st _ _ ⟨k, rfl, rfl⟩
    exact firstHit_congr _ _ S (hsame k st)
  · rintro _ _ _ s _ ⟨k, rfl, rfl⟩ _ _
    exact ⟨k + s.size / 8, by rw [List.drop_drop], by rw [List.drop_drop]⟩

/-- ISAs without prefix specifications (all fixed-width RISC ISAs shipped: mips, sparc, ppc32, armv8,
    rv32i/rv64i, sh2, tricore …): nothing recurses, so agreement of the specifications at offset 0 —
    which `fixed_spec_ignores_tail` gives for inputs equal on the first `size/8` bytes — is enough. -/
theorem no_prefix_isa_determined (be : Bool) (maxlen : Nat) (t : Tree) (S : List SpecK)
    (hc : checkTree be maxlen t S = true) (hnp : ∀ s ∈ S, s.pfx ≠ .prefix) {I : Type}
    (dec : Option I → List Nat → SpecK → Out I) (xd : I → Option I)
    (hacc : ∀ st bytes s, s ∈ S → dec st bytes s ≠ .reject →
              key be maxlen bytes &&& s.amask be maxlen = s.afix be maxlen)
    (b1 b2 : List Nat) (st : Option I)
    (hsame : ∀ s, s ∈ S → dec st b1 s = dec st b2 s)
    (r : Bool) (fuel : Nat) :
    call r (fun bs => route t (key be maxlen bs)) dec xd fuel st b1
      = call r (fun bs => route t (key be maxlen bs)) dec xd fuel st b2 := by
  rw [Props.lookup_eq_scan be maxlen t S hc dec xd hacc, Props.lookup_eq_scan be maxlen t S hc dec xd hacc]
  refine call_rel r _ _ dec xd (fun st' x y => st' = st ∧ x = b1 ∧ y = b2) ?_ ?_
    fuel st b1 b2 ⟨rfl, rfl, rfl⟩
  · rintro _ _ _ ⟨rfl, rfl, rfl⟩
    exact firstHit_congr _ _ S hsame
  · rintro _ _ _ s i ⟨rfl, rfl, rfl⟩ hfh hp
    exact absurd hp (hnp s (firstHit_some _ _ _ _ hfh).2)

/-- The per-spec premise for fixed-length specifications (from C03).  Variable-length tails (`(*)` fields
    handed to hooks that parse ModRM/SIB, immediates, LEB128…) are *not* covered by a theorem: hooks are
    Python code; the harness checks the premise per generated case. -/
theorem fixed_spec_ignores_tail (s : Spec.Spec) (b t : List Nat) (be : Bool)
    (hfix : s.size ≠ 0) (hlen : s.fixSize / 8 ≤ b.length) :
    Spec.decode s (b ++ t) be = Spec.decode s b be :=
  Spec.Props.decode_reads_prefix s b t be hfix hlen

end Amoco.Dis.Props05

/-! The variable-length specifications of the DWARF and WebAssembly decoders have their tail parsed by the
LEB128 operand helper (`_leb128` / `_leb`, model `Leb128.lebOperand`, tied to the real helpers by
correspondence on every run).  For that helper the premise of `index_adds_no_tail_dependence` is a theorem. -/

namespace Amoco.Leb128.Props05

open Amoco.Leb128

theorem leb_operand_bounds (signed : Bool) (data : List UInt8) (off : Nat) (v : Int) (n : Nat)
    (h : lebOperand signed data off = some (v, n)) : 1 ≤ n ∧ off + n ≤ data.length := by
  rw [lebOperand_eq] at h
  have := lebOpL_bounds signed _ v n h
  rw [List.length_drop] at this
  omega

/-- **Determined by the consumed bytes**, followed by any tail (in particular by nothing). -/
theorem leb_operand_ignores_tail (signed : Bool) (data : List UInt8) (off : Nat) (v : Int) (n : Nat)
    (h : lebOperand signed data off = some (v, n)) (t : List UInt8) :
    lebOperand signed (data.take (off + n) ++ t) off = some (v, n) := by
  have hb := leb_operand_bounds signed data off v n h
  rw [lebOperand_eq] at h ⊢
  have := lebOpL_take_append signed _ v n h t
  have e : (data.take (off + n) ++ t).drop off = (data.drop off).take n ++ t := by
    rw [List.drop_append_of_le_length (by rw [List.length_take]; omega), List.drop_take]
    congr 2; omega
  rw [e]; exact this

/-- **No truncation is accepted**: the instruction is not reported with fewer bytes than it needs. -/
theorem leb_operand_truncation_rejected (signed : Bool) (data : List UInt8) (off : Nat) (v : Int) (n : Nat)
    (h : lebOperand signed data off = some (v, n)) (k : Nat) (hk : k < n) :
    lebOperand signed (data.take (off + k)) off = none := by
  rw [lebOperand_eq] at h ⊢
  have := lebOpL_truncated signed _ v n h k hk
  have e : (data.take (off + k)).drop off = (data.drop off).take k := by
    rw [List.drop_take]; congr 1; omega
  rw [e]; exact this

/-- only `data[off : off+n]` matters. -/
theorem leb_operand_depends_on_consumed (signed : Bool) (d1 d2 : List UInt8) (o1 o2 : Nat) (v : Int) (n : Nat)
    (h : lebOperand signed d1 o1 = some (v, n))
    (hsame : (d2.drop o2).take n = (d1.drop o1).take n) :
    lebOperand signed d2 o2 = some (v, n) := by
  rw [lebOperand_eq] at h ⊢
  have h1 := lebOpL_take_append signed _ v n h ((d2.drop o2).drop n)
  rw [← hsame, List.take_append_drop] at h1
  exact h1

/-- non-vacuity: `e5 8e 26` (624485) followed by other bytes, at offset 1; its 2-byte truncation is rejected. -/
example : lebOperand false [0x10, 0xe5, 0x8e, 0x26, 0x99] 1 = some (624485, 3) ∧
          lebOperand false [0x10, 0xe5, 0x8e] 1 = none ∧
          lebOperand true [0x7f] 0 = some (-1, 1) := by decide

end Amoco.Leb128.Props05
