/-
  C06 — Instruction semantics match the architecture (x86: the CPU, RISC-V: the manual).
  RISC-V in full: the hand-written table `expected` means one step of the reference interpreter `rvRef`, and
  the table regenerated from amoco's asm.py on every run (Generated/RvSem.lean) is that table.
  x86 in part: the shared flag / extension / condition-code helpers; the ALU bodies are in Props/C06X86.lean.
-/
import Amoco.Proofs.Rv
import Generated.RvSem

namespace Amoco.Rv.Props

open Amoco.Rv

/-- I-type (`~imm(12)`, `cst(imm.int(-1), XLEN)`): ADDI…, loads, JALR -/
theorem rv_imm_I (n : Nat) (w : BitVec 32) : BitVec.ofInt n (fld w 20 12).sint = immI n w := ofInt_immI n w
/-- S-type (`imm = imm1 // imm2`, `.int(-1)`) -/
theorem rv_imm_S (n : Nat) (w : BitVec 32) :
    BitVec.ofInt n ((fld w 7 5).cat (fld w 25 7)).sint = immS n w :=
  congrArg (BitVec.ofInt n) (sint_eq_toInt (w.extractLsb' 25 7 ++ w.extractLsb' 7 5) rfl
    (by simp only [fld, toNat_append_add]; omega))
/-- B-type (`imm1 // imm2 // imm3 // imm4`, `cst(imm.int(-1), XLEN) << 1`) -/
theorem rv_imm_B (n : Nat) (w : BitVec 32) :
    BitVec.ofInt n (((((fld w 8 4).cat (fld w 25 6)).cat (fld w 7 1)).cat (fld w 31 1)).sint * 2) = immB n w := by
  rw [immB, BitVec.signExtend, BitVec.toInt_append_zero, Int.mul_comm]
  exact congrArg (fun i => BitVec.ofInt n (2 * i))
    (sint_eq_toInt _ rfl (by simp only [Bits.cat, fld, toNat_append_add]; omega))
theorem rv_imm_J (n : Nat) (w : BitVec 32) :
    BitVec.ofInt n (((((fld w 21 10).cat (fld w 20 1)).cat (fld w 12 8)).cat (fld w 31 1)).sint * 2) = immJ n w := by
  rw [immJ, BitVec.signExtend, BitVec.toInt_append_zero, Int.mul_comm]
  exact congrArg (fun i => BitVec.ofInt n (2 * i))
    (sint_eq_toInt _ rfl (by simp only [Bits.cat, fld, toNat_append_add]; omega))
/-- U-type, RV64I hook (`~imm(20)`, `cst(imm.int(-1) << 12, 64)`), any XLEN -/
theorem rv_imm_U (n : Nat) (w : BitVec 32) :
    BitVec.ofInt n ((fld w 12 20).sint * 2 ^ 12) = immU n w := by
  rw [immU, BitVec.signExtend, BitVec.toInt_append_zero, Int.mul_comm]
  exact congrArg (fun i => BitVec.ofInt n (2 ^ 12 * i)) (sint_eq_toInt _ rfl rfl)
/-- U-type, RV32I hook (`imm(20)`, `cst(imm << 12, 32)`): an unsigned 32-bit constant, the same 32 bits -/
theorem rv_imm_U32 (w : BitVec 32) :
    BitVec.ofInt 32 (((fld w 12 20).1 * 2 ^ 12 : Nat) : Int) = immU 32 w := by
  have e : (fld w 12 20).1 * 2 ^ 12 = (w.extractLsb' 12 20 ++ 0#12).toNat := by
    simp only [fld, toNat_append_add, BitVec.toNat_ofNat]
    omega
  rw [BitVec.ofInt_natCast, e, BitVec.ofNat_toNat]
  simp [immU]

theorem decode_in_isa (isa : Isa) (w : BitVec 32) (m : Mn) (h : decode isa w = some m) :
    (isa == .rv64 || !m.only64) = true := by
  unfold decode at h
  rw [Option.filter_eq_some_iff] at h
  exact h.2

/-- C06 for RISC-V: for every ISA, mnemonic, state and word decoding to that mnemonic
    (ECALL excepted, see `rv_expected_ecall`), the expected semantics term run on the operands built
    by the decoder hook yields exactly the reference interpreter's next state. -/
theorem rv_expected_correct (isa : Isa) (m : Mn) (w : BitVec 32) (σ : State isa.xlen)
    (hd : decode isa w = some m) (hm : m ≠ .ECALL) :
    semIdeal (expected isa m) (operands isa m w) σ = some (rvRef isa σ w) := by
  have hin := decode_in_isa isa w m hd
  have hr : rvRef isa σ w = exec isa m w σ := by simp [rvRef, hd]
  have h64 : m.only64 = true → isa = .rv64 := by
    intro h; cases isa
    · simp [h] at hin
    · rfl
  rw [hr]
  -- each line: the shape of the body, what its operands read back as (`rfl` for a register), the operator's lemma
  cases m
  case ECALL => exact absurd rfl hm
  case EBREAK => rfl
  case FENCE | FENCE_I => exact semIdeal_npc _ σ
  case LUI =>
    cases isa
    · exact semIdeal_wr _ rfl (ev_opnd rfl (readOpnd_cst (rv_imm_U32 w)))
    · exact semIdeal_wr _ rfl (ev_opnd rfl (readOpnd_cst (rv_imm_U _ w)))
  case AUIPC =>
    cases isa
    · exact semIdeal_wr_pc _ _ rfl (ev_bin rfl (evalE_opnd rfl (readOpnd_cst (rv_imm_U32 w))) (binop_arith rfl _ _))
        (ev_npc_set _ _ _ _)
    · exact semIdeal_wr_pc _ _ rfl (ev_bin rfl (evalE_opnd rfl (readOpnd_cst (rv_imm_U _ w))) (binop_arith rfl _ _))
        (ev_npc_set _ _ _ _)
  case JAL =>
    exact semIdeal_wr_pc _ _ rfl (ev_npc _ _)
      (ev_bin (evalE_pc_set _ _ _ _) (evalE_opnd rfl (readOpnd_cst (rv_imm_J _ w))) (binop_arith rfl _ _))
  case JALR =>
    exact semIdeal_jalr _ rfl
      (evalE_bin_int (evalE_bin rfl (evalE_opnd rfl (readOpnd_cst (rv_imm_I _ w))) (binop_add _ _ _ _)) (binop_and_neg2 _ _))
  case BEQ | BNE | BLT | BGE | BLTU | BGEU =>
    exact semIdeal_branch _ _ (evalE_bin rfl rfl (binop_cmp rfl)) (evalE_opnd rfl (readOpnd_cst (rv_imm_B _ w)))
  case LB | LH | LW =>
    exact semIdeal_ld _ rfl
      (ev_sext _ (Nat.le_trans (by decide) isa.le_xlen) (ev_opnd rfl (readOpnd_load _ w _ _ rfl)))
  case LBU | LHU | LWU =>
    exact semIdeal_ld _ rfl
      (ev_zext _ (Nat.le_trans (by decide) isa.le_xlen) (ev_opnd rfl (readOpnd_load _ w _ _ rfl)))
  case LD =>
    obtain rfl := h64 rfl
    exact semIdeal_ld _ rfl (ev_sext _ (Nat.le_refl _) (ev_opnd rfl (readOpnd_load _ w _ _ rfl)))
  case SB | SH =>
    exact semIdeal_st_low (rv_imm_S _ w) rfl rfl rfl (by decide) (Nat.le_trans (by decide) isa.le_xlen)
  case SW =>
    cases isa
    · exact semIdeal_st (σ.get (fRs2 w)) (rv_imm_S _ w) rfl rfl (ev_opnd rfl rfl)
    · exact semIdeal_st_low (rv_imm_S _ w) rfl rfl rfl (by decide) (by decide)
  case SD =>
    obtain rfl := h64 rfl
    exact semIdeal_st (σ.get (fRs2 w)) (rv_imm_S _ w) rfl rfl (ev_opnd rfl rfl)
  case ADD | SUB | XOR | OR | AND =>
    exact semIdeal_wr _ rfl (ev_bin rfl rfl (binop_arith rfl _ _))
  case ADDI | XORI | ORI | ANDI =>
    exact semIdeal_wr _ rfl (ev_bin rfl (evalE_opnd rfl (readOpnd_cst (rv_imm_I _ w))) (binop_arith rfl _ _))
  case SLT | SLTU =>
    exact semIdeal_wr _ rfl (ev_setIf _ (evalE_bin rfl rfl (binop_cmp rfl)))
  case SLTI =>
    exact semIdeal_wr _ rfl
      (ev_setIf _ (evalE_bin rfl (evalE_signed (evalE_opnd rfl (readOpnd_cst (rv_imm_I _ w)))) (binop_cmp rfl)))
  case SLTIU =>
    exact semIdeal_wr _ rfl (ev_setIf _ (evalE_bin rfl (evalE_opnd rfl (readOpnd_cst (rv_imm_I _ w))) (binop_cmp rfl)))
  case SLL | SRL | SRA =>
    exact semIdeal_wr _ rfl (ev_bin rfl (evalE_and_mask _ isa.xlen_eq isa.shBits_le rfl) (binop_shift rfl _))
  case SLLI | SRLI =>
    exact semIdeal_wr _ rfl
      (ev_bin rfl (evalE_unsigned (evalE_opnd rfl (readOpnd_shamt _ _ _ w isa.shBits_le))) (binop_shift rfl _))
  case SRAI =>
    exact semIdeal_wr _ rfl (ev_bin rfl (evalE_opnd rfl (readOpnd_shamt _ _ _ w isa.shBits_le)) (binop_shift rfl _))
  case ADDIW =>
    obtain rfl := h64 rfl
    exact semIdeal_wr _ rfl (ev_w rfl (evalE_opnd rfl (readOpnd_cst (ofInt_immIW w))) (binop_arith rfl _ _))
  case SLLIW | SRLIW | SRAIW =>
    obtain rfl := h64 rfl
    exact semIdeal_wr _ rfl (ev_w rfl (evalE_opnd rfl (readOpnd_shamt _ 5 64 w (by decide))) (binop_shift rfl _))
  case ADDW | SUBW =>
    obtain rfl := h64 rfl
    exact semIdeal_wr _ rfl (ev_w rfl (evalE_w32 (by decide) rfl) (binop_arith rfl _ _))
  case SLLW | SRLW | SRAW =>
    obtain rfl := h64 rfl
    exact semIdeal_wr _ rfl (ev_w rfl (evalE_and_mask 32 (k := 5) rfl (by decide) rfl) (binop_shift rfl _))

/-- ECALL/EBREAK hand control to the execution environment; the unprivileged manual defines no register or
    memory effect and leaves the next pc to it: the expected term is the `@__npc` step alone. -/
theorem rv_expected_ecall (isa : Isa) (w : BitVec 32) (σ : State isa.xlen) :
    ∃ σ', semIdeal (expected isa .ECALL) (operands isa .ECALL w) σ = some σ' ∧ σ'.x = σ.x ∧ σ'.mem = σ.mem :=
  ⟨σ.withPc (σ.pc + 4), semIdeal_npc _ σ, rfl, rfl⟩

/-- non-vacuity: a concrete word meets the hypotheses (`add a0, a0, a1`, `addw`, `blt`) -/
example : decode .rv32 0x00b50533#32 = some .ADD := by decide
example : decode .rv64 0x00b5053b#32 = some .ADDW := by decide
example : decode .rv32 0x00b5053b#32 = none := by decide
example : decode .rv32 0xfe62cee3#32 = some .BLT := by decide

/-- the immediate operand the hooks build reads back, in any state, as the manual's immediate -/
theorem rv_fields (isa : Isa) (w : BitVec 32) (σ : State isa.xlen) :
    (readOpnd σ (cstOf (fld w 20 12).sint isa.xlen)).map Val.nosf = some (bv (immI isa.xlen w) false) ∧
    (readOpnd σ (cstOf ((((((fld w 8 4).cat (fld w 25 6)).cat (fld w 7 1)).cat (fld w 31 1)).sint) * 2) isa.xlen)).map Val.nosf
        = some (bv (immB isa.xlen w) false) ∧
    (readOpnd σ (cstOf ((((((fld w 21 10).cat (fld w 20 1)).cat (fld w 12 8)).cat (fld w 31 1)).sint) * 2) isa.xlen)).map Val.nosf
        = some (bv (immJ isa.xlen w) false) ∧
    (readOpnd σ (cstOf ((fld w 12 20).sint * 2 ^ 12) isa.xlen)).map Val.nosf = some (bv (immU isa.xlen w) false) := by
  exact ⟨congrArg _ (readOpnd_cst (rv_imm_I _ w)), congrArg _ (readOpnd_cst (rv_imm_B _ w)),
    congrArg _ (readOpnd_cst (rv_imm_J _ w)), congrArg _ (readOpnd_cst (rv_imm_U _ w))⟩

/-- (isa, mnemonic) pairs for which amoco defines no semantics function: only EBREAK, for which no
    register/memory effect is the reference behaviour.  (The RV64 W-forms and LWU/LD/SD have `i_`
    functions in rv64i/asm.py only since `fix: RV64I ADDW/… have semantics` and `fix: RV64I LD/LWU/SD
    have semantics`.)  `rv_generated_eq_expected` makes the list exact: adding a binding breaks it. -/
def noSemantics : List (Isa × Mn) :=
  [(.rv32, .EBREAK), (.rv64, .EBREAK)]

def genOk (isa : Isa) (m : Mn) : Bool :=
  if noSemantics.contains (isa, m) then (Generated.Rv.generated isa m).isNone
  else Generated.Rv.generated isa m == some (expected isa m)

/-- every `i_XXX` binding of rv32i/asm.py and rv64i/asm.py, translated into the DSL by
    `harness/translate_riscv.py` on this run, is syntactically the expected term; the mnemonics
    without a binding are exactly `noSemantics`. -/
theorem rv_generated_eq_expected :
    ∀ isa ∈ [Isa.rv32, Isa.rv64], ∀ m ∈ mnemonics isa, genOk isa m = true := by
  decide +kernel

end Amoco.Rv.Props

/-! x86: the formulas the instruction bodies of x64/asm.py and x86/asm.py share, at all widths.  Of the
bodies, the 13 integer ALU ones are modelled in Model/X86Sem.lean and proved in Props/C06X86.lean; the
others are not modelled (their agreement with the CPU is checked differentially against native
execution). -/
namespace Amoco.Flags.Props

open Amoco.Flags

theorem addWithCarry_result {n : Nat} (x y : BitVec n) (c : Bool) (hn : 0 < n) :
    (addWithCarry x y c).res.toNat = (x.toNat + y.toNat + c.toNat) % 2 ^ n := by
  simp [addWithCarry, BitVec.toNat_add, cin_toNat n c hn]

/-- `AddWithCarry`'s carry formula is the architectural CF: unsigned overflow of x + y + c -/
theorem addWithCarry_carry {m : Nat} (x y : BitVec (m + 1)) (c : Bool) :
    (addWithCarry x y c).carry = decide (2 ^ (m + 1) ≤ x.toNat + y.toNat + c.toNat) := awc_carry x y c

/-- `AddWithCarry`'s overflow formula is the architectural OF: signed overflow of x + y + c -/
theorem addWithCarry_overflow {m : Nat} (x y : BitVec (m + 1)) (c : Bool) :
    (addWithCarry x y c).overflow =
      decide (x.toInt + y.toInt + (c.toNat : Int) < -((2 ^ m : Nat) : Int) ∨
              ((2 ^ m : Nat) : Int) ≤ x.toInt + y.toInt + (c.toNat : Int)) := awc_overflow x y c

/-- `SubWithBorrow`'s carry formula is the architectural CF of SUB/SBB/CMP: a borrow is needed -/
theorem subWithBorrow_carry {m : Nat} (x y : BitVec (m + 1)) (c : Bool) :
    (subWithBorrow x y c).carry = decide (x.toNat < y.toNat + c.toNat) := swb_carry x y c

/-- `SubWithBorrow`'s overflow formula is the architectural OF: signed overflow of x - y - c -/
theorem subWithBorrow_overflow {m : Nat} (x y : BitVec (m + 1)) (c : Bool) :
    (subWithBorrow x y c).overflow =
      decide (x.toInt - y.toInt - (c.toNat : Int) < -((2 ^ m : Nat) : Int) ∨
              ((2 ^ m : Nat) : Int) ≤ x.toInt - y.toInt - (c.toNat : Int)) := swb_overflow x y c

/-- `parity8` with the table 0x9669 is the architectural PF: even parity of the low byte
    (complete table of the 256 bytes, `decide`) -/
theorem parity8_is_even_parity : ∀ x : BitVec 8, parity8 x = evenParity x := parity8_even

/-- … and with the table 0x6996 (`parity8` of x86/asm.py and x64/asm.py before `fix: x86/x64 parity
    flag is set for an even number of one bits in the low byte`) it is the complement of PF on every byte -/
theorem parity8_table_6996_is_odd_parity : ∀ x : BitVec 8, parity8With 0x6996#16 x = !evenParity x :=
  fun x => (parity8With_not 0x9669#16 x).trans (congrArg (!·) (parity8_even x))

/-- `halfcarry` is the architectural AF of an addition: carry out of bit 3 -/
theorem halfcarry_is_AF {n : Nat} (x y : BitVec n) (c : Bool) :
    halfcarry x y c = decide (16 ≤ x.toNat % 16 + y.toNat % 16 + c.toNat) := halfcarry_eq x y c

/-- `halfborrow` is the architectural AF of a subtraction: borrow into bit 3 -/
theorem halfborrow_is_AF {n : Nat} (x y : BitVec n) (c : Bool) :
    halfborrow x y c = decide (x.toNat % 16 < y.toNat % 16 + c.toNat) := halfborrow_eq x y c

/-- the condition codes evaluated on the flags CMP leaves are the unsigned / signed order relations -/
theorem condition_codes_after_cmp {m : Nat} (a b : BitVec (m + 1)) :
    cond 0x2 (cmpFlags a b) = a.ult b ∧ cond 0x3 (cmpFlags a b) = !(a.ult b) ∧
    cond 0x4 (cmpFlags a b) = (a == b) ∧ cond 0x5 (cmpFlags a b) = (a != b) ∧
    cond 0x6 (cmpFlags a b) = a.ule b ∧ cond 0x7 (cmpFlags a b) = !(a.ule b) ∧
    cond 0xC (cmpFlags a b) = a.slt b ∧ cond 0xD (cmpFlags a b) = !(a.slt b) ∧
    cond 0xE (cmpFlags a b) = a.sle b ∧ cond 0xF (cmpFlags a b) = !(a.sle b) := by
  obtain ⟨h1, h2, h3⟩ := cmp_core a b
  have h6 : cond 0x6 (cmpFlags a b) = a.ule b := by
    show ((cmpFlags a b).cf || (cmpFlags a b).zf) = _
    rw [h1, h2, Bool.eq_iff_iff]
    simp only [BitVec.ule_eq_decide, BitVec.ult_eq_decide, Bool.or_eq_true, decide_eq_true_eq, beq_iff_eq,
      ← BitVec.toNat_inj]
    omega
  have hE : cond 0xE (cmpFlags a b) = a.sle b := by
    rw [BitVec.sle_eq_slt_or_eq, Bool.or_comm, ← h2, ← h3]; rfl
  refine ⟨h1, congrArg (!·) h1, h2, congrArg (!·) h2, h6, ?_, h3, ?_, hE, ?_⟩
  · rw [← h6]; exact (Bool.not_or _ _).symm
  · rw [← h3]; exact (Bool.not_not _).symm
  · rw [← hE]; exact ((Bool.not_or _ _).trans (congrArg _ (Bool.not_not _))).symm

/-- a 32-bit register destination zeroes the upper half of the 64-bit register and keeps the value -/
theorem r32_destination_zero_extends (old v : BitVec 64) :
    (writeReg old 32 v).extractLsb' 32 32 = 0#32 ∧ (writeReg old 32 v).extractLsb' 0 32 = v.extractLsb' 0 32 := by
  constructor <;> apply BitVec.eq_of_toNat_eq
  · simp [writeReg, BitVec.extractLsb'_toNat, Nat.shiftRight_eq_div_pow]
    omega
  · simp [writeReg, BitVec.extractLsb'_toNat]

/-- non-vacuity: 0x7f + 1 overflows signed, not unsigned; 0xff + 1 the other way round; CMP 3,5 -/
example : (addWithCarry 0x7f#8 0x01#8 false).overflow = true ∧ (addWithCarry 0x7f#8 0x01#8 false).carry = false := by decide
example : (addWithCarry 0xff#8 0x01#8 false).overflow = false ∧ (addWithCarry 0xff#8 0x01#8 false).carry = true := by decide
example : cond 0xC (cmpFlags 0xfd#8 0x05#8) = true ∧ cond 0x2 (cmpFlags 0xfd#8 0x05#8) = false := by decide

end Amoco.Flags.Props

