/-
  C06, x86 half — the bodies of the integer ALU instructions (ADD SUB CMP AND OR XOR TEST INC DEC NEG NOT
  ADC SBB) of amoco/arch/x64/asm.py and amoco/arch/x86/asm.py, for both modes, every operand width ≥ 1, all
  operand values and incoming flags.
-/
import Amoco.Proofs.X86Sem
import Generated.X86Sem

namespace Amoco.X86Sem.Props
open Amoco.X86Sem Amoco.Flags

/-- the body advances the instruction pointer once, writes exactly the destination value the SDM defines
    (nothing for CMP/TEST; through `_r32_zx64` in 64-bit mode) and leaves every status flag in a state the
    SDM allows (set per result / not affected / undefined). -/
theorem x86_expected_correct {k : Nat} (ar : Arch) (m : Mn) (a b : BitVec (k + 1)) (f : Fl6) :
    ∃ o, run (expected ar m) a b f.cf = some o ∧ o.rip = 1 ∧ conforms o f (ref m a b f.cf) = true
      ∧ o.dst.isSome = m.writes ∧ o.zx = (m.writes && ar == .x64) := by
  -- in every case the first `rfl` runs the body: it fixes the outcome `o`, a record of the helpers applied
  -- to `a`, `b`, `f.cf`; what remains is `conforms` and `zx`, flag by flag.
  cases m
  -- the SDM side is `refAdd`, which `refAdd_eq` puts in the same helpers; the second operand of INC/DEC is
  -- `BitVec.ofNat _ 1` in the body and the literal `1` in the reference, one normal form to `simp`
  case ADD | ADC | INC =>
    refine ⟨_, rfl, rfl, ?_, rfl, ?_⟩ <;> simp [conforms, Eff.ok, ref, refAdd_eq, Out.setFlag, Mn.writes]
  -- likewise `refSub` and `refSub_eq`
  case SUB | SBB | CMP | DEC =>
    refine ⟨_, rfl, rfl, ?_, rfl, ?_⟩ <;> simp [conforms, Eff.ok, ref, refSub_eq, Out.setFlag, Mn.writes]
  -- the reference result is `-a` while the body computes `SubWithBorrow(0, a, 0)`
  case NEG =>
    refine ⟨_, rfl, rfl, ?_, rfl, ?_⟩ <;>
    simp [conforms, Eff.ok, ref, refSub_eq, swb_res_eq, Out.setFlag, Mn.writes]
  -- the reference PF is `evenParity`, the body's `parity8`
  case AND | OR | XOR | TEST =>
    refine ⟨_, rfl, rfl, ?_, rfl, ?_⟩ <;>
    simp [conforms, Eff.ok, ref, refLogic, parity8_even, Out.setFlag, Mn.writes]
  case NOT => refine ⟨_, rfl, rfl, ?_, rfl, ?_⟩ <;> simp [conforms, Eff.ok, ref, Mn.writes]

/-- the table regenerated from amoco's source on every run (Generated/X86Sem.lean) is the expected one -/
theorem x86_generated_eq_expected (ar : Arch) (m : Mn) : Generated.X86.generated ar m = some (expected ar m) := by
  cases ar <;> cases m <;> decide

/-- what the translator read in asm.py means the SDM semantics -/
theorem x86_generated_correct {k : Nat} (ar : Arch) (m : Mn) (a b : BitVec (k + 1)) (f : Fl6) :
    ∃ s o, Generated.X86.generated ar m = some s ∧ run s a b f.cf = some o ∧ o.rip = 1 ∧
      conforms o f (ref m a b f.cf) = true ∧ o.dst.isSome = m.writes := by
  obtain ⟨o, h1, h2, h3, h4, _⟩ := x86_expected_correct ar m a b f
  exact ⟨_, o, x86_generated_eq_expected ar m, h1, h2, h3, h4⟩

/-! the reference flags are not a copy of amoco's formulas: CF/OF of ADD and SUB are core Lean's predicates -/

theorem ref_add_cf_core {w} (a b : BitVec w) : (ref .ADD a b false).cf = .set (BitVec.uaddOverflow a b) := by
  simp [ref, refAdd, BitVec.uaddOverflow]

theorem ref_add_of_core {w} (a b : BitVec w) : (ref .ADD a b false).of = .set (BitVec.saddOverflow a b) := by
  have h : ((2 ^ (w - 1) : Nat) : Int) = (2 : Int) ^ (w - 1) := by norm_cast
  simp only [ref, refAdd, sovf, BitVec.saddOverflow, Bool.toNat_false, Eff.set.injEq, h]
  rw [Bool.eq_iff_iff]
  simp only [decide_eq_true_eq, Bool.or_eq_true, ge_iff_le]
  generalize (2 : Int) ^ (w - 1) = P
  omega

theorem ref_sub_cf_core {w} (a b : BitVec w) : (ref .SUB a b false).cf = .set (BitVec.usubOverflow a b) := by
  simp [ref, refSub, BitVec.usubOverflow]

theorem ref_sub_of_core {w} (a b : BitVec w) : (ref .SUB a b false).of = .set (BitVec.ssubOverflow a b) := by
  have h : ((2 ^ (w - 1) : Nat) : Int) = (2 : Int) ^ (w - 1) := by norm_cast
  simp only [ref, refSub, sovf, BitVec.ssubOverflow, Bool.toNat_false, Eff.set.injEq, h]
  rw [Bool.eq_iff_iff]
  simp only [decide_eq_true_eq, Bool.or_eq_true, ge_iff_le]
  generalize (2 : Int) ^ (w - 1) = P
  omega

def fl0 : Fl6 := ⟨false, false, false, false, false, false⟩
def fl1 : Fl6 := ⟨true, true, true, true, true, true⟩

/-- SUB 0,1 (8 bits): 0xff, borrow, no signed overflow, AF, SF, PF (0xff has eight one bits) -/
example : run (expected .x64 .SUB) 0x00#8 0x01#8 false =
    some { rip := 1, dst := some 0xff#8, zx := true, cf := some true, pf := some true, af := some true,
           zf := some false, sf := some true, of := some false } := by decide
/-- ADC 0x7f,0 with carry in: signed overflow only -/
example : run (expected .x86 .ADC) 0x7f#8 0x00#8 true =
    some { rip := 1, dst := some 0x80#8, zx := false, cf := some false, pf := some false, af := some true,
           zf := some false, sf := some true, of := some true } := by decide
/-- INC does not store CF, CMP does not store the destination, NOT stores no flag -/
example : (run (expected .x64 .INC) 0xff#8 0#8 true).map (·.cf) = some none := by decide
example : (run (expected .x64 .CMP) 0x12#8 0x34#8 true).map (·.dst) = some none := by decide
example : run (expected .x64 .NOT) 0x0f#8 0#8 true = some { rip := 1, dst := some 0xf0#8, zx := true } := by decide

/-! `conforms` discriminates: each of these variants of a body fails on some input.
    SUB with cf/of swapped, INC also writing cf, NEG with cf = (src == 0), AND not clearing of,
    CMP with the operands reversed. -/

def subSwapped : Sem :=
  let x := E.swb .a .b .bit0
  [.advance, .setf .pf (.par8 x), .setf .af (.hb .a .b .bit0), .setf .zf (.eqz x), .setf .sf (.ltz x),
   .setf .of (.swbC .a .b .bit0), .setf .cf (.swbO .a .b .bit0), .setdst true x]
example : (run subSwapped 0x00#8 0x01#8 false).map (fun o => conforms o fl0 (ref .SUB 0x00#8 0x01#8 false)) = some false := by decide

def incWritesCf : Sem := expected .x64 .INC ++ [.setf .cf (.awcC .a (.cst 1) .bit0)]
example : (run incWritesCf 0x00#8 0#8 true).map (fun o => conforms o fl1 (ref .INC 0x00#8 0#8 true)) = some false := by decide

def negCfEq : Sem := expected .x64 .NEG ++ [.setf .cf (.eqz .a)]
example : (run negCfEq 0x01#8 0#8 false).map (fun o => conforms o fl0 (ref .NEG 0x01#8 0#8 false)) = some false := by decide

def andKeepsOf : Sem :=
  let x := E.and .a (.sx .b)
  [.advance, .setf .zf (.eqz x), .setf .sf (.msb x), .setf .cf .bit0, .setf .pf (.par8 x), .setdst true x]
example : (run andKeepsOf 0x01#8 0x01#8 false).map (fun o => conforms o fl1 (ref .AND 0x01#8 0x01#8 true)) = some false := by decide

def cmpReversed : Sem :=
  let x := E.swb .b .a .bit0
  [.advance, .setf .af (.hb .b .a .bit0), .setf .zf (.eqz x), .setf .sf (.ltz x),
   .setf .cf (.swbC .b .a .bit0), .setf .of (.swbO .b .a .bit0), .setf .pf (.par8 x)]
example : (run cmpReversed 0x00#8 0x01#8 false).map (fun o => conforms o fl0 (ref .CMP 0x00#8 0x01#8 false)) = some false := by decide

/-- a body that tests `x < 0` on a word nothing declared signed, or contains an untranslated statement,
    has no meaning in the model (the driver answers "unmodelled") -/
example : run [.advance, .setf .sf (.ltz (.and .a .b))] 0x80#8 0x80#8 false = none := by decide
example : run [.advance, .unsupported "x"] 0x80#8 0x80#8 false = none := by decide

end Amoco.X86Sem.Props
