/-
  C07 — x86/x64 instruction boundaries agree with reference disassemblers.  Agreement with two external
  programs (objdump, llvm-mc) cannot be a theorem; what is proved is about the hub of the comparison, the
  length model `x86len` (Model/X86Len.lean, written from the SDM), which harness/c07.py ties to amoco and
  to the reference disassemblers.
-/
import Amoco.Model.X86Len
import Amoco.Proofs.X86Len

namespace Amoco.X86Len.Props

open Amoco.X86Len Rd

theorem x86dec_prefix_free (m : Mode) (b : List Nat) (n : Nat) (d : Option Int)
    (h : x86dec m b = some (n, d)) :
    1 ≤ n ∧ n ≤ 15 ∧ n ≤ b.length ∧ ∀ t, x86dec m (b.take n ++ t) = some (n, d) := by
  unfold x86dec at h
  cases hr : (insn m).run b with
  | none => simp [hr] at h
  | some r =>
    obtain ⟨d', n'⟩ := r
    simp only [hr] at h
    by_cases h15 : n' ≤ 15
    · simp only [h15, if_true, Option.some.injEq, Prod.mk.injEq] at h
      obtain ⟨rfl, rfl⟩ := h
      obtain ⟨hle, hext⟩ := Rd.run_prefix (insn m) b d' n' hr
      -- `insn m` is `bind (prefixes m 15 {}) _`, `prefixes` at non-zero fuel is `bind byte _` and `byte` is a
      -- `.read`: by the equations of `Rd.bind` the whole reader unfolds to a `.read`, hence `1 ≤ n`
      obtain ⟨k, hk⟩ : ∃ k, insn m = .read k := ⟨_, rfl⟩
      refine ⟨?_, h15, hle, ?_⟩
      · rw [hk] at hr; exact Rd.run_read_pos k b d' n' hr
      · intro t; unfold x86dec; rw [hext t]; simp [h15]
    · simp [h15] at h

theorem x86len_prefix_free (m : Mode) (b : List Nat) (n : Nat) (h : x86len m b = some n) :
    1 ≤ n ∧ n ≤ 15 ∧ n ≤ b.length ∧ ∀ t, x86len m (b.take n ++ t) = some n := by
  obtain ⟨⟨n', d⟩, hd, rfl⟩ := Option.map_eq_some_iff.mp h
  obtain ⟨h1, h2, h3, h4⟩ := x86dec_prefix_free m b n' d hd
  refine ⟨h1, h2, h3, fun t => ?_⟩
  unfold x86len
  rw [h4 t]; rfl

theorem x86rel_prefix_free (m : Mode) (b : List Nat) (n : Nat) (h : x86len m b = some n) (t : List Nat) :
    x86rel m (b.take n ++ t) = x86rel m b := by
  obtain ⟨⟨n', d⟩, hd, rfl⟩ := Option.map_eq_some_iff.mp h
  unfold x86rel
  rw [(x86dec_prefix_free m b n' d hd).2.2.2 t, hd]

/-- no instruction extends another -/
theorem x86len_unique (m : Mode) (b t : List Nat) (n k : Nat)
    (h1 : x86len m b = some n) (h2 : x86len m (b.take n ++ t) = some k) : k = n := by
  have := (x86len_prefix_free m b n h1).2.2.2 t
  rw [this] at h2
  exact (Option.some.inj h2).symm

/-- a sweep that agrees with the reference at one boundary agrees at the next: the length at offset `k`
    depends only on the `n` bytes consumed there. -/
theorem sweep_next_boundary (m : Mode) (b b' : List Nat) (k n : Nat)
    (h : x86len m (b.drop k) = some n) (heq : b'.take (k + n) = b.take (k + n)) :
    x86len m (b'.drop k) = some n := by
  obtain ⟨_, _, hlen, hext⟩ := x86len_prefix_free m (b.drop k) n h
  have e1 : (b'.drop k).take n = (b.drop k).take n := by
    rw [List.take_drop, List.take_drop, Nat.add_comm k n] at *
    rw [heq]
  have e2 : b'.drop k = (b.drop k).take n ++ (b'.drop k).drop n := by
    rw [← e1, List.take_append_drop]
  rw [e2]
  exact hext _

section modrm
variable (x s : Nat)

theorem modrm_reg (a16 : Bool) (h : (x / 64) % 4 = 3) : modrmTail a16 x s = 0 := by
  simp [modrmTail, h]

/-- 16-bit addressing, SDM table 2-1 -/
theorem modrm16_mod0 (h : (x / 64) % 4 = 0) (hrm : x % 8 ≠ 6) : modrmTail true x s = 0 := by
  simp [modrmTail, disp16, h, hrm]
theorem modrm16_disp16 (h : (x / 64) % 4 = 0) (hrm : x % 8 = 6) : modrmTail true x s = 2 := by
  simp [modrmTail, disp16, h, hrm]
theorem modrm16_mod1 (h : (x / 64) % 4 = 1) : modrmTail true x s = 1 := by
  simp [modrmTail, disp16, h]
theorem modrm16_mod2 (h : (x / 64) % 4 = 2) : modrmTail true x s = 2 := by
  simp [modrmTail, disp16, h]

/-- 32/64-bit addressing without SIB, table 2-2 -/
theorem modrm32_mod0 (h : (x / 64) % 4 = 0) (h4 : x % 8 ≠ 4) (h5 : x % 8 ≠ 5) :
    modrmTail false x s = 0 := by
  simp [modrmTail, disp32, h, h4, h5]
theorem modrm32_disp32 (h : (x / 64) % 4 = 0) (h5 : x % 8 = 5) : modrmTail false x s = 4 := by
  simp [modrmTail, disp32, h, h5]
theorem modrm32_mod1 (h : (x / 64) % 4 = 1) (h4 : x % 8 ≠ 4) : modrmTail false x s = 1 := by
  simp [modrmTail, disp32, h, h4]
theorem modrm32_mod2 (h : (x / 64) % 4 = 2) (h4 : x % 8 ≠ 4) : modrmTail false x s = 4 := by
  simp [modrmTail, disp32, h, h4]

/-- 32/64-bit addressing with SIB (`rm = 4`), table 2-3 -/
theorem modrm32_sib_mod0 (h : (x / 64) % 4 = 0) (h4 : x % 8 = 4) (hb : s % 8 ≠ 5) :
    modrmTail false x s = 1 := by
  simp [modrmTail, disp32, h, h4, hb]
theorem modrm32_sib_nobase (h : (x / 64) % 4 = 0) (h4 : x % 8 = 4) (hb : s % 8 = 5) :
    modrmTail false x s = 5 := by
  simp [modrmTail, disp32, h, h4, hb]
theorem modrm32_sib_mod1 (h : (x / 64) % 4 = 1) (h4 : x % 8 = 4) : modrmTail false x s = 2 := by
  simp [modrmTail, disp32, h, h4]
theorem modrm32_sib_mod2 (h : (x / 64) % 4 = 2) (h4 : x % 8 = 4) : modrmTail false x s = 5 := by
  simp [modrmTail, disp32, h, h4]

/-- the rows above are exhaustive -/
theorem modrmTail_cases (a16 : Bool) :
    modrmTail a16 x s =
      (if (x / 64) % 4 = 3 then 0
       else if a16 then
         (if (x / 64) % 4 = 0 then (if x % 8 = 6 then 2 else 0) else if (x / 64) % 4 = 1 then 1 else 2)
       else
         (if x % 8 = 4 then 1 else 0) +
         (if (x / 64) % 4 = 0 then (if (if x % 8 = 4 then s % 8 else x % 8) = 5 then 4 else 0)
          else if (x / 64) % 4 = 1 then 1 else 4)) := by
  have hm : (x / 64) % 4 < 4 := Nat.mod_lt _ (by decide)
  simp only [modrmTail, disp16, disp32, beq_iff_eq]
  generalize (x / 64) % 4 = md at hm ⊢
  have : md = 0 ∨ md = 1 ∨ md = 2 ∨ md = 3 := by omega
  by_cases h4 : x % 8 = 4 <;> rcases this with rfl | rfl | rfl | rfl <;> cases a16 <;> simp [h4]

theorem disp16_le (md rm : Nat) : disp16 md rm ≤ 2 := by
  unfold disp16; (repeat' split) <;> omega

theorem disp32_le (md base : Nat) : disp32 md base ≤ 4 := by
  unfold disp32; (repeat' split) <;> omega

theorem modrmTail_le (a16 : Bool) : modrmTail a16 x s ≤ 5 := by
  have h1 := disp16_le ((x / 64) % 4) (x % 8)
  have h2 := disp32_le ((x / 64) % 4) (s % 8)
  have h3 := disp32_le ((x / 64) % 4) (x % 8)
  simp only [modrmTail]
  (repeat' split) <;> omega

end modrm

theorem rdModRM_run (a16 : Bool) (x : Nat) (rest : List Nat)
    (h : modrmTail a16 x (rest.headD 0) ≤ rest.length) :
    (rdModRM a16).run (x :: rest) = some (mkModRM x, 1 + modrmTail a16 x (rest.headD 0)) := by
  rw [rdModRM, run_byte_bind]
  simp only [modrmTail, mkModRM] at h ⊢
  by_cases h3 : (x / 64 % 4 == 3) = true
  · simp only [h3, if_true]; rfl
  simp only [h3, Bool.false_eq_true, if_false] at h ⊢
  cases a16
  · simp only [Bool.false_eq_true, if_false] at h ⊢
    by_cases h4 : (x % 8 == 4) = true
    · simp only [h4, if_true] at h ⊢
      cases rest with
      | nil => simp at h
      | cons sb rest' =>
        rw [run_byte_bind, run_bytes_ret _ _ _ (by simp only [List.headD_cons, List.length_cons] at h; omega)]; rfl
    · simp only [h4, Bool.false_eq_true, if_false] at h ⊢
      rw [run_bytes_ret _ _ _ h]; rfl
  · simp only [if_true] at h ⊢
    rw [run_bytes_ret _ _ _ h]; rfl

/-- one-byte-map opcode with a ModRM operand, no immediate, no prefixes (32-bit addressing in 32-bit mode,
    64-bit in 64-bit mode). -/
theorem modrm_len (m : Mode) (op x : Nat) (rest : List Nat)
    (hop : plainOp m {} op = some opM)
    (h : modrmTail false x (rest.headD 0) ≤ rest.length) :
    x86len m (op :: x :: rest) = some (2 + modrmTail false x (rest.headD 0)) := by
  have hp := plainOp_notPfx m {} op opM hop
  have ha : addr16 m {} = false := by cases m <;> rfl
  have hb := modrmTail_le x (rest.headD 0) false
  unfold x86len x86dec
  -- `insn` gives `prefixes` the fuel 15 and the `prefixes_*` lemmas are stated at `f + 1`: here and below
  -- the literal is 14 minus the number of prefix bytes already consumed
  rw [insn_eq, Rd.run_bind, prefixes_stop m 14 {} op _ hp]
  simp only [List.drop_succ_cons, List.drop_zero, afterPfx_plain m {} op opM hop]
  simp only [rdOp, opM, if_true, ha, Rd.run_bind, rdModRM_run false x rest h, rdImm, Rd.run]
  have : 1 + (1 + modrmTail false x (rest.headD 0) + 0) ≤ 15 := by omega
  simp only [this, if_true, Option.map_some]
  congr 1; omega

/-- the same with an address-size prefix: 16-bit addressing in 32-bit mode, 32-bit in 64-bit mode -/
theorem modrm_len_67 (m : Mode) (op x : Nat) (rest : List Nat)
    (hop : plainOp m { adsz := true } op = some opM)
    (h : modrmTail (m == .m32) x (rest.headD 0) ≤ rest.length) :
    x86len m (0x67 :: op :: x :: rest) = some (3 + modrmTail (m == .m32) x (rest.headD 0)) := by
  have hp := plainOp_notPfx m _ op opM hop
  have ha : addr16 m { adsz := true } = (m == .m32) := by cases m <;> rfl
  have hb := modrmTail_le x (rest.headD 0) (m == .m32)
  unfold x86len x86dec
  rw [insn_eq, Rd.run_bind, prefixes_67 m 14 {} _, prefixes_stop m 13 _ op _ hp]
  simp only [List.drop_succ_cons, List.drop_zero, afterPfx_plain m _ op opM hop]
  simp only [rdOp, opM, if_true, ha, Rd.run_bind, rdModRM_run _ x rest h, rdImm, Rd.run]
  have : 1 + 1 + (1 + modrmTail (m == .m32) x (rest.headD 0) + 0) ≤ 15 := by omega
  simp only [this, if_true, Option.map_some]
  congr 1; omega

/-- an `Iz` opcode (e.g. `05 ADD eAX,Iz`, `68 PUSH Iz`, `A9 TEST`) with operand-size prefix: 2-byte immediate -/
theorem iz_len_66 (m : Mode) (op : Nat) (i t : List Nat)
    (hop : plainOp m { opsz := true } op = some (opI .iz)) (hi : i.length = 2) :
    x86len m (0x66 :: op :: (i ++ t)) = some 4 := by
  have hp := plainOp_notPfx m _ op _ hop
  have hz : izBytes m { opsz := true } = 2 := by cases m <;> rfl
  have hb := run_bytes_append 2 i t hi
  unfold x86len x86dec
  rw [insn_eq, Rd.run_bind, prefixes_66 m 14 {} _, prefixes_stop m 13 _ op _ hp]
  simp only [List.drop_succ_cons, List.drop_zero, afterPfx_plain m _ op _ hop]
  simp only [rdOp, opI, rdImm, hz, hb, Bool.false_eq_true, if_false, Rd.run_bind, Rd.run]
  rfl

/-- 64-bit mode, 66 followed by REX.W: the immediate is 4 bytes — amoco read 2 here before `fix: x64 REX.W
    takes precedence over the 66 prefix for immediate sizes` -/
theorem iz_len_66_rexw (rex op : Nat) (i t : List Nat) (hlo : 0x48 ≤ rex) (hhi : rex ≤ 0x4f)
    (hop : plainOp .m64 { opsz := true, rex := some rex } op = some (opI .iz)) (hi : i.length = 4) :
    x86len .m64 (0x66 :: rex :: op :: (i ++ t)) = some 7 := by
  have hp := plainOp_notPfx .m64 _ op _ hop
  have hw : Pfx.rexW { opsz := true, rex := some rex } = true := by
    simp only [Pfx.rexW, beq_iff_eq]; omega
  have hz : izBytes .m64 { opsz := true, rex := some rex } = 4 := by simp [izBytes, hw]
  have hb := run_bytes_append 4 i t hi
  unfold x86len x86dec
  rw [insn_eq, Rd.run_bind, prefixes_66 .m64 14 {} _, prefixes_rex 13 _ rex _ (by omega) hhi,
    prefixes_stop .m64 12 _ op _ hp]
  simp only [List.drop_succ_cons, List.drop_zero, afterPfx_plain .m64 _ op _ hop]
  simp only [rdOp, opI, rdImm, hz, hb, Bool.false_eq_true, if_false, Rd.run_bind, Rd.run]
  rfl

def encRel (k : Nat) (d : Int) : List Nat := leBytes k (d % (2 ^ (8 * k) : Int)).toNat

theorem decode_encRel (k : Nat) (hk : 0 < k) (d : Int)
    (hlo : -(2 ^ (8 * k - 1) : Int) ≤ d) (hhi : d < (2 ^ (8 * k - 1) : Int)) :
    sext k (leNat (encRel k d)) = d := by
  unfold encRel
  rw [leNat_leBytes]
  have : sext k ((d % (2 ^ (8 * k) : Int)).toNat % 2 ^ (8 * k)) = sext k (d % (2 ^ (8 * k) : Int)).toNat := by
    unfold sext; simp only [Nat.mod_mod]
  rw [this]
  exact sext_roundtrip k hk d hlo hhi

theorem run_bytes_enc (k : Nat) (d : Int) (t : List Nat) :
    (bytes k).run (encRel k d ++ t) = some (encRel k d, k) :=
  run_bytes_append k _ t (leBytes_length _ _)

/-- short jumps (`Jcc rel8`, `JMP rel8`, `LOOPcc`, `JrCXZ`): 2 bytes, displacement `d` -/
theorem rel8_decode (m : Mode) (op : Nat) (d : Int) (t : List Nat)
    (hop : plainOp m {} op = some (opI .jb)) (hlo : -128 ≤ d) (hhi : d < 128) :
    x86dec m (op :: (encRel 1 d ++ t)) = some (2, some d) := by
  have hp := plainOp_notPfx m {} op _ hop
  unfold x86dec
  rw [insn_eq, Rd.run_bind, prefixes_stop m 14 {} op _ hp]
  simp only [List.drop_succ_cons, List.drop_zero, afterPfx_plain m {} op _ hop]
  simp only [rdOp, opI, rdImm, Bool.false_eq_true, if_false, Rd.run_bind, run_bytes_enc, Rd.run]
  rw [decode_encRel 1 (by decide) d (by simpa using hlo) (by simpa using hhi)]
  rfl

/-- near `CALL` / `JMP` without prefix: 5 bytes, displacement `d`, in both modes -/
theorem rel32_decode (m : Mode) (op : Nat) (d : Int) (t : List Nat)
    (hop : plainOp m {} op = some (opI .jz)) (hlo : -2 ^ 31 ≤ d) (hhi : d < 2 ^ 31) :
    x86dec m (op :: (encRel 4 d ++ t)) = some (5, some d) := by
  have hp := plainOp_notPfx m {} op _ hop
  have hj : jzBytes m {} = some 4 := by cases m <;> rfl
  unfold x86dec
  rw [insn_eq, Rd.run_bind, prefixes_stop m 14 {} op _ hp]
  simp only [List.drop_succ_cons, List.drop_zero, afterPfx_plain m {} op _ hop]
  simp only [rdOp, opI, rdImm, hj, Bool.false_eq_true, if_false, Rd.run_bind, run_bytes_enc, Rd.run]
  rw [decode_encRel 4 (by decide) d (by simpa using hlo) (by simpa using hhi)]
  rfl

/-- near `CALL` / `JMP` with operand-size prefix in 32-bit mode: 4 bytes, 16-bit displacement -/
theorem rel16_decode_m32 (op : Nat) (d : Int) (t : List Nat)
    (hop : plainOp .m32 { opsz := true } op = some (opI .jz)) (hlo : -2 ^ 15 ≤ d) (hhi : d < 2 ^ 15) :
    x86dec .m32 (0x66 :: op :: (encRel 2 d ++ t)) = some (4, some d) := by
  have hp := plainOp_notPfx .m32 _ op _ hop
  have hj : jzBytes .m32 { opsz := true } = some 2 := rfl
  unfold x86dec
  rw [insn_eq, Rd.run_bind, prefixes_66 .m32 14 {} _, prefixes_stop .m32 13 _ op _ hp]
  simp only [List.drop_succ_cons, List.drop_zero, afterPfx_plain .m32 _ op _ hop]
  simp only [rdOp, opI, rdImm, hj, Bool.false_eq_true, if_false, Rd.run_bind, run_bytes_enc, Rd.run]
  rw [decode_encRel 2 (by decide) d (by simpa using hlo) (by simpa using hhi)]
  rfl

/-- `0F 8x` (`Jcc rel32`) without prefix: 6 bytes, displacement `d`, in both modes -/
theorem jcc_rel32_decode (m : Mode) (op : Nat) (d : Int) (t : List Nat)
    (hop : plainOp2 m {} op = some (opI .jz)) (hlo : -2 ^ 31 ≤ d) (hhi : d < 2 ^ 31) :
    x86dec m (0x0f :: op :: (encRel 4 d ++ t)) = some (6, some d) := by
  have hp : isPfxByte m 0x0f = false := by cases m <;> rfl
  have hj : jzBytes m {} = some 4 := by cases m <;> rfl
  unfold x86dec
  rw [insn_eq, Rd.run_bind, prefixes_stop m 14 {} 0x0f _ hp]
  simp only [List.drop_succ_cons, List.drop_zero, afterPfx, beq_self_eq_true, if_true,
    twoByte_plain m {} op _ _ hop]
  simp only [rdOp, opI, rdImm, hj, Bool.false_eq_true, if_false, Rd.run_bind, run_bytes_enc, Rd.run]
  rw [decode_encRel 4 (by decide) d (by simpa using hlo) (by simpa using hhi)]
  rfl

-- `mov 0x11223344(,%rax,2),%eax` then garbage: 7 bytes in 64-bit mode; stable under any continuation
example : x86len .m64 [0x8b, 0x04, 0x45, 0x44, 0x33, 0x22, 0x11, 0xcc, 0xcc] = some 7 := by decide
example : ∀ t, x86len .m64 ([0x8b, 0x04, 0x45, 0x44, 0x33, 0x22, 0x11, 0xcc, 0xcc].take 7 ++ t) = some 7 :=
  (x86len_prefix_free .m64 _ 7 (by decide)).2.2.2
-- the opcode classes quantified over in the lemmas are inhabited
example : plainOp .m64 {} 0x8b = some opM := by decide
example : plainOp .m32 { adsz := true } 0x8b = some opM := by decide
example : plainOp .m32 {} 0xeb = some (opI .jb) := by decide
example : plainOp .m64 {} 0x74 = some (opI .jb) := by decide
example : plainOp .m64 {} 0xe8 = some (opI .jz) := by decide
example : plainOp .m32 { opsz := true } 0xe9 = some (opI .jz) := by decide
example : plainOp2 .m64 {} 0x84 = some (opI .jz) := by decide
-- `call .-5` and `jmp .-2`
example : x86dec .m32 [0xe8, 0xfb, 0xff, 0xff, 0xff] = some (5, some (-5)) := by decide
example : encRel 4 (-5) = [0xfb, 0xff, 0xff, 0xff] := by decide
example : x86dec .m64 (0xeb :: (encRel 1 (-2) ++ [0x90])) = some (2, some (-2)) :=
  rel8_decode .m64 0xeb (-2) [0x90] (by decide) (by decide) (by decide)
example : modrmTail false 0x04 0x25 = 5 := modrm32_sib_nobase 0x04 0x25 (by decide) (by decide) (by decide)
example : modrmTail true 0x06 0 = 2 := modrm16_disp16 0x06 0 (by decide) (by decide)
-- operand-size dependent immediates; the two inputs on which amoco's x64 decoder was wrong
example : plainOp .m64 { opsz := true, rex := some 0x48 } 0x05 = some (opI .iz) := by decide
example : x86len .m64 [0x66, 0x48, 0x05, 1, 2, 3, 4, 0x90] = some 7 :=
  iz_len_66_rexw 0x48 0x05 [1, 2, 3, 4] [0x90] (by decide) (by decide) (by decide) rfl
example : x86len .m32 [0x66, 0x05, 1, 2, 0x90] = some 4 := iz_len_66 .m32 0x05 [1, 2] [0x90] (by decide) rfl
example : x86len .m64 [0x67, 0x8b, 0x04, 0x25, 1, 2, 3, 4] = some 8 :=
  modrm_len_67 .m64 0x8b 0x04 [0x25, 1, 2, 3, 4] (by decide) (by decide)
-- what the model does not cover is `none`, e.g. VEX and a 66-prefixed near call in 64-bit mode
example : x86len .m64 [0xc5, 0xf8, 0x77] = none := by decide
example : x86len .m64 [0x66, 0xe8, 0, 0, 0, 0] = none := by decide

end Amoco.X86Len.Props
