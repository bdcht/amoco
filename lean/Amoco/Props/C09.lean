/-
  C09 — Stores and loads through symbolic pointers stay correct under aliasing.
  Vocabulary as in Props/C02.lean.

  The model is the pointer path of `amoco/cas/mapper.py` *as repaired* by proposed_fixes/C09-*.diff and
  C02-*.diff (see DESIGN.md §12 for the two counter-examples on the unchanged code):
    `aliasing(k)`   the item of the read location only shields the read from earlier writes through other
                    bases when it is at least as wide as the read;
    `__setitem__`   the bytes of a previous, wider write that stay in place are read back through `M` (so a
                    later write into them, or a possible alias, is honoured) and composed on the side the
                    byte order dictates; the byte order of a pointer item is recorded and used by every replay
                    (`eval`, `rcompose`, `mem.eval`).
  A load answered with mods is `E.load … mods`; its meaning (`ideal`) is: replay the mods, in order, on the
  memory of the state, then read — exactly how the property reads "a load together with the ordered list
  of earlier possibly-aliasing stores".
-/
import Amoco.Props.C02

namespace Amoco.Mapper.Props

open Amoco.Mapper

/-- **aliasing is not assumed away** (`noaliasing = False`, either `memtrace` setting): for every
    load/store program over pointer registers (any offsets, any whole-byte sizes, either byte order, any
    operators) and *every* assignment of the pointers — equal, partially overlapping or disjoint — that does
    not wrap around the address space, every register (each loaded value read together with its mods) and
    the final memory are those of the byte-level sequential execution. -/
theorem alias_sound (sem : OpSem) (memtrace : Bool) (P : Prog) (σ : St) (hwf : P.wf = true)
    (hb : ∀ x, σ.mem x < 256) (hnw : ∀ a ∈ accessesOf ⟨false, memtrace⟩ P, a.noWrap sem σ) :
    (applyMap sem σ (symExec ⟨false, memtrace⟩ P)).agrees (concExec sem P σ) :=
  block_map_sound sem _ P σ hwf (by simp [Cfg.records]) ⟨hb, hnw, fun h => by simp at h⟩

/-- the loaded values, spelled out: the expression the map holds for a register evaluates — loads with
    their mods replayed — to the register's value after the sequential execution. -/
theorem alias_sound_loads (sem : OpSem) (memtrace : Bool) (P : Prog) (σ : St) (hwf : P.wf = true)
    (hb : ∀ x, σ.mem x < 256) (hnw : ∀ a ∈ accessesOf ⟨false, memtrace⟩ P, a.noWrap sem σ)
    (n : String) (s : Nat) :
    ideal sem σ ((symExec ⟨false, memtrace⟩ P).R n s) = (concExec sem P σ).reg n s % 2 ^ s :=
  (prog_inv ⟨sem, σ, ⟨false, memtrace⟩, P.be, accessesOf ⟨false, memtrace⟩ P⟩ P rfl hwf
    (Or.inr ⟨by simp [Cfg.records], hb, hnw, fun h => by simp at h⟩) (fun _ h => h)).regs n s

/-- the final memory, spelled out: replaying the pointer items of the map, in map order, on the initial
    memory gives the memory after the sequential execution. -/
theorem alias_sound_memory (sem : OpSem) (memtrace : Bool) (P : Prog) (σ : St) (hwf : P.wf = true)
    (hb : ∀ x, σ.mem x < 256) (hnw : ∀ a ∈ accessesOf ⟨false, memtrace⟩ P, a.noWrap sem σ) (x : Int) :
    replayEntries sem σ σ.mem (symExec ⟨false, memtrace⟩ P).entries x = (concExec sem P σ).mem x :=
  (alias_sound sem memtrace P σ hwf hb hnw).2 x

/-- **under the no-aliasing assumption** (`noaliasing = True`, stores recorded): the same for every
    assignment in which accesses through different symbolic bases do not overlap. -/
theorem noalias_sound (sem : OpSem) (P : Prog) (σ : St) (hwf : P.wf = true)
    (hb : ∀ x, σ.mem x < 256) (hnw : ∀ a ∈ accessesOf ⟨true, true⟩ P, a.noWrap sem σ)
    (hap : ∀ a ∈ accessesOf ⟨true, true⟩ P, ∀ b ∈ accessesOf ⟨true, true⟩ P, Access.apart sem σ a b) :
    (applyMap sem σ (symExec ⟨true, true⟩ P)).agrees (concExec sem P σ) :=
  block_map_sound sem _ P σ hwf rfl ⟨hb, hnw, fun _ => hap⟩

/-! ## Non-vacuity: the first counter-example of DESIGN.md §12, on the repaired model -/

instance (sem : OpSem) (σ : St) (a b : Access) : Decidable (Access.apart sem σ a b) := by
  unfold Access.apart; exact inferInstance

/-- `[q] := 0xaabbccdd (32) ; [p] := 0x11 (8) ; r := [p] (32)` -/
def exAlias : Prog := ⟨false,
  [.store (.reg "q" 32) 0 32 (.cst 0xaabbccdd 32),
   .store (.reg "p" 32) 0 8 (.cst 0x11 8),
   .set "r" 32 0 32 (.load (.reg "p" 32) 0 32)]⟩

/-- the pointers coincide: `p = q = 0x1000` -/
def exSt : St := ⟨fun n _ => if n = "p" ∨ n = "q" then 0x1000 else 7, fun a => (a % 251).toNat⟩

example : exAlias.wf = true := by decide
example : ∀ x, exSt.mem x < 256 := by intro x; simp only [exSt]; omega
example : ∀ a ∈ accessesOf ⟨false, true⟩ exAlias, a.noWrap exSem exSt := by decide

/-- sequential execution gives `r = 0xaabbcc11` (bytes 1..3 from the store through `q`) … -/
example : (concExec exSem exAlias exSt).reg "r" 32 = 0xaabbcc11 := by decide
/-- … and so does the model: the load is answered with its mods (before `fix: a load wider than the last store
    at its address takes earlier possibly-aliasing stores into account` the code answered `{0x11, M24(p+1)}`,
    bytes 1..3 taken from the initial memory: DESIGN.md §12). -/
example : ideal exSem exSt ((symExec ⟨false, true⟩ exAlias).R "r" 32) = 0xaabbcc11 := by decide

/-- the second counter-example: big-endian `[p] := 0xaabbccdd (32) ; [p] := 0x11 (8) ; r := [p] (32)` -/
def exBE : Prog := ⟨true,
  [.store (.reg "p" 32) 0 32 (.cst 0xaabbccdd 32),
   .store (.reg "p" 32) 0 8 (.cst 0x11 8),
   .set "r" 32 0 32 (.load (.reg "p" 32) 0 32)]⟩

/-- the theorem, instantiated: the model gives `0x11bbccdd` (the code before the repairs named in
    the header: `0x11ccbbaa`, DESIGN.md §12). -/
example : ideal exSem exSt ((symExec ⟨false, true⟩ exBE).R "r" 32) = 0x11bbccdd := by
  rw [alias_sound_loads exSem true exBE exSt (by decide) (by intro x; simp only [exSt]; omega) (by decide)]
  decide

/-- a narrower store into an earlier wide one after a store through another base (`q = p + 1`): the bytes
    that stay in place are read back with their mods -/
def exRest : Prog := ⟨false,
  [.store (.reg "p" 32) 0 32 (.reg "a" 32),
   .store (.reg "q" 32) 0 32 (.reg "b" 32),
   .store (.reg "p" 32) 0 8 (.cst 0x11 8)]⟩

def exSt2 : St := ⟨fun n _ => if n = "p" then 0x1000 else if n = "q" then 0x1001 else 0x01020304,
  fun a => (a % 251).toNat⟩

example : ∀ a ∈ accessesOf ⟨false, false⟩ exRest, a.noWrap exSem exSt2 := by decide
example : (concExec exSem exRest exSt2).mem 0x1002 = 0x03 := by decide
example : replayEntries exSem exSt2 exSt2.mem (symExec ⟨false, false⟩ exRest).entries 0x1002 = 0x03 := by
  rw [alias_sound_memory exSem false exRest exSt2 (by decide) (by intro x; simp only [exSt2]; omega) (by decide)]
  decide

/-- under the no-aliasing assumption, with bases 0x100 apart -/
def exSt3 : St := ⟨fun n _ => if n = "p" then 0x1000 else if n = "q" then 0x1100 else 5, fun a => (a % 251).toNat⟩

example : (∀ a ∈ accessesOf ⟨true, true⟩ exAlias, a.noWrap exSem exSt3) ∧
    ∀ a ∈ accessesOf ⟨true, true⟩ exAlias, ∀ b ∈ accessesOf ⟨true, true⟩ exAlias, Access.apart exSem exSt3 a b := by
  constructor <;> decide

end Amoco.Mapper.Props
