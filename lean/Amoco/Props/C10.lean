/-
  C10 — Symbolic results do not depend on analysis history.
-/
import Amoco.Model.Hist

namespace Amoco.Hist.Props

open Amoco.Hist

theorem applyWrites_untouched (ws : List (Slot × Bool)) :
    ∀ (w : World) (t : Slot), (∀ sv ∈ ws, sv.1 ≠ t) → ws.foldl assign w t = w t := by
  induction ws with
  | nil => intro w t _; rfl
  | cons sv rest ih =>
    intro w t h
    rw [List.foldl_cons, ih (assign w sv) t (fun x hx => h x (List.mem_cons_of_mem _ hx))]
    exact if_neg fun e => h sv List.mem_cons_self e.symm

theorem runHist_untouched (h : List Op) :
    ∀ (w : World) (t : Slot), (∀ op ∈ h, ∀ sv ∈ op.writes, sv.1 ≠ t) → runHist w h t = w t := by
  induction h with
  | nil => intro w t _; rfl
  | cons op rest ih =>
    intro w t hh
    rw [runHist, List.foldl_cons]
    exact (ih (applyOp w op) t (fun o ho => hh o (List.mem_cons_of_mem _ ho))).trans
      (applyWrites_untouched op.writes w t (hh op List.mem_cons_self))

/-- **Non-interference.**  An observation (building the map of a block, or evaluating a map or an
    expression computed earlier) that depends on the world only through the slots `reads` gives the
    same result after any history whose operations assign none of those slots. -/
theorem history_independence {α} (reads : List Slot) (run : World → α)
    (hext : ∀ w w', (∀ s ∈ reads, w s = w' s) → run w = run w')
    (h : List Op) (w : World)
    (hdisj : ∀ op ∈ h, ∀ sv ∈ op.writes, sv.1 ∉ reads) :
    run (runHist w h) = run w := by
  apply hext
  intro s hs
  apply runHist_untouched
  intro op ho sv hsv e
  exact hdisj op ho sv hsv (e ▸ hs)

/-- instantiated on a measured footprint table, for histories that avoid its dirty operations: the
    complement of `dirty tbl` is exactly what the theorem covers; `dirty tbl` is the list of findings. -/
theorem history_independence_partial {α} (tbl : List Op)
    (reads : List Slot) (run : World → α)
    (hext : ∀ w w', (∀ s ∈ reads, w s = w' s) → run w = run w')
    (h : List Op) (hin : ∀ op ∈ h, op ∈ tbl ∧ op ∉ dirty tbl) (w : World) :
    run (runHist w h) = run w := by
  apply history_independence reads run hext h w
  intro op ho sv hsv
  cases hw : op.writes with
  | nil => rw [hw] at hsv; cases hsv
  | cons x xs =>
    exact absurd (List.mem_filter.mpr ⟨(hin op ho).1, by rw [hw]; rfl⟩) (hin op ho).2

/-- if the table is clean, every observation is independent of every history drawn from it — for
    all blocks, all histories, all worlds. -/
theorem history_independence_clean {α} (tbl : List Op) (hclean : allClean tbl = true)
    (reads : List Slot) (run : World → α)
    (hext : ∀ w w', (∀ s ∈ reads, w s = w' s) → run w = run w')
    (h : List Op) (hin : ∀ op ∈ h, op ∈ tbl) (w : World) :
    run (runHist w h) = run w := by
  refine history_independence_partial tbl reads run hext h (fun op ho => ⟨hin op ho, fun hd => ?_⟩) w
  have hd := (List.mem_filter.mp hd).2
  rw [List.all_eq_true.mp hclean op (hin op ho)] at hd
  cases hd

/-- conversely a write to a slot that an observation reads does change it: the slot named by a
    non-empty footprint is a genuine channel (e.g. the `sf` flag of a global register). -/
theorem dirty_slot_is_observable :
    let op : Op := ⟨"rv32i", "SRA", [(5, true)]⟩
    (fun (w : World) => w 5) (runHist (fun _ => false) [op]) ≠ (fun (w : World) => w 5) (fun _ => false) := by
  decide

example : allClean [⟨"x86", "NOP", []⟩, ⟨"x86", "MOV", []⟩] = true := by decide

end Amoco.Hist.Props
