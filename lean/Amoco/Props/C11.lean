/-
  C11 — Decoding has no memory of earlier calls.
  `call true` is the repaired `disassembler.__call__` (pending instruction reset on every exit,
  including exceptions); `call false` is the original code, kept to exhibit the defect.
-/
import Amoco.Proofs.Dis

namespace Amoco.Dis.Props11

open Amoco Amoco.Dis

/-- After any call — returning an instruction, returning `None`, or raising any exception at any
    depth of the prefix recursion — no pending instruction is left. -/
theorem pending_none_after_call {I} (cands : List Nat → List SpecK)
    (dec : Option I → List Nat → SpecK → Out I) (xd : I → Option I)
    (fuel : Nat) (st : Option I) (bytes : List Nat) :
    (call true cands dec xd fuel st bytes).1 = none := by
  -- case5 is the `.prefix` branch, the only recursive one; with `resetOnRaise = true` every other branch
  -- of `call` returns `none` as the pending state outright
  fun_induction call true cands dec xd fuel st bytes with
  | case5 _ _ _ _ _ _ hprefix ih => exact ih
  | _ => rfl

/-- a history of calls on one disassembler object: the results, threading the pending state. -/
def runHistory {I} (r : Bool) (cands : List Nat → List SpecK)
    (dec : Option I → List Nat → SpecK → Out I) (xd : I → Option I) :
    Option I → List (List Nat) → List (Res I)
  | _, [] => []
  | st, b :: rest =>
    let (st', res) := call r cands dec xd (b.length + 2) st b
    res :: runHistory r cands dec xd st' rest

/-- **History independence**: in any history of calls (valid, invalid, truncated-after-prefix,
    exception-raising inputs in any order) every call returns what a fresh disassembler returns. -/
theorem call_history_independent {I} (cands : List Nat → List SpecK)
    (dec : Option I → List Nat → SpecK → Out I) (xd : I → Option I) :
    ∀ (hist : List (List Nat)) (st : Option I), st = none →
      runHistory true cands dec xd st hist
        = hist.map (fun b => (call true cands dec xd (b.length + 2) none b).2)
  | [], _, _ => rfl
  | b :: rest, st, hst => by
    subst hst
    simp only [runHistory, List.map_cons]
    congr 1
    exact call_history_independent cands dec xd rest _ (pending_none_after_call cands dec xd _ _ _)

/-- the invariant behind `no_prefix_leak`: pending bytes ++ remaining input = the input of this call. -/
theorem call_bytes_prefix (cands : List Nat → List SpecK)
    (accepts : SpecK → List Nat → Bool) (hook : SpecK → List Nat → Option Ins → HookOut)
    (xd : Ins → Option Ins) (hxd : ∀ i i', xd i = some i' → i'.bytes = i.bytes) (orig : List Nat) :
    ∀ (fuel : Nat) (st : Option Ins) (bytes : List Nat) (i : Ins),
      pendBytes st ++ bytes = orig →
      (call true cands (decBytes accepts hook) xd fuel st bytes).2 = .instr i →
      i.bytes <+: orig := by
  intro fuel st bytes i hinv
  refine call_instr (fun st bytes => pendBytes st ++ bytes = orig) (fun i => i.bytes <+: orig) ?_ ?_
    fuel st bytes hinv i
  · intro st bytes s i0 hinv hfh
    obtain ⟨n, _, _, hpf, hb⟩ :=
      decBytes_ok accepts hook st bytes s i0 (firstHit_some _ _ _ _ hfh).1
    refine ⟨?_, fun hp => ?_⟩
    · rw [hb, ← hinv]
      exact (List.prefix_append_right_inj _).mpr (List.take_prefix _ _)
    · rw [pendBytes, hb, hpf hp, List.append_assoc, List.take_append_drop]
      exact hinv
  · intro i i' h hx
    rw [hxd i i' hx]
    exact h

/-- **No prefix leak**: the bytes of a returned instruction are a prefix of *this* call's input
    (nothing seen by an earlier call can appear in it, because every call starts with no pending
    instruction — `pending_none_after_call`). -/
theorem no_prefix_leak (cands : List Nat → List SpecK)
    (accepts : SpecK → List Nat → Bool) (hook : SpecK → List Nat → Option Ins → HookOut)
    (xd : Ins → Option Ins) (hxd : ∀ i i', xd i = some i' → i'.bytes = i.bytes)
    (fuel : Nat) (bytes : List Nat) (i : Ins)
    (h : (call true cands (decBytes accepts hook) xd fuel none bytes).2 = .instr i) :
    i.bytes <+: bytes :=
  call_bytes_prefix cands accepts hook xd hxd bytes fuel none bytes i (by simp [pendBytes]) h

def leakSpecs : List SpecK := [⟨0, 8, 0xff, 0x66, .prefix⟩, ⟨1, 8, 0xff, 0x90, .no⟩, ⟨2, 8, 0xff, 0x0f, .no⟩]
def leakHook (s : SpecK) (_ : List Nat) (_ : Option Ins) : HookOut :=
  if s.id == 2 then .raise 7 else .ok s.id 0
def leakAcc (s : SpecK) (b : List Nat) : Bool := (b.headD 0) &&& s.mask == s.fix

/-- The original (unrepaired) code does leak: a hook that raises after a prefix was accepted leaves
    the prefix pending, and the next call returns an instruction that starts with it. -/
theorem original_code_leaks :
    runHistory false (fun _ => leakSpecs) (decBytes leakAcc leakHook) some none [[0x66, 0x0f], [0x90]]
      = [.raised 7, .instr ⟨[0x66, 0x90], 1⟩] := by decide

theorem repaired_code_does_not :
    runHistory true (fun _ => leakSpecs) (decBytes leakAcc leakHook) some none [[0x66, 0x0f], [0x90]]
      = [.raised 7, .instr ⟨[0x90], 1⟩] := by decide

end Amoco.Dis.Props11
