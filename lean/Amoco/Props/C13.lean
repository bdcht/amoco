/-
  C13 — Expressions, maps and memory behave as values.

  The expression half is stated on the abstract terms of Amoco/Model/Value.lean (any signature with a
  compositional width and denotation; an in-place rewrite acts at every occurrence of a shared node), not on
  `Amoco.Expr`; `operand_after_simplify` is the fact about `Amoco.simplify` that plays the part of `Sound` there.
-/
import Amoco.Model.Value
import Amoco.Props.C08
import Amoco.Props.C01

namespace Amoco.Value.Props

open Amoco.Value

variable {V : Type}

/-- a rewrite is *value-preserving* when whatever it puts in place of a node has the node's width and
    denotation (what C12 establishes for the widths of `op.simplify`, `comp.simplify`, `slc.simplify`, …, and
    C01 for the values on the fragment `Plain`, threshold off, under `NoRenderClash`) -/
def Sound (S : Sem V) (rw : Tm → Option Tm) : Prop :=
  ∀ t t', rw t = some t' → width S t' = width S t ∧ den S t' = den S t

mutual
theorem rewrite_preserves (S : Sem V) (rw : Tm → Option Tm) (h : Sound S rw) :
    ∀ t : Tm, width S (rewrite rw t) = width S t ∧ den S (rewrite rw t) = den S t
  | .leaf i => by
    unfold rewrite
    cases hr : rw (.leaf i) with
    | none => simp
    | some t' => simpa using h _ _ hr
  | .node f as => by
    have ih := rewrites_preserves S rw h as
    unfold rewrite
    simp only
    have hnode : width S (Tm.node f (rewrites rw as)) = width S (Tm.node f as) ∧
                 den S (Tm.node f (rewrites rw as)) = den S (Tm.node f as) := by
      simp only [width, den, ih.1, ih.2, and_self]
    cases hr : rw (Tm.node f (rewrites rw as)) with
    | none => simpa using hnode
    | some t' =>
      have := h _ _ hr
      simp only [Option.getD_some]
      exact ⟨this.1.trans hnode.1, this.2.trans hnode.2⟩
theorem rewrites_preserves (S : Sem V) (rw : Tm → Option Tm) (h : Sound S rw) :
    ∀ ts : List Tm, widths S (rewrites rw ts) = widths S ts ∧ dens S (rewrites rw ts) = dens S ts
  | [] => by simp [rewrites, widths, dens]
  | t :: ts => by
    have h1 := rewrite_preserves S rw h t
    have h2 := rewrites_preserves S rw h ts
    simp only [rewrites, widths, dens, h1.1, h1.2, h2.1, h2.2, and_self]
end

/-- **operand_preserved**: an in-place rewrite of shared nodes that is sound node-wise leaves the width
    and the denotation of *every* expression embedding those nodes unchanged — the expression may be
    re-shaped, but only into an equivalent form. -/
theorem operand_preserved (S : Sem V) (rw : Tm → Option Tm) (h : Sound S rw) (e : Tm) :
    width S (rewrite rw e) = width S e ∧ den S (rewrite rw e) = den S e :=
  rewrite_preserves S rw h e

/-- …and so does any sequence of operations (each one a sound rewrite), for every expression of a
    workspace, whatever the sharing between them. -/
theorem history_preserved (S : Sem V) :
    ∀ (hist : List (Tm → Option Tm)), (∀ rw ∈ hist, Sound S rw) → ∀ e : Tm,
      width S (hist.foldl (fun t rw => rewrite rw t) e) = width S e ∧
      den S (hist.foldl (fun t rw => rewrite rw t) e) = den S e
  | [], _, e => by simp
  | rw :: rest, h, e => by
    have h1 := rewrite_preserves S rw (h rw List.mem_cons_self) e
    have h2 := history_preserved S rest (fun r hr => h r (List.mem_cons_of_mem _ hr)) (rewrite rw e)
    simp only [List.foldl_cons]
    exact ⟨h2.1.trans h1.1, h2.2.trans h1.2⟩

/-- conversely, one unsound node rewrite is visible from an embedding expression: value semantics
    really rests on the soundness of each in-place rule. -/
theorem unsound_rewrite_is_visible :
    let S : Sem Nat := ⟨fun _ => 8, fun i => i, fun _ _ => 8, fun _ vs => vs.foldl (· + ·) 0⟩
    let rw : Tm → Option Tm := fun t => match t with | .leaf 1 => some (.leaf 2) | _ => none
    den S (rewrite rw (.node 0 [.leaf 1, .leaf 5])) ≠ den S (.node 0 [.leaf 1, .leaf 5]) := by
  decide

/-- On amoco's algebra: `e.simplify(**opts)` rewrites the operand object `e` in place into what the functional
    model `simplify` returns.  By C01's `simplify_sound` the object seen afterwards — by its owner and by every
    expression that embeds it — has the same width and the same bit-vector value under every valuation without
    rendering clashes (for the sign-agnostic fragment `Plain`, without widening, threshold off).  This is the
    node-wise condition `Sound` asks for; `Amoco.Expr` is not made a `Sem` here, so the theorems above are
    not instantiated with it. -/
theorem operand_after_simplify (cfg : Amoco.Cfg) (hc : Amoco.C01.NoThreshold cfg) (ρ : Amoco.Expr.Val)
    (hρ : Amoco.C01.NoRenderClash ρ) (fuel : Nat) (opts : Amoco.Opts) (ho : opts.widening = false)
    (e post : Amoco.Expr) (he : Amoco.Expr.WF e) (hp : Amoco.Expr.Plain e)
    (h : Amoco.simplify cfg fuel opts e = .ok post) :
    post.size = e.size ∧ Amoco.Expr.ideal ρ post = Amoco.Expr.ideal ρ e := by
  have := Amoco.C01.simplify_sound cfg hc ρ hρ fuel opts ho e post he hp h
  exact ⟨this.2.1, this.2.2.2⟩

/-- memory half: operations on one live memory map (or on a copy) leave every other live map
    untouched — restated from C08 (functional model; the guarantee for the Python objects comes from
    the correspondence on all live maps in the C08 harness). -/
theorem memory_maps_are_values (ws : List Amoco.Memory.MMap) (i j : Nat) (op : Amoco.Memory.MOp) (h : i ≠ j) :
    (Amoco.Memory.WOp.apply ws (.on i op))[j]? = ws[j]? :=
  Amoco.Memory.Props.op_leaves_others ws i j op h

example : Sound (⟨fun _ => 8, fun i => i % 2, fun _ _ => 8, fun _ vs => vs.foldl (· + ·) 0⟩ : Sem Nat)
    (fun t => match t with | .leaf 4 => some (.leaf 2) | _ => none) := by
  intro t t' h
  simp only at h
  split at h
  · cases h; simp [width, den]
  · cases h

end Amoco.Value.Props
