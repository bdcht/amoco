/-
  C14 — Executable-format parsers report what the file encodes (HEX, S-record, ELF here; PE in
  Props/C14Pe.lean, Mach-O in Props/C14Macho.lean).  `Generated/FmtStructs.lean` is rewritten on
  every run from the patched struct instances of /repo (reflection) and re-checked here.
-/
import Amoco.Model.HexSrec
import Amoco.Model.Elf
import Amoco.Proofs.Fmt
import Generated.FmtStructs

namespace Amoco.Fmt.Props

open Amoco Amoco.Fmt

/-- parse (print r) = r for every Intel-HEX record (any type, any payload, count/address/type in
    range, type-specific payload lengths as the format defines them). -/
theorem hex_roundtrip (r : HexRec) (h : r.WF) :
    hexLineSet (hexPrint r r.cksum) = .ok r.toLine := by
  have hck : r.cksum < 256 := by unfold HexRec.cksum hexCksum; omega
  rw [hexLineSet, strip_hexPrint, hexLineBody_print r h _ hck, if_pos rfl]
  rfl

/-- every record with every wrong checksum byte is rejected with the format's own error. -/
theorem hex_bad_checksum_rejected (r : HexRec) (h : r.WF) (ck : Nat) (hck : ck < 256) (hne : ck ≠ r.cksum) :
    hexLineSet (hexPrint r ck) = .error .hexError := by
  rw [hexLineSet, strip_hexPrint, hexLineBody_print r h _ hck, if_neg (fun e => hne e.symm)]
  rfl

/-- parse (print r) = r for every S-record (S0–S3, S5–S9). -/
theorem srec_roundtrip (r : SrecRec) (h : r.WF) :
    srecLineSet (srecPrint r r.cksum) = .ok r.toLine := by
  have hck : r.cksum < 256 := by unfold SrecRec.cksum srecCksum; omega
  rw [srecLineSet, strip_srecPrint, srecLineBody_print r h _ hck, if_pos rfl]
  rfl

/-- every S-record with every wrong checksum byte is rejected (`SRECline.set` since `fix: an S-record with a
    wrong checksum raises SRECError instead of being accepted with a warning`). -/
theorem srec_bad_checksum_rejected (r : SrecRec) (h : r.WF) (ck : Nat) (hck : ck < 256) (hne : ck ≠ r.cksum) :
    srecLineSet (srecPrint r ck) = .error .srecError := by
  rw [srecLineSet, strip_srecPrint, srecLineBody_print r h _ hck, if_neg (fun e => hne e.symm)]
  rfl

/-- HEX address composition (`HEX.decode`) agrees with the Intel-HEX specification (the most recent
    extension record decides between segment·16+offset and linear·65536+offset) for EVERY stream of
    records, mixed extension records included (`HEX.decode` since `fix: HEX.decode lets the most recent
    extended address record give the base`). -/
theorem hex_address_composition (ls : List HexLine) :
    hexDecode ls = hexRefAddrs ls :=
  hexDecode_eq_ref ls .plain

/-- mixed extension records: type 04 (base 1), then type 02 (base 0x2000), then data at 0x10 goes
    to 0x2000·16 + 0x10. -/
example :
    hexDecode [⟨2, 0, 4, [0, 1], 0xF9, .ela 1⟩, ⟨2, 0, 2, [0x20, 0], 0xDC, .base 0x2000⟩, ⟨1, 0x10, 0, [0xAA], 0x45, .none⟩]
      = [(0x20010, [0xAA])] := by
  decide +kernel

def letterSize : String → Option Nat
  | "B" => some 1 | "c" => some 1 | "b" => some 1
  | "H" => some 2 | "I" => some 4 | "Q" => some 8
  | _ => none

/-- a generated row `(name, struct letter, count, order)` as a model field, provided the letter is
    one of the unsigned scalars / byte arrays the ELF structures use and the order is the expected one. -/
def genField (order : String) (g : Generated.Fmt.F) : Option RawField :=
  match letterSize g.2.1 with
  | some sz => if g.2.2.2 == order then some { name := g.1, size := sz, count := g.2.2.1 } else none
  | none => none

def genFields (order : String) (l : List Generated.Fmt.F) : Option (List RawField) := l.mapM (genField order)

/-- T tie: the field lists reflected from the *patched instances* of /repo's `Ehdr/Phdr/Shdr/Sym/Rel/
    Rela/Dyn` in the four class × byte-order combinations are the model's field lists (same names,
    same order, same widths, unsigned, the byte order that was asked for). Regenerated every run. -/
theorem generated_eq_model :
    ∀ e ∈ [ ("<", Generated.Fmt.ident, identFields),
      ("<", Generated.Fmt.ehdr32le, ehdrFields false), (">", Generated.Fmt.ehdr32be, ehdrFields false),
      ("<", Generated.Fmt.ehdr64le, ehdrFields true), (">", Generated.Fmt.ehdr64be, ehdrFields true),
      ("<", Generated.Fmt.phdr32le, phdrFields false), (">", Generated.Fmt.phdr32be, phdrFields false),
      ("<", Generated.Fmt.phdr64le, phdrFields true), (">", Generated.Fmt.phdr64be, phdrFields true),
      ("<", Generated.Fmt.shdr32le, shdrFields false), (">", Generated.Fmt.shdr32be, shdrFields false),
      ("<", Generated.Fmt.shdr64le, shdrFields true), (">", Generated.Fmt.shdr64be, shdrFields true),
      ("<", Generated.Fmt.sym32le, symFields false), (">", Generated.Fmt.sym32be, symFields false),
      ("<", Generated.Fmt.sym64le, symFields true), (">", Generated.Fmt.sym64be, symFields true),
      ("<", Generated.Fmt.rel32le, relFields false), (">", Generated.Fmt.rel32be, relFields false),
      ("<", Generated.Fmt.rel64le, relFields true), (">", Generated.Fmt.rel64be, relFields true),
      ("<", Generated.Fmt.rela32le, relaFields false), (">", Generated.Fmt.rela32be, relaFields false),
      ("<", Generated.Fmt.rela64le, relaFields true), (">", Generated.Fmt.rela64be, relaFields true),
      ("<", Generated.Fmt.dyn32le, dynFields false), (">", Generated.Fmt.dyn32be, dynFields false),
      ("<", Generated.Fmt.dyn64le, dynFields true), (">", Generated.Fmt.dyn64be, dynFields true) ],
      genFields e.1 e.2.1 = some e.2.2 := by
  decide +kernel

/-- The field lists of `Ehdr/Phdr/Shdr/Sym/Rel/Rela/Dyn` as `elf.py` patches them, laid out by the
    struct walk (`offset = base + align(offset − base)`, `offset += size`), are the offset tables of the ELF
    specification, for both classes (byte order does not move fields). -/
theorem elf_layouts (x64 : Bool) :
    layout identFields 0 = specIdent ∧
    layoutPacked (ehdrFields x64) 16 = specEhdr x64 ∧
    layout (phdrFields x64) 0 = specPhdr x64 ∧
    layout (shdrFields x64) 0 = specShdr x64 ∧
    layout (symFields x64) 0 = specSym x64 ∧
    layout (relFields x64) 0 = specRel x64 ∧
    layout (relaFields x64) 0 = specRela x64 ∧
    layout (dynFields x64) 0 = specDyn x64 :=
  ⟨layout_ident, layout_ehdr x64, layout_phdr x64, layout_shdr x64, layout_sym x64, layout_rel x64,
   layout_rela x64, layout_dyn x64⟩

/-- the struct walk of `StructCore.unpack` at *any* base offset (fields are aligned relative to the
    start of the structure) reads every field at `base +` its layout offset — this is what makes
    `elf_layouts` meaningful. -/
theorem unpack_reads_layout (be : Bool) (fs : List RawField) (data : Bytes) (base : Nat)
    (hs : ∀ f ∈ fs, f.count = 0) (hin : base + layoutEnd fs 0 ≤ data.length) :
    structUnpack be fs data base = .ok (readLayout be (layout fs 0) data base) :=
  structUnpack_spec be fs _ _ hs rfl rfl data base hin

/-- For every well-formed image (`ElfWF`: magic, header and both tables inside the file at any
    position, section-name string table valid) the constructor's header fields, program
    headers, section headers, section names, class and byte order are those of the reference reader.
    `ElfWF` asks nothing of the `p_type` values: since `fix: Elf.Phdr keeps program headers whose p_type is
    not in the constant table` the constructor keeps every program header (`keepPhdr` is constantly true).
    `_partial`: images outside `ElfWF` are malformed ones, which C20 covers. -/
theorem elf_parse_eq_ref_partial (env : ElfEnv) (data : Bytes) (h : ElfWF env data) :
    ∃ t, elfTables env data = .ok t ∧
      t.ident = (refElf data).ident ∧ t.ehdr = (refElf data).ehdr ∧
      t.x64 = (refElf data).x64 ∧ t.be = (refElf data).be ∧
      t.phdr = (refElf data).phdr ∧
      t.shdr.map (·.hdr) = (refElf data).shdr ∧
      t.shdr.map (·.name) = (refElf data).names := by
  refine ⟨?t, ?eq, ?_, ?_, ?_, ?_, ?_, ?_, ?_⟩
  case eq =>
    rw [elfTables, elfIdent_ok h]
    dsimp only
    rw [elfEhdr_ok h, refElf_x64, refElf_be]
    dsimp only
    rw [elfPhdrs_ok h, elfShdrs_ok h]
    dsimp only
    rw [elfNames_ok h]
  · rfl
  · rfl
  · rfl
  · rfl
  · exact List.filter_eq_self.mpr (fun _ _ => rfl)
  · dsimp only; rw [List.map_map]; exact List.map_id _
  · dsimp only; rw [List.map_map, refElf_names]; rfl

/-- … and whenever the constructor returns an object, its tables are those and the entry point it
    reports is the file's `e_entry`. -/
theorem elf_object_eq_ref_partial (env : ElfEnv) (data : Bytes) (h : ElfWF env data) (o : ElfObj)
    (ho : elfInit env data = .ok o) :
    o.t.ehdr = (refElf data).ehdr ∧ o.t.phdr = (refElf data).phdr ∧
    o.t.shdr.map (·.hdr) = (refElf data).shdr ∧ o.t.shdr.map (·.name) = (refElf data).names ∧
    o.entrypoints = [(refElf data).entry] := by
  obtain ⟨t, ht, _, he, _, _, hp, hs, hn⟩ := elf_parse_eq_ref_partial env data h
  have hot : o.t = t := by
    have := elfInit_tables ho
    rw [ht] at this
    cases this
    rfl
  rw [hot]
  exact ⟨he, hp, hs, hn, by rw [ElfObj.entrypoints, hot, he]; simp only [refElf]⟩

/-- symbol tables: `__read_symtab` on the bytes of a symbol table section returns, entry by entry,
    the specification's `ElfN_Sym` at `i · sh_entsize`. -/
theorem elf_symtab_entries (be x64 : Bool) (S : Rec) (bytes : Bytes)
    (hent : fget S "sh_entsize" ≠ 0) (hmod : fget S "sh_size" % fget S "sh_entsize" = 0)
    (hbig : fget S "sh_size" / fget S "sh_entsize" ≤ bigTable)
    (hne : bytes ≠ [])
    (hin : ∀ i, i < fget S "sh_size" / fget S "sh_entsize" → i * fget S "sh_entsize" + symSize x64 ≤ bytes.length) :
    readEntries be (symFields x64) S bytes =
      .ok ((refTable be (specSym x64) bytes (fget S "sh_size" / fget S "sh_entsize") 0 (fget S "sh_entsize")).map some) := by
  obtain ⟨hs, he⟩ := sym_facts x64
  have e1 : (fget S "sh_entsize" == 0) = false := beq_eq_false_iff_ne.mpr hent
  have e2 : (fget S "sh_size" % fget S "sh_entsize" != 0) = false := by rw [hmod]; rfl
  have e3 : ¬ (fget S "sh_size" / fget S "sh_entsize" > bigTable) := Nat.not_lt.mpr hbig
  have e4 : bytes.isEmpty = false := by cases bytes with | nil => exact absurd rfl hne | cons a b => rfl
  unfold readEntries
  simp only [e1, e2, e3, e4, bind, Except.bind, Bool.false_eq_true, if_false]
  rw [tableM_ok _ (fun o => some (refStruct be [] (specSym x64) bytes o))]
  · rw [refTable, List.map_map]; rfl
  · intro i hi
    rw [structUnpack_spec be _ _ _ hs (layout_sym x64) he bytes _ (by have := hin i hi; omega)]
    rfl

/-- address → section and address → file offset follow the file's mapping: with a section table,
    `getinfo` returns the *last* `SHT_PROGBITS` section whose `[sh_addr, sh_addr+sh_size)` holds the
    address, offset `addr − sh_addr`, and `getfileoffset` is `sh_offset + (addr − sh_addr)`; it
    returns nothing exactly when no such section exists. -/
theorem elf_getinfo_follows_mapping (t : ElfTables) (addr : Nat) (hne : t.shdr ≠ []) :
    (∃ i s, t.shdr[i]? = some s ∧ secHolds addr s = true ∧
        (∀ j s', i < j → t.shdr[j]? = some s' → secHolds addr s' = false) ∧
        getinfo t addr = (.sec i, addr - fget s.hdr "sh_addr", fget s.hdr "sh_addr") ∧
        getfileoffset t addr = some (fget s.hdr "sh_offset" + (addr - fget s.hdr "sh_addr"))) ∨
    ((∀ s ∈ t.shdr, secHolds addr s = false) ∧ getinfo t addr = (.none, 0, 0) ∧ getfileoffset t addr = none) := by
  have hg := getinfo_shdr t addr hne
  cases hf : findLastIdx (secHolds addr) t.shdr with
  | none =>
    rw [hf] at hg
    exact .inr ⟨findLastIdx_none _ _ hf, hg, by rw [getfileoffset, hg]⟩
  | some i =>
    obtain ⟨-, ⟨s, hs, hp⟩, hlast⟩ := findLastIdx_some _ _ _ hf
    have hget : t.shdr.getD i default = s := by rw [List.getD_eq_getElem?_getD, hs]; rfl
    rw [hf] at hg
    dsimp only at hg
    rw [hget] at hg
    exact .inl ⟨i, s, hs, hp, hlast, hg, by rw [getfileoffset, hg]; dsimp only; rw [hget]⟩

example : (⟨3, 0x0100, 0, [1, 2, 3]⟩ : HexRec).WF := by unfold HexRec.WF; decide
example : (⟨2, 0, 4, [0x08, 0x00]⟩ : HexRec).WF := by unfold HexRec.WF; decide
example : (⟨1, 0x1234, [0xde, 0xad]⟩ : SrecRec).WF := by unfold SrecRec.WF; decide
example : hexLineSet (hexPrint ⟨3, 0x0100, 0, [1, 2, 3]⟩ (HexRec.cksum ⟨3, 0x0100, 0, [1, 2, 3]⟩))
    = .ok (HexRec.toLine ⟨3, 0x0100, 0, [1, 2, 3]⟩) :=
  hex_roundtrip _ (by unfold HexRec.WF; decide)

/-- a 143-byte ELF32-LSB image: header, two section headers (NULL, .shstrtab) at 52, names at 132 -/
def tinyElf : Bytes :=
  [127, 69, 76, 70, 1, 1, 1, 0, 0, 0, 0, 0, 0, 0, 0, 0, 2, 0, 3, 0, 1, 0, 0, 0, 0, 128, 4, 8, 0, 0, 0, 0, 52, 0, 0, 0,
   0, 0, 0, 0, 52, 0, 32, 0, 0, 0, 40, 0, 2, 0, 1, 0] ++
  [0, 0, 0, 0, 0, 0, 0, 0, 0, 0, 0, 0, 0, 0, 0, 0, 0, 0, 0, 0, 0, 0, 0, 0, 0, 0, 0, 0, 0, 0, 0, 0, 0, 0, 0, 0, 0, 0, 0, 0] ++
  [1, 0, 0, 0, 3, 0, 0, 0, 0, 0, 0, 0, 0, 0, 0, 0, 132, 0, 0, 0, 11, 0, 0, 0, 0, 0, 0, 0, 0, 0, 0, 0, 1, 0, 0, 0, 0, 0, 0, 0] ++
  [0, 46, 115, 104, 115, 116, 114, 116, 97, 98, 0]

set_option maxRecDepth 100000 in
example : ElfWF { knownPT := [0, 1, 2, 3], knownSHT := [] } tinyElf where
  len := by decide
  magic0 := by decide
  magic := by decide
  ph_in := by decide
  sh_in := by decide
  strndx_pos := by decide
  strndx_lt := by decide
  strtab := by decide
  str_off := by decide
  str_size := by decide
  names_utf8 := by decide

end Amoco.Fmt.Props
