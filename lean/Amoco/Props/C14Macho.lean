/-
  C14 / C20 for Mach-O — the model of `amoco/system/macho.py` (Amoco/Model/Macho.lean) against a
  by-the-book reference reader.
-/
import Amoco.Proofs.Macho
import Amoco.Props.C20

namespace Amoco.Macho

/-- minimal 32-bit image: header, one LC_SEGMENT with one section, 4 bytes of code -/
def exImg32 : Bytes := [206, 250, 237, 254, 7, 0, 0, 0, 3, 0, 0, 0, 2, 0, 0, 0, 1, 0, 0, 0, 124, 0, 0, 0, 0, 0, 0, 0, 1, 0, 0, 0, 124, 0, 0, 0, 95, 95, 84, 69, 88, 84, 0, 0, 0, 0, 0, 0, 0, 0, 0, 0, 0, 16, 0, 0, 0, 16, 0, 0, 0, 0, 0, 0, 156, 0, 0, 0, 7, 0, 0, 0, 5, 0, 0, 0, 1, 0, 0, 0, 0, 0, 0, 0, 95, 95, 116, 101, 120, 116, 0, 0, 0, 0, 0, 0, 0, 0, 0, 0, 95, 95, 84, 69, 88, 84, 0, 0, 0, 0, 0, 0, 0, 0, 0, 0, 0, 16, 0, 0, 4, 0, 0, 0, 152, 0, 0, 0, 2, 0, 0, 0, 0, 0, 0, 0, 0, 0, 0, 0, 0, 4, 0, 128, 0, 0, 0, 0, 0, 0, 0, 0, 144, 144, 144, 195]

/-- minimal 64-bit image: header, one LC_SEGMENT_64 with one section, 4 bytes of code -/
def exImg64 : Bytes := [207, 250, 237, 254, 7, 0, 0, 1, 3, 0, 0, 0, 2, 0, 0, 0, 1, 0, 0, 0, 152, 0, 0, 0, 0, 0, 0, 0, 0, 0, 0, 0, 25, 0, 0, 0, 152, 0, 0, 0, 95, 95, 84, 69, 88, 84, 0, 0, 0, 0, 0, 0, 0, 0, 0, 0, 0, 0, 0, 0, 1, 0, 0, 0, 0, 16, 0, 0, 0, 0, 0, 0, 0, 0, 0, 0, 0, 0, 0, 0, 188, 0, 0, 0, 0, 0, 0, 0, 7, 0, 0, 0, 5, 0, 0, 0, 1, 0, 0, 0, 0, 0, 0, 0, 95, 95, 116, 101, 120, 116, 0, 0, 0, 0, 0, 0, 0, 0, 0, 0, 95, 95, 84, 69, 88, 84, 0, 0, 0, 0, 0, 0, 0, 0, 0, 0, 0, 0, 0, 0, 1, 0, 0, 0, 4, 0, 0, 0, 0, 0, 0, 0, 184, 0, 0, 0, 2, 0, 0, 0, 0, 0, 0, 0, 0, 0, 0, 0, 0, 4, 0, 128, 0, 0, 0, 0, 0, 0, 0, 0, 0, 0, 0, 0, 144, 144, 144, 195]

/-- On every well-formed image (the by-the-book reference reader, which walks
    `ncmds` commands laid back to back in `sizeofcmds` bytes with whole-structure bounds checks, accepts
    it) the constructor model — which walks by `sizeofcmds`, field by field, on clamped slices — returns
    exactly the reference's header, load-command list (cmd, cmdsize, offset), segments and sections. -/
theorem macho_parse_eq_ref (d : Bytes) (hwf : MachoWF d) :
    ∃ o, refParse d = some o ∧ machoInit d = .ok o ∧ parseRaw d = .ok o := by
  unfold MachoWF at hwf
  cases h : refParse d with
  | none => rw [h] at hwf; cases hwf
  | some o => exact ⟨o, rfl, machoInit_eq_ref h, parseRaw_eq_ref h⟩

set_option maxRecDepth 100000 in
example : MachoWF exImg32 := by decide +kernel
set_option maxRecDepth 100000 in
example : MachoWF exImg64 := by decide +kernel
def oneSegOneSect (r : Py Obj) (k : Kind) : Bool :=
  match r with
  | .ok o => o.kind == k && o.cmds.length == 1 &&
      o.cmds.all (fun c => match c.body with | .seg s => s.sections.length == 1 && s.nsects == 1 | _ => false)
  | .error _ => false

set_option maxRecDepth 100000 in
example : oneSegOneSect (machoInit exImg32) .macho32 = true := by decide +kernel
set_option maxRecDepth 100000 in
example : oneSegOneSect (machoInit exImg64) .macho64 = true := by decide +kernel

/-- For every byte string: the constructor (header + load-command stage)
    returns an object or raises `MachOError`/`StructureError`, nothing else; and the load-command walker,
    started anywhere with any `sizeofcmds`, never exhausts `length + 1` units of fuel (it terminates
    within `length/8 + 1` iterations — note that the code does not use `ncmds` at all), ends only
    normally or with one of the two format errors (without the help of the wrapper), every command it
    built had its 8-byte header inside the file, and `k` commands built means `off + 8k ≤ length`. -/
theorem macho_walker_total (d : Bytes) :
    (∀ e, machoInit d = .error e → e.isFormat = true) ∧
    (∀ soc off, let r := walk d soc (d.length + 1) off 0
       r.2 ≠ some .fuel ∧ (∀ e, r.2 = some e → e.isFormat = true) ∧
       (∀ c ∈ r.1, c.off + 8 ≤ d.length) ∧ (r.1 ≠ [] → off + 8 * r.1.length ≤ d.length)) := by
  refine ⟨?_, ?_⟩
  · intro e h
    rcases wrap_format _ _ h with h | h <;> subst h <;> rfl
  · intro soc off
    have hnf := walk_no_fuel d soc (d.length + 1) off 0 (by omega) (by omega)
    refine ⟨hnf, ?_, walk_inbounds d soc _ off 0, ?_⟩
    · intro e he
      rcases walk_end d soc _ off 0 e he with h | h | h
      · subst h; rfl
      · subst h; rfl
      · subst h; exact absurd he hnf
    · intro hne
      exact chain_steps d.length _ off (walk_chain d soc _ off 0) (walk_inbounds d soc _ off 0) hne

/-- the walker does reach both error classes and the normal exit -/
example : (walk [1, 0, 0, 0, 4, 0, 0, 0] 8 9 0 0).2 = some .machoError := by decide +kernel
example : (walk [1, 0, 0, 0] 8 5 0 0).2 = some .structureError := by decide +kernel
example : (walk [0x99, 0, 0, 0, 8, 0, 0, 0] 8 9 0 0) = ([{ off := 0, cmd := 0x99, cmdsize := 8, body := .raw }], none) := by decide +kernel

/-- For every byte string the commands the walker reports are
    consecutive: each starts where the previous one ends and is at least 8 bytes long; on a well-formed
    image they start right after the header and all lie inside the `sizeofcmds` bytes. -/
theorem macho_offsets_monotone (d : Bytes) :
    (∀ soc off, Chain off (walk d soc (d.length + 1) off 0).1) ∧
    (∀ o, refParse d = some o →
       let hs := if o.header.is64 then 32 else 28
       Chain hs o.cmds ∧ ∀ c ∈ o.cmds, hs ≤ c.off ∧ c.off + c.cmdsize ≤ hs + o.header.sizeofcmds) := by
  refine ⟨fun soc off => walk_chain d soc _ off 0, fun o ho => ?_⟩
  obtain ⟨-, -, hc, -⟩ := refParse_inv ho
  exact (refCmds_spec d _ _ _ _ hc).2

/-- No byte is reported as part of two commands: for `a` before `b` in the
    list, `a.off + a.cmdsize ≤ b.off` (for every byte string, hence in particular under `MachoWF`). -/
theorem macho_cmds_disjoint (d : Bytes) (soc off : Nat) :
    (walk d soc (d.length + 1) off 0).1.Pairwise (fun a b => a.off + a.cmdsize ≤ b.off) :=
  chain_pairwise _ off (walk_chain d soc _ off 0)

theorem macho_cmds_disjoint_obj (d : Bytes) (o : Obj) (h : parseRaw d = .ok o) :
    o.cmds.Pairwise (fun a b => a.off + a.cmdsize ≤ b.off) := by
  rcases (parseRaw_inv h).2.2 with hc | ⟨soc, off, hc⟩ <;> rw [hc]
  · exact List.Pairwise.nil
  · exact macho_cmds_disjoint d soc off

set_option maxRecDepth 100000 in
example : (walk exImg32 124 153 28 0).1.length = 1 := by decide +kernel

theorem leVal_eq : ∀ bs : Bytes, Amoco.Fmt.leVal bs = leVal bs
  | [] => rfl
  | b :: t => by simp [Amoco.Fmt.leVal, leVal, leVal_eq t]

/-- An image the Mach-O constructor accepts satisfies the header-level
    Mach-O predicate of the `read_program` model, hence (by `Fmt.magic_disjoint`) is not accepted as
    ELF, PE, Intel-HEX or S-record. -/
theorem macho_magic_disjoint (env : Amoco.Fmt.ElfEnv) (d : Bytes) (hb : Amoco.Fmt.BytesOK d) (o : Obj)
    (h : machoInit d = .ok o) :
    Amoco.Fmt.machoHeaderOK d = true ∧ Amoco.Fmt.accElf env d = false ∧ Amoco.Fmt.peHeaderOK d = false ∧
    Amoco.Fmt.accHex d = false ∧ Amoco.Fmt.accSrec d = false := by
  obtain ⟨h28, hm, -⟩ := parseRaw_inv (wrap_ok h)
  have hok : Amoco.Fmt.machoHeaderOK d = true := by
    unfold Amoco.Fmt.machoHeaderOK
    have e : Amoco.Fmt.leVal (Amoco.Fmt.slice d 0 4) = le d 0 4 := by rw [leVal_eq]; rfl
    simp only [e, Bool.and_eq_true, Bool.or_eq_true, decide_eq_true_eq, beq_iff_eq]
    refine ⟨h28, ?_⟩
    rcases hm with hm | ⟨hm, h32⟩ | hm
    · exact Or.inl (Or.inl hm)
    · exact Or.inl (Or.inr ⟨hm, h32⟩)
    · exact Or.inr hm
  obtain ⟨_, elf_macho, _, _, pe_macho, _, _, macho_hex, macho_srec, _⟩ := Amoco.Fmt.Props20.magic_disjoint env d hb
  exact ⟨hok, Bool.eq_false_iff.mpr fun hx => elf_macho ⟨hx, hok⟩, Bool.eq_false_iff.mpr fun hx => pe_macho ⟨hx, hok⟩,
    Bool.eq_false_iff.mpr fun hx => macho_hex ⟨hok, hx⟩, Bool.eq_false_iff.mpr fun hx => macho_srec ⟨hok, hx⟩⟩

end Amoco.Macho
