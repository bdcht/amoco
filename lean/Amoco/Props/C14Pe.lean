/-
  C14 / C20 for PE — the model of `amoco.system.pe.PE.__init__` up to and including the section table
  (Amoco/Model/Pe.lean) against a by-the-book reference reader of the PE/COFF specification.
-/
import Amoco.Model.Pe
import Amoco.Proofs.Pe
import Amoco.Model.Elf
import Amoco.Proofs.Fmt

namespace Amoco.Pe.Props

open Amoco.Pe Amoco.Pe.Ref

/-- The field lists of pe.py (PE32+ list = the list after `f.pop(8)` and the five `typename = "Q"`)
    produce the offset/size tables of the specification, and `len()` of each structure is the
    specification's size. -/
theorem pe_layouts :
    layout coffFields 0 = coffSpec.map ofSpec ∧ structLen coffFields = 24 ∧
    layout opt32Fields 0 = opt32Spec.map ofSpec ∧ structLen opt32Fields = 96 ∧
    layout (optFields [0x0b, 0x02]) 0 = opt64Spec.map ofSpec ∧ structLen (optFields [0x0b, 0x02]) = 112 ∧
    layout ddFields 0 = ddSpec.map ofSpec ∧ structLen ddFields = 8 ∧
    layout secFields 0 = secSpec.map ofSpec ∧ structLen secFields = 40 ∧
    layout dosFields 0 = [(.bytes, 0, 2), (.pad, 2, 58), (.le, 60, 4)] :=
  ⟨coff_layout, coff_len, opt32_layout, opt32_len, opt64_layout, opt64_len, dd_layout, dd_len,
   sec_layout, sec_len, dos_layout⟩

/-- on every image satisfying `PeWF` the constructor, with or without the catch-all of `__init__`, returns
    exactly what the reference reader reports. -/
theorem pe_parse_eq_ref (data : Bytes) (h : PeWF data = true) :
    peParseRaw data = .ok (refRead data) ∧ peInit data = .ok (refRead data) := by
  have key : peParseRaw data = .ok (refRead data) := by
    simp only [PeWF, Bool.and_eq_true, decide_eq_true_eq, beq_iff_eq, Bool.or_eq_true] at h
    obtain ⟨⟨⟨⟨⟨⟨⟨⟨⟨hb, h64⟩, hmz⟩, hlf⟩, hsig⟩, hmagic⟩, hfix⟩, hnd⟩, hsoh⟩, hsec⟩ := h
    obtain ⟨dos, hdos, hlfv⟩ := dosHdr_ok data h64
      (slice2_of_u16 data 0 0x4d 0x5a hb (by omega) (by omega) (by rw [hmz]))
    have hcoff := coffHdr_ok data (u32 data 0x3c) hlf hsig
    have hnsec : Rec.nth (readSpec data (u32 data 0x3c) coffSpec) 2 = u16 data (u32 data 0x3c + 6) := rfl
    have hsohv : Rec.nth (readSpec data (u32 data 0x3c) coffSpec) 6 = u16 data (u32 data 0x3c + 20) := rfl
    have hsecs := tableLoop_ok secFields secSpec 40 sec_layout sec_len (by rw [sec_end]; decide) data
      (u16 data (u32 data 0x3c + 6)) (u32 data 0x3c + 24 + u16 data (u32 data 0x3c + 20)) hsec
    rcases hmagic with hm | hm
    · have hne : (u16 data (u32 data 0x3c + 24) == 0x20b) = false := by rw [hm]; decide
      have e96 : (if (0x10b : Nat) = 0x20b then 112 else 96) = 96 := by decide
      simp only [hm, e96] at hfix hnd hsoh
      have hsl : slice data (u32 data 0x3c + 24) 2 = [0x0b, 0x01] :=
        slice2_of_u16 data _ 0x0b 0x01 hb (by omega) (by omega) (by rw [hm])
      have hopt := optHdr_ok data (u32 data 0x3c + 24) false opt32Fields opt32Spec 96
        (u32 data (u32 data 0x3c + 24 + 96 - 4)) (by rw [hsl]; decide)
        (by rw [hsl]; exact optFields_other _ (by decide)) opt32_layout opt32_len opt32_end rfl hnd (by omega)
      -- each stage of the constructor succeeds with the value its fact above names, which leaves a record
      -- of `readSpec`s; `refRead`, on its PE32 branch, is that record
      simp only [peParseRaw, hdos, hlfv, hcoff, coff_len, hopt, hnsec, hsohv, hsecs]
      simp only [refRead, hne, Bool.false_eq_true, if_false]
    · have hne : (u16 data (u32 data 0x3c + 24) == 0x20b) = true := by rw [hm]; decide
      simp only [hm, reduceIte] at hfix hnd hsoh
      have hsl : slice data (u32 data 0x3c + 24) 2 = [0x0b, 0x02] :=
        slice2_of_u16 data _ 0x0b 0x02 hb (by omega) (by omega) (by rw [hm])
      have hopt := optHdr_ok data (u32 data 0x3c + 24) true _ opt64Spec 112
        (u32 data (u32 data 0x3c + 24 + 112 - 4)) (by rw [hsl]; decide)
        (by rw [hsl]) opt64_layout opt64_len opt64_end rfl hnd (by omega)
      simp only [peParseRaw, hdos, hlfv, hcoff, coff_len, hopt, hnsec, hsohv, hsecs]
      simp only [refRead, hne, if_true]
  exact ⟨key, by simp [peInit, key]⟩

/-- For every byte string the header stage of the PE constructor returns a parsed object or a
    format error (`PEError`, or the struct layer's `StructureError` that `read_program` catches with
    it) — already without the catch-all of `PE.__init__`, and hence with it. -/
theorem pe_ctor_total (data : Bytes) :
    ((∃ o, peParseRaw data = .ok o) ∨ peParseRaw data = .error .peError ∨ peParseRaw data = .error .structureError) ∧
    ((∃ o, peInit data = .ok o) ∨ ∃ e, peInit data = .error e ∧ e.isFormat = true) ∧
    (∀ o, peInit data = .ok o ↔ peParseRaw data = .ok o) := by
  have hraw : (∃ o, peParseRaw data = .ok o) ∨ peParseRaw data = .error .peError ∨
      peParseRaw data = .error .structureError := by
    cases hr : peParseRaw data with
    | ok o => exact .inl ⟨o, rfl⟩
    | error e => rcases peParseRaw_raises data e hr with rfl | rfl <;> simp
  refine ⟨hraw, ?_, ?_⟩
  · rcases hraw with ⟨o, ho⟩ | ho | ho
    · exact .inl ⟨o, by simp [peInit, ho]⟩
    · exact .inr ⟨.peError, by simp [peInit, ho], rfl⟩
    · exact .inr ⟨.structureError, by simp [peInit, ho], rfl⟩
  · intro o
    rcases hraw with ⟨o', ho⟩ | ho | ho <;> simp [peInit, ho]

/-- What an accepted image made the constructor read: exactly `NumberOfSections` section entries
    (a 16-bit field: < 65536 on a byte string) and at most 16 directories, each entry wholly inside the
    input — so the number of entries is also at most |input| / 40 resp. |input| / 8.  Nothing is
    allocated from a file-controlled size at this stage. -/
theorem pe_sections_bounded (data : Bytes) (o : PeObj) (h : peParseRaw data = .ok o) :
    o.sections.length = o.nt.nth 2 ∧
    40 * o.sections.length ≤ data.length ∧
    o.dirs.length ≤ 16 ∧ 8 * o.dirs.length ≤ data.length ∧
    o.lfanew + 24 ≤ data.length ∧
    (data.all (· < 256) = true → o.sections.length < 65536) := by
  obtain ⟨-, hnt, hopt, hsecs⟩ := peParseRaw_inv h
  obtain ⟨hcb, hnte⟩ := coffHdr_inv hnt
  obtain ⟨hd1, hd2⟩ := optHdr_inv hopt
  obtain ⟨hlen, hin⟩ := tableLoop_bound secFields sec_pos (by decide) data _ _ _ hsecs
  refine ⟨hlen, ?_, hd1, hd2, hcb, fun hb => ?_⟩
  · by_cases hz : o.sections.length = 0
    · omega
    · have := hin (by omega)
      rw [sec_len, sec_end, ← hlen] at this
      omega
  · rw [hlen, hnte]
    exact u16_lt data (o.lfanew + 6) hb

/-- A byte string the PE constructor accepts starts with 'M', hence is rejected by the ELF
    constructor (0x7f), the Mach-O header test (0xCE/0xCF/0xCA), HEX (':') and SREC ('S'). -/
theorem pe_magic_disjoint (env : Amoco.Fmt.ElfEnv) (data : Bytes) (o : PeObj)
    (hb : ∀ b ∈ data, b < 256) (h : peInit data = .ok o) :
    Amoco.Fmt.accElf env data = false ∧ Amoco.Fmt.machoHeaderOK data = false ∧
    Amoco.Fmt.accHex data = false ∧ Amoco.Fmt.accSrec data = false := by
  have hraw : peParseRaw data = .ok o := ((pe_ctor_total data).2.2 o).mp h
  have hs : Amoco.Fmt.StartsWith [77] data := ⟨77, List.mem_singleton.mpr rfl, peParseRaw_head data o hraw⟩
  exact ⟨Bool.eq_false_iff.mpr fun hc => (Amoco.Fmt.accElf_head env data hc).disjoint hs (by decide),
    Bool.eq_false_iff.mpr fun hc => (Amoco.Fmt.machoHeaderOK_head data hb hc).disjoint hs (by decide),
    Bool.eq_false_iff.mpr fun hc => Amoco.Fmt.accHex_starts hc hs (by decide),
    Bool.eq_false_iff.mpr fun hc => Amoco.Fmt.accSrec_starts hc hs (by decide)⟩

/-- `locate` answers with the first section, not marked LNK_REMOVE, whose [RVA, RVA+VirtualSize)
    holds the address, and the offset inside it; `getfileoffset` is then
    PointerToRawData + (address − ImageBase − RVA) — the file's own mapping. -/
theorem pe_locate_sound (o : PeObj) (addr : Int) (i : Nat) (off : Int)
    (h : locate o addr true = .sec i off) :
    i < o.sections.length ∧
    (let s := o.sections.getD i []
     let rva := addr - (o.basemap : Int)
     s.nth 9 ≠ IMAGE_SCN_LNK_REMOVE ∧ (s.nth 2 : Int) ≤ rva ∧ rva < (s.nth 2 : Int) + (s.nth 1 : Int) ∧
     off = rva - (s.nth 2 : Int) ∧
     getfileoffset o addr = .ok ((s.nth 4 : Int) + (rva - (s.nth 2 : Int)))) ∧
    (∀ j, j < i → let s := o.sections.getD j []
      s.nth 9 = IMAGE_SCN_LNK_REMOVE ∨
        ¬ ((s.nth 2 : Int) ≤ addr - (o.basemap : Int) ∧ addr - (o.basemap : Int) < (s.nth 2 : Int) + (s.nth 1 : Int))) := by
  have h0 := h
  unfold locate at h
  simp only [if_true] at h
  split at h
  · rename_i i' off' hl
    cases h
    obtain ⟨k, hk, h2, h3, h4⟩ := locateSecs_sound _ _ _ _ _ hl
    rw [Nat.zero_add] at hk
    subst hk
    refine ⟨h2, ⟨h3.1, h3.2.1, h3.2.2.1, h3.2.2.2, ?_⟩, h4⟩
    simp only [getfileoffset, h0, h3.2.2.2]
  · split at h <;> cases h

/-- a minimal PE32 image: DOS header (e_lfanew = 64), 'PE\0\0', COFF header with one section and
    SizeOfOptionalHeader = 104, optional header with one data directory, one section header -/
def minimalPE32 : Bytes :=
  [0x4d, 0x5a] ++ List.replicate 58 0 ++ [64, 0, 0, 0] ++
  [0x50, 0x45, 0, 0, 0x4c, 0x01, 1, 0] ++ List.replicate 12 0 ++ [104, 0, 0x02, 0x01] ++
  [0x0b, 0x01] ++ List.replicate 26 0 ++ [0, 0, 0x40, 0] ++ List.replicate 60 0 ++ [1, 0, 0, 0] ++
  [0x10, 0, 0, 0, 0x20, 0, 0, 0] ++
  [0x2e, 0x74, 0x65, 0x78, 0x74, 0, 0, 0, 0x10, 0, 0, 0, 0, 0x10, 0, 0, 0, 2, 0, 0, 0, 2, 0, 0] ++
  List.replicate 12 0 ++ [0x20, 0, 0, 0x60]

/-- a minimal PE32+ image: the same with magic 0x20b, SizeOfOptionalHeader = 112, no directory, no section -/
def minimalPE64 : Bytes :=
  [0x4d, 0x5a] ++ List.replicate 58 0 ++ [64, 0, 0, 0] ++
  [0x50, 0x45, 0, 0, 0x64, 0x86, 0, 0] ++ List.replicate 12 0 ++ [112, 0, 0x22, 0x00] ++
  [0x0b, 0x02] ++ List.replicate 22 0 ++ [0, 0, 0, 0x40, 1, 0, 0, 0] ++ List.replicate 76 0 ++ [0, 0, 0, 0]

theorem minimalPE32_wf : PeWF minimalPE32 = true := by decide +kernel
theorem minimalPE64_wf : PeWF minimalPE64 = true := by decide +kernel

theorem refRead_minimalPE32 : refRead minimalPE32 =
    { lfanew := 64, plus := false, nt := [0x4550, 0x14c, 1, 0, 0, 0, 104, 0x102],
      opt := [0x10b, 0, 0, 0, 0, 0, 0, 0, 0, 0x400000, 0, 0, 0, 0, 0, 0, 0, 0, 0, 0, 0, 0, 0, 0, 0, 0, 0, 0, 0, 1],
      dirs := [[0x10, 0x20]],
      sections := [[0x2e74657874000000, 0x10, 0x1000, 0x200, 0x200, 0, 0, 0, 0, 0x60000020]] } := by
  decide +kernel

example : PeWF minimalPE32 = true := minimalPE32_wf
example : PeWF minimalPE64 = true := minimalPE64_wf
example : ∃ o, peInit minimalPE32 = .ok o ∧ o.sections.length = 1 ∧ o.dirs = [[0x10, 0x20]] ∧ o.basemap = 0x400000 :=
  ⟨refRead minimalPE32, (pe_parse_eq_ref _ minimalPE32_wf).2, by rw [refRead_minimalPE32]; decide⟩
example : getfileoffset (refRead minimalPE32) 0x401005 = .ok 0x205 := by rw [refRead_minimalPE32]; rfl
example : getfileoffset (refRead minimalPE32) 0x400005 = .error .attributeError := by rw [refRead_minimalPE32]; rfl
example : ∃ o, peInit minimalPE64 = .ok o ∧ o.plus = true ∧ o.basemap = 0x140000000 :=
  ⟨refRead minimalPE64, (pe_parse_eq_ref _ minimalPE64_wf).2, by decide +kernel⟩
-- both error classes occur: not a DOS header / a COFF header cut short
example : peInit [1, 2, 3] = .error .peError := by rfl
example : peInit (minimalPE32.take 80) = .error .structureError := by rfl

end Amoco.Pe.Props
