/-
  C15 — A loaded program's memory image equals the file's mapping, for the loader with the `fix:` commits
  named in Model/Loader.lean (`fx = .repaired`): every image, every page size `ps ≥ 1`, every loader
  configuration.  The memory model and its last-write-wins theorems are C08's.
-/
import Amoco.Model.Loader
import Amoco.Proofs.Loader
import Amoco.Props.C08

namespace Amoco.Loader.Props

open Amoco Amoco.Memory Amoco.Loader

/-- the page arithmetic of `Elf.loadsegment`, for every page size ≥ 1 (not only powers of two). -/
theorem page_arith (ps v : Nat) (h : 0 < ps) :
    pageStart ps v + pageOffset ps v = v ∧ pageOffset ps v ≤ ps - 1 ∧ v ≤ pageAlign ps v :=
  ⟨pageStart_add_pageOffset ps v, pageOffset_le_mask ps v, le_pageAlign ps v h⟩

theorem page_pow2 (k v : Nat) :
    pageOffset (2 ^ k) v = v % 2 ^ k ∧ pageStart (2 ^ k) v = v / 2 ^ k * 2 ^ k :=
  ⟨pageOffset_pow2 k v, pageStart_pow2 k v⟩

/-- `p_offset ≡ p_vaddr` modulo the page (what a kernel insists on) gives the first clause of `SegOK`, which
    also admits unaligned segments: the loader maps them just as well. -/
theorem congruent_seekable (ps : Nat) (s : Phdr) (h : SegCongruent ps s) : pageOffset ps s.vaddr ≤ s.offset := by
  unfold SegCongruent at h
  rw [← h]; exact pageOffset_le ps s.offset

theorem congruent_pow2 (k : Nat) (s : Phdr) : SegCongruent (2 ^ k) s ↔ s.offset % 2 ^ k = s.vaddr % 2 ^ k := by
  unfold SegCongruent
  rw [pageOffset_pow2, pageOffset_pow2]

/-- the block `loadsegment` returns for a `PT_LOAD` starts at `PAGESTART(p_vaddr)`; its byte at
    `p_vaddr + i` is file byte `p_offset + i` for `i < filesz` and `0` for `filesz ≤ i < memsz`; the page
    slack below `p_vaddr` is file content too (bytes `p_offset - PAGEOFFSET …`). -/
theorem loadsegment_bytes (file : Bytes) (ps : Nat) (s : Phdr) (hps : 0 < ps) (ok : SegOK file ps s) :
    (∀ i, i < s.filesz →
      (segBytes .repaired file ps s)[pageOffset ps s.vaddr + i]? = file[s.offset + i]? ∧ s.offset + i < file.length) ∧
    (∀ i, s.filesz ≤ i → i < s.memsz → (segBytes .repaired file ps s)[pageOffset ps s.vaddr + i]? = some 0) ∧
    (∀ k, k < pageOffset ps s.vaddr →
      (segBytes .repaired file ps s)[k]? = file[s.offset - pageOffset ps s.vaddr + k]?) := by
  have hpo : pageOffset ps s.vaddr ≤ s.offset := ok.1
  obtain ⟨-, hfm, hpos, hin⟩ := ok
  refine ⟨fun i hi => ⟨?_, by omega⟩, fun i h1 h2 => ?_, fun k hk => ?_⟩
  · have e : s.offset - pageOffset ps s.vaddr + (pageOffset ps s.vaddr + i) = s.offset + i := by omega
    rw [segBytes_get file ps s _ hps ⟨hpo, hfm, hpos, hin⟩ (by omega), if_pos (by omega), e]
  · rw [segBytes_get file ps s _ hps ⟨hpo, hfm, hpos, hin⟩ (by omega), if_neg (by omega)]
  · rw [segBytes_get file ps s _ hps ⟨hpo, hfm, hpos, hin⟩ (by omega), if_pos (by omega)]

section image

variable (c : Cfg) (img : ElfImage)

theorem elf_loads (h : LoadableOK c img) :
    loadElf .repaired c img = some ⟨writesZone (elfWrites .repaired c img), entryPc c img.entry⟩ ∧
    ∀ w ∈ elfWrites .repaired c img, 0 < w.2.1.len := by
  obtain ⟨hps, hptr, _, hseg, _, _⟩ := h
  constructor
  · unfold loadElf
    have : (loads img.phdrs).all (Phdr.seekOk c.ps) = true := by
      rw [List.all_eq_true]
      intro s hs
      obtain ⟨hc, _⟩ := hseg s hs
      simp only [Phdr.seekOk, decide_eq_true_eq]
      exact hc
    rw [if_pos this]
  · intro w hw
    unfold elfWrites at hw
    rcases List.mem_append.mp hw with hw | hw
    · rcases List.mem_append.mp hw with hw | hw
      · unfold segWrites at hw
        obtain ⟨s, hs, rfl⟩ := List.mem_map.mp hw
        exact segBytes_length_pos img.file c.ps s hps (hseg s hs)
      · unfold stackWrites at hw
        split at hw
        · simp at hw
        · simp only [List.mem_singleton] at hw
          subst hw
          show 0 < (zeros (stackSize c)).length
          simp only [zeros, List.length_replicate, stackSize]
          omega
    · unfold slotWrites at hw
      obtain ⟨r, _, rfl⟩ := List.mem_map.mp hw
      show 0 < (extVal r.2 c.ptr).len
      rw [extVal_len]; exact hptr

/-- every address holds the most recent write of the loader covering it: this is what the page-rounding
    slack, the stack pages and every other address hold ("whatever the code puts there"). -/
theorem elf_image_last_write (h : LoadableOK c img) :
    (writesZone (elfWrites .repaired c img)).WF ∧
    ∀ q : Int, (writesZone (elfWrites .repaired c img)).abs q = lastWrite (elfWrites .repaired c img) q := by
  have hne := (elf_loads c img h).2
  exact ⟨(writesZone_spec _ Zone.empty Zone.empty_wf hne).1,
         fun q => Amoco.Memory.Props.writes_last_write_wins _ hne q⟩

theorem later_writes_miss (h : LoadableOK c img) (s : Phdr) (hs : s ∈ loads img.phdrs) (i : Nat) (hi : i < s.memsz)
    (hslot : notInSlots c.ptr (elfSlots c img) (s.vaddr + i)) :
    lastWrite (stackWrites c) ((s.vaddr + i : Nat) : Int) = none ∧
    lastWrite (slotWrites c.ptr (elfSlots c img)) ((s.vaddr + i : Nat) : Int) = none := by
  obtain ⟨_, _, _, _, _, hst⟩ := h
  constructor
  · apply lastWrite_none
    intro w hw
    unfold stackWrites at hw
    split at hw
    · simp at hw
    · rename_i hab
      simp only [List.mem_singleton] at hw
      subst hw
      rcases hst with ha | hb | ⟨hsz, hap⟩
      · simp [ha] at hab
      · simp [hb] at hab
      · have e : ((stackBase c : Int) - (stackSize c : Int)) = ((stackBase c - stackSize c : Nat) : Int) := by omega
        show absWrite ((stackBase c : Int) - (stackSize c : Int)) (.raw (zeros (stackSize c))) .little _ = none
        rw [e]
        apply absWrite_raw_none
        simp only [zeros, List.length_replicate]
        rcases hap s hs with h1 | h1
        · left; unfold stackLo at h1; omega
        · right; omega
  · apply lastWrite_none
    intro w hw
    unfold slotWrites at hw
    obtain ⟨r, hr, rfl⟩ := List.mem_map.mp hw
    rw [absWrite_slot]
    have := hslot r hr
    have hn : ¬ (r.1 ≤ s.vaddr + i ∧ s.vaddr + i < r.1 + c.ptr) := by omega
    rw [if_neg hn]

theorem own_write (hps : 0 < c.ps) (s : Phdr) (ok : SegOK img.file c.ps s) (i : Nat) (hi : i < s.memsz) :
    absWrite (segWrite .repaired img.file c.ps s).1 (segWrite .repaired img.file c.ps s).2.1
        (segWrite .repaired img.file c.ps s).2.2 ((s.vaddr + i : Nat) : Int) =
      if i < s.filesz then (img.file[s.offset + i]?).map ByteDesc.raw else some (ByteDesc.raw 0) := by
  have hb := pageStart_add_pageOffset c.ps s.vaddr
  have hle : segBase c.ps s ≤ s.vaddr + i := by unfold segBase; omega
  have e : s.vaddr + i - segBase c.ps s = pageOffset c.ps s.vaddr + i := by unfold segBase; omega
  rw [absWrite_segWrite, if_pos hle, e]
  obtain ⟨h1, h2, _⟩ := loadsegment_bytes img.file c.ps s hps ok
  split
  · rename_i hlt
    rw [(h1 i hlt).1]
  · rename_i hge
    rw [h2 i (by omega) hi]; rfl

/-- page-sharing segments mapped from one file range: the later write misses or shows the same file byte. -/
theorem later_segment_write (hps : 0 < c.ps) (s t : Phdr) (okt : SegOK img.file c.ps t)
    (hnc : NoClobber c.ps s t) (i : Nat) (hi : i < s.memsz) (v : WriteOp) (hv : v = segWrite .repaired img.file c.ps t) :
    absWrite v.1 v.2.1 v.2.2 ((s.vaddr + i : Nat) : Int) = none ∨
    (i < s.filesz ∧ absWrite v.1 v.2.1 v.2.2 ((s.vaddr + i : Nat) : Int) = (img.file[s.offset + i]?).map ByteDesc.raw) := by
  subst hv
  rw [absWrite_segWrite]
  obtain ⟨hord, hcl⟩ := hnc
  have hb := pageStart_add_pageOffset c.ps t.vaddr
  by_cases hle : segBase c.ps t ≤ s.vaddr + i
  · rw [if_pos hle]
    unfold segBase at hle ⊢
    rcases hcl with h1 | ⟨hd, hmf⟩
    · omega
    · have hpo : pageOffset c.ps t.vaddr ≤ t.offset := okt.1
      have e : t.offset - pageOffset c.ps t.vaddr + (s.vaddr + i - pageStart c.ps t.vaddr) = s.offset + i := by omega
      refine .inr ⟨by omega, ?_⟩
      rw [segBytes_get img.file c.ps t _ hps okt (by omega), if_pos (by omega), e]
  · exact .inl (if_neg hle)

theorem elf_image_byte (h : LoadableOK c img) (s : Phdr) (hs : s ∈ loads img.phdrs) (i : Nat) (hi : i < s.memsz)
    (hslot : notInSlots c.ptr (elfSlots c img) (s.vaddr + i)) :
    (writesZone (elfWrites .repaired c img)).abs ((s.vaddr + i : Nat) : Int) =
      if i < s.filesz then (img.file[s.offset + i]?).map ByteDesc.raw else some (ByteDesc.raw 0) := by
  obtain ⟨hstk, hsl⟩ := later_writes_miss c img h s hs i hi hslot
  have hab := (elf_image_last_write c img h).2
  obtain ⟨hps, _, _, hseg, hpw, _⟩ := h
  have oks := hseg s hs
  have hown := own_write c img hps s oks i hi
  obtain ⟨pre, post, hdec⟩ := List.append_of_mem hs
  obtain ⟨x, hx⟩ : ∃ x, (if i < s.filesz then (img.file[s.offset + i]?).map ByteDesc.raw
      else some (ByteDesc.raw 0)) = some x := by
    by_cases hf : i < s.filesz
    · rw [if_pos hf, List.getElem?_eq_getElem (by obtain ⟨_, _, _, hin⟩ := oks; omega)]; exact ⟨_, rfl⟩
    · rw [if_neg hf]; exact ⟨_, rfl⟩
  rw [hab, elfWrites, lastWrite_append, lastWrite_append, hsl, hstk, hx]
  show lastWrite (segWrites .repaired img.file c.ps img.phdrs) _ = some x
  rw [segWrites, hdec, List.map_append, List.map_cons]
  apply lastWrite_split
  · rw [hown, hx]
  · intro v hv
    obtain ⟨t, ht, rfl⟩ := List.mem_map.mp hv
    rw [hdec] at hpw hseg
    have hnc : NoClobber c.ps s t := (List.pairwise_cons.mp (List.pairwise_append.mp hpw).2.1).1 t ht
    have okt := hseg t (List.mem_append_right _ (List.mem_cons_of_mem _ ht))
    rcases later_segment_write c img hps s t okt hnc i hi _ rfl with h1 | ⟨h2, h1⟩
    · exact .inl h1
    · right; rw [h1, ← hx, if_pos h2]

/-- **C15, ELF.**  For every image satisfying `LoadableOK` and every page size: the loader produces a task
    whose memory zone is well formed; for every `PT_LOAD` segment the bytes `i < filesz` at `p_vaddr + i`
    are the file bytes `p_offset + i`, the bytes `filesz ≤ i < memsz` are zero — at every address that
    is not inside a relocation slot —; the program counter is the entry point (with bit 0 cleared by the
    ARM loader, whose odd entry points select Thumb state). -/
theorem elf_image (h : LoadableOK c img) :
    ∃ t, loadElf .repaired c img = some t ∧ t.zone.WF ∧
      t.pc = (if c.thumb then img.entry / 2 * 2 else img.entry) ∧
      (∀ s ∈ loads img.phdrs, ∀ i, i < s.filesz → notInSlots c.ptr (elfSlots c img) (s.vaddr + i) →
          s.offset + i < img.file.length ∧
          t.zone.abs ((s.vaddr + i : Nat) : Int) = (img.file[s.offset + i]?).map ByteDesc.raw) ∧
      (∀ s ∈ loads img.phdrs, ∀ i, s.filesz ≤ i → i < s.memsz → notInSlots c.ptr (elfSlots c img) (s.vaddr + i) →
          t.zone.abs ((s.vaddr + i : Nat) : Int) = some (ByteDesc.raw 0)) := by
  refine ⟨_, (elf_loads c img h).1, (elf_image_last_write c img h).1, ?_, fun s hs i hi hslot => ?_,
    fun s hs i hge hi hslot => ?_⟩
  · show entryPc c img.entry = _
    rw [entryPc, Nat.mod_eq_of_lt h.2.2.1]
  · obtain ⟨_, hfm, _, hin⟩ := h.2.2.2.1 s hs
    exact ⟨by omega, (elf_image_byte c img h s hs i (by omega) hslot).trans (if_pos hi)⟩
  · exact (elf_image_byte c img h s hs i hi hslot).trans (if_neg (by omega))

/-- **relocation slots.**  Every byte of a bound slot that no later slot overlaps holds the external
    symbol the relocation names: byte `b` of the slot `(addr, sym)` is byte `b` of symbol `sym`. -/
theorem elf_slots (h : LoadableOK c img) (pre post : List Reloc) (r : Reloc)
    (hd : elfSlots c img = pre ++ r :: post) (b : Nat) (hb : b < c.ptr)
    (hlater : notInSlots c.ptr post (r.1 + b)) :
    (writesZone (elfWrites .repaired c img)).abs ((r.1 + b : Nat) : Int) = some (ByteDesc.sym r.2 b) := by
  rw [(elf_image_last_write c img h).2]
  unfold elfWrites
  rw [lastWrite_append, hd]
  unfold slotWrites
  rw [List.map_append, List.map_cons]
  have : lastWrite (pre.map (slotWrite c.ptr) ++ slotWrite c.ptr r :: post.map (slotWrite c.ptr)) ((r.1 + b : Nat) : Int)
      = some (ByteDesc.sym r.2 b) := by
    apply lastWrite_split
    · rw [absWrite_slot, if_pos (by omega)]
      congr 2; omega
    · intro v hv
      obtain ⟨r', hr', rfl⟩ := List.mem_map.mp hv
      left
      rw [absWrite_slot]
      have := hlater r' hr'
      rw [if_neg (by omega)]
  rw [this]; rfl

end image

theorem joinRaw_prefix (l : List Item) :
    (joinRaw l).map (fun b => some (ByteDesc.raw b)) <+: flattenItems l := by
  induction l with
  | nil => exact List.nil_prefix
  | cons it rest ih =>
    unfold flattenItems at ih ⊢
    rw [List.flatMap_cons]
    cases it with
    | bot n => exact List.nil_prefix
    | data v en =>
      cases v with
      | ex e => exact List.nil_prefix
      | raw bs =>
        show (bs ++ joinRaw rest).map _ <+: _
        rw [List.map_append]
        have e : (Item.data (.raw bs) en).flatten = bs.map (fun b => some (ByteDesc.raw b)) := by
          simp [Item.flatten, Val.memBytes, List.map_map, Function.comp_def]
        rw [e]
        exact (List.prefix_append_right_inj _).mpr ih

/-- **fetch window.**  What `read_instruction` hands to the disassembler (the first item of
    `mmap.read(a, maxlen)`, joined with the `bytes` items directly behind it) is a prefix of the memory
    content at `a, a+1, …`: byte `k` of the window is the image byte at `a + k`.  Holds for the code as it is
    (`fx = .none`: first item alone) and with the repair. -/
theorem fetch_window (fx : Fix) (z : Zone) (wf : z.WF) (a : Int) (maxlen : Nat) (it : Item)
    (h : fetch fx z a maxlen = some it) :
    it.flatten <+: (List.range maxlen).map (fun (k : Nat) => z.abs (a + (k : Int))) := by
  unfold fetch at h
  rw [← Amoco.Memory.Props.read_refines z a maxlen wf]
  cases hz : z.read a maxlen with
  | nil => rw [hz] at h; cases h
  | cons x rest =>
    rw [hz] at h
    have hx : x.flatten <+: flattenItems (x :: rest) := by
      unfold flattenItems
      rw [List.flatMap_cons]
      exact List.prefix_append _ _
    -- the window is the first item, except that the repair joins a `bytes` item with what follows
    cases x with
    | bot n => cases h; exact hx
    | data v en =>
      cases v with
      | ex e => cases h; exact hx
      | raw bs =>
        cases fx with
        | none => cases h; exact hx
        | repaired =>
          cases h
          have e : (Item.data (.raw (bs ++ joinRaw rest)) en).flatten =
              (joinRaw (Item.data (.raw bs) en :: rest)).map (fun b => some (ByteDesc.raw b)) := by
            simp [Item.flatten, Val.memBytes, joinRaw, List.map_map, Function.comp_def]
          rw [e]
          exact joinRaw_prefix (Item.data (.raw bs) en :: rest)

theorem fetch_get (fx : Fix) (z : Zone) (wf : z.WF) (a : Int) (maxlen : Nat) (it : Item)
    (h : fetch fx z a maxlen = some it) (k : Nat) (hk : k < it.flatten.length) :
    it.flatten[k]? = some (z.abs (a + (k : Int))) := by
  obtain ⟨rest, hrest⟩ := fetch_window fx z wf a maxlen it h
  have hkm : k < maxlen := by
    have := congrArg List.length hrest
    rw [List.length_append, List.length_map, List.length_range] at this
    omega
  rw [← List.getElem?_append_left hk (l₂ := rest), hrest, List.getElem?_map, List.getElem?_range hkm]
  rfl

/-- at a mapped address `read_instruction` gets at least the byte at `a` itself. -/
theorem fetch_mapped (fx : Fix) (z : Zone) (wf : z.WF) (a : Int) (maxlen : Nat) (hn : 0 < maxlen) (d : ByteDesc)
    (hd : z.abs a = some d) :
    ∃ it, fetch fx z a maxlen = some it ∧ it.flatten[0]? = some (some d) := by
  obtain ⟨v, en, rest, hr, hv⟩ := read_head_mapped z wf a maxlen hn d hd
  have hex : ∃ v', fetch fx z a maxlen = some (.data v' en) ∧ v.len ≤ v'.len := by
    unfold fetch
    rw [hr]
    cases v with
    | ex e => exact ⟨_, rfl, Nat.le_refl _⟩
    | raw bs =>
      cases fx with
      | none => exact ⟨_, rfl, Nat.le_refl _⟩
      | repaired => exact ⟨_, rfl, by simp only [Val.len, List.length_append]; omega⟩
  obtain ⟨v', hf, hle⟩ := hex
  have hlen : 0 < (Item.data v' en).flatten.length := by
    simp only [Item.flatten, List.length_map, Val.memBytes_length]; omega
  have e : a + ((0 : Nat) : Int) = a := by omega
  exact ⟨_, hf, by rw [fetch_get fx z wf a maxlen _ hf 0 hlen, e, hd]⟩

/-- byte `k` of a fetch window at `p_vaddr + i` is file byte `p_offset + i + k`, as far as the window stays
    inside the segment's file part and outside relocation slots. -/
theorem elf_fetch (c : Cfg) (img : ElfImage) (h : LoadableOK c img) (s : Phdr) (hs : s ∈ loads img.phdrs)
    (i maxlen : Nat) (it : Item)
    (hf : fetch .repaired (writesZone (elfWrites .repaired c img)) ((s.vaddr + i : Nat) : Int) maxlen = some it)
    (k : Nat) (hk : k < it.flatten.length) (hin : i + k < s.filesz)
    (hslot : notInSlots c.ptr (elfSlots c img) (s.vaddr + (i + k))) :
    it.flatten[k]? = some ((img.file[s.offset + (i + k)]?).map ByteDesc.raw) := by
  have wf := (elf_image_last_write c img h).1
  have e : (((s.vaddr + i : Nat) : Int) + (k : Int)) = ((s.vaddr + (i + k) : Nat) : Int) := by omega
  have hmem : i + k < s.memsz := by have := (h.2.2.2.1 s hs).2.1; omega
  rw [fetch_get _ _ wf _ maxlen it hf k hk, e, elf_image_byte c img h s hs (i + k) hmem hslot, if_pos hin]

/-- PE (`load_pe_binary`), Mach-O (`load_macho_binary`), raw / Intel-HEX / S-record (`RawExec.auto_load`):
    whatever the list of writes, if none is empty the zone is well formed and each address holds the most
    recent write covering it. -/
theorem loader_image (ws : List WriteOp) (h : ∀ w ∈ ws, 0 < w.2.1.len) :
    (writesZone ws).WF ∧ ∀ q : Int, (writesZone ws).abs q = lastWrite ws q :=
  ⟨(writesZone_spec ws Zone.empty Zone.empty_wf h).1, fun q => Amoco.Memory.Props.writes_last_write_wins ws h q⟩

/-- a block of raw bytes written at `a` and not overlapped by any later write is present byte for byte:
    sections, segments and records that no later one overlaps are in memory as the file has them. -/
theorem block_present (pre post : List WriteOp) (a : Nat) (bs : Bytes)
    (h : ∀ w ∈ pre ++ rawWrite a bs :: post, 0 < w.2.1.len)
    (k : Nat) (hk : k < bs.length)
    (hpost : ∀ v ∈ post, absWrite v.1 v.2.1 v.2.2 ((a + k : Nat) : Int) = none) :
    (writesZone (pre ++ rawWrite a bs :: post)).abs ((a + k : Nat) : Int) = (bs[k]?).map ByteDesc.raw := by
  rw [(loader_image _ h).2]
  have hx : (bs[k]?).map ByteDesc.raw = some (ByteDesc.raw bs[k]) := by
    rw [List.getElem?_eq_getElem hk]; rfl
  rw [hx]
  apply lastWrite_split
  · show absWrite (a : Int) (.raw bs) .little _ = _
    rw [absWrite_raw, if_pos (by omega)]
    have : a + k - a = k := by omega
    rw [this, hx]
  · intro v hv; exact Or.inl (hpost v hv)

/-- `RawExec.relocate(vaddr)`: the zone stays well formed and the whole image moves by
    `vaddr - (first mapped address)`; the program counter becomes `vaddr`. -/
theorem relocate_image (t : Task) (wf : t.zone.WF) (vaddr pcbits : Nat) :
    (relocate t vaddr pcbits).zone.WF ∧
    (∀ q : Int, (relocate t vaddr pcbits).zone.abs q = t.zone.abs (q - ((vaddr : Int) - t.zone.range.1))) ∧
    (relocate t vaddr pcbits).pc = vaddr % 2 ^ pcbits := by
  have w1 := Amoco.Memory.Props.zoneWF_shift t.zone ((vaddr : Int) - t.zone.range.1) wf
  refine ⟨Amoco.Memory.Props.zoneWF_restruct _ w1, fun q => ?_, rfl⟩
  show ((t.zone.shift _).restruct).abs q = _
  rw [Amoco.Memory.Props.abs_restruct _ w1, Amoco.Memory.Props.abs_shift _ _ wf]

/-- the bytes `PE.loadsegment` (repaired) returns for a section: raw data as far as the file has it, zero
    up to `VirtualSize` and up to the section alignment. -/
theorem pe_section_bytes (file : Bytes) (salign : Nat) (s : PeSection) (k : Nat) :
    (k < s.rawsize → s.rawptr + k < file.length → (peBytes .repaired file salign s)[k]? = file[s.rawptr + k]?) ∧
    (min s.rawsize (file.length - s.rawptr) ≤ k → k < max s.vsize salign → salign ≠ 0 ∨ k < s.vsize →
      (peBytes .repaired file salign s)[k]? = some 0) := by
  have hlen := fileRead_length file s.rawptr s.rawsize
  constructor
  · intro h1 h2
    have hl : k < (fileRead file s.rawptr s.rawsize).length := by rw [hlen]; omega
    unfold peBytes
    simp only
    have h3 : (ljust (fileRead file s.rawptr s.rawsize) s.vsize 0)[k]? = file[s.rawptr + k]? := by
      rw [ljust_getElem?_lt _ _ _ _ hl, fileRead_getElem? _ _ _ _ h1]
    split
    · rw [ljust_getElem?_lt _ _ _ _ (by rw [ljust_length]; omega), h3]
    · exact h3
  · intro h1 h2 h3
    unfold peBytes
    simp only
    by_cases hv : k < s.vsize
    · have h4 : (ljust (fileRead file s.rawptr s.rawsize) s.vsize 0)[k]? = some 0 :=
        ljust_getElem?_ge _ _ _ _ (by rw [hlen]; omega) hv
      split
      · rw [ljust_getElem?_lt _ _ _ _ (by rw [ljust_length]; omega), h4]
      · exact h4
    · have hsa : salign ≠ 0 := by rcases h3 with h | h; exact h; omega
      rw [if_pos hsa]
      apply ljust_getElem?_ge
      · rw [ljust_length, hlen]; omega
      · omega

/-- Mach-O segment bytes: file content as far as the file has it, zero up to `vmsize`. -/
theorem macho_segment_bytes (file : Bytes) (s : MachSeg) (k : Nat) :
    (k < s.filesize → s.fileoff + k < file.length → (machBytes file s)[k]? = file[s.fileoff + k]?) ∧
    (min s.filesize (file.length - s.fileoff) ≤ k → k < s.vmsize → (machBytes file s)[k]? = some 0) := by
  have hlen := fileRead_length file s.fileoff s.filesize
  unfold machBytes
  constructor
  · intro h1 h2
    rw [ljust_getElem?_lt _ _ _ _ (by rw [hlen]; omega), fileRead_getElem? _ _ _ _ h1]
  · intro h1 h2
    exact ljust_getElem?_ge _ _ _ _ (by rw [hlen]; omega) h2

def exFile : Bytes := List.range 64

/-- two page-sharing segments mapped from one file range (page size 16), the second with a zero-filled
    tail, and one bound relocation slot. -/
def exImg : ElfImage :=
  { file := exFile,
    phdrs := [⟨PT_INTERP, 60, 0, 3, 3⟩, ⟨PT_LOAD, 0, 32, 20, 20⟩, ⟨6, 0, 0, 0, 0⟩, ⟨PT_LOAD, 24, 56, 8, 30⟩],
    entry := 36,
    relocs := [(40, 7), (60, 9), (40, 8)] }

def exCfg : Cfg := { ps := 16, ptr := 4, top := 0x7FFFFFFF, aslr := false, bare := false, thumb := false }

example : LoadableOK exCfg exImg := by decide +kernel

example : elfSlots exCfg exImg = [(40, 8), (60, 9)] := by decide +kernel

-- file byte, zero fill, slot content, page-tail of the first segment overlaid by the second one's page head
example : lastWrite (elfWrites .repaired exCfg exImg) 33 = some (.raw 1) := by decide +kernel
example : lastWrite (elfWrites .repaired exCfg exImg) 57 = some (.raw 25) := by decide +kernel
example : lastWrite (elfWrites .repaired exCfg exImg) 70 = some (.raw 0) := by decide +kernel
example : lastWrite (elfWrites .repaired exCfg exImg) 41 = some (.sym 8 1) := by decide +kernel
example : lastWrite (elfWrites .repaired exCfg exImg) 52 = some (.raw 20) := by decide +kernel
example : lastWrite (elfWrites .repaired exCfg exImg) 96 = none := by decide +kernel

-- without the repair the bytes behind `p_filesz` are unmapped beyond the page of the file part, and file
-- content inside it, instead of zero
example : lastWrite (elfWrites .none exCfg exImg) 70 = none := by decide +kernel
example : lastWrite (elfWrites .none exCfg { exImg with phdrs := [⟨PT_LOAD, 24, 56, 4, 30⟩] }) 61 = some (.raw 29) := by decide +kernel
example : lastWrite (elfWrites .repaired exCfg { exImg with phdrs := [⟨PT_LOAD, 24, 56, 4, 30⟩] }) 61 = some (.raw 0) := by decide +kernel

example : notInSlots exCfg.ptr (elfSlots exCfg exImg) (32 + 1) := by decide +kernel

-- an unaligned segment (file offset 21, address 35: different in-page offsets for page size 16) with a
-- zero-filled tail is covered by the hypothesis as well
def exUnaligned : ElfImage := { exImg with phdrs := [⟨PT_LOAD, 21, 35, 8, 12⟩] }
example : LoadableOK exCfg exUnaligned ∧ ¬ SegCongruent 16 ⟨PT_LOAD, 21, 35, 8, 12⟩ := by decide +kernel
example : lastWrite (elfWrites .repaired exCfg exUnaligned) 35 = some (.raw 21) := by decide +kernel
example : lastWrite (elfWrites .repaired exCfg exUnaligned) 44 = some (.raw 0) := by decide +kernel

-- a clobbering layout (second segment's page comes from another file page) is not `LoadableOK` …
def exClobber : ElfImage := { exImg with phdrs := [⟨PT_LOAD, 0, 32, 20, 20⟩, ⟨PT_LOAD, 40, 56, 8, 8⟩] }
example : ¬ LoadableOK exCfg exClobber := by decide +kernel
-- … and that clause of the hypothesis cannot be dropped: there the page head of the second segment
-- (file bytes 32 … 39) overlays bytes 48 … 51 of the first one, which the file maps to 16 … 19
example : lastWrite (elfWrites .repaired exCfg exClobber) 49 = some (.raw 33) := by decide +kernel
example : exClobber.file[0 + 17]? = some 17 := by decide +kernel

end Amoco.Loader.Props
