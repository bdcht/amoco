/-
  C16 — Structure definitions encode, decode and lay out like C.

  Model: Amoco.Model.Struct (amoco/system/structs/{__init__,core,fields}.py) and
         Amoco.Model.Leb128 (utils.py).  `ps` is the `psize` argument of the code
         (4 / 8 / 32 / 64 select the pointer size; anything else means the host's native size).
-/
import Amoco.Proofs.Struct

namespace Amoco.Struct.Props

open Amoco Amoco.Struct

/-- **Size, alignment and every offset computed by the code are those of the C ABI reference**,
    for every definition of the modelled fragment (any nesting depth, arrays, unions, typedefs,
    bit-field units, packed or not) and every `psize`.  `refDef` is the reference calculator
    (`place`: each member at the least multiple of its alignment not below the end of the previous
    one, alignment 1 when packed, size rounded up to the alignment; validated against gcc by the
    harness). -/
theorem layout_eq_abi (ps : Nat) (d : Def) (hm : d.modelled ps = true) (L : Lay) (hL : refDef ps d = some L) :
    d.sizeV ps = some L.size ∧ d.alignV ps = L.align ∧
      d.offsetsV ps = refEntries ps d.isUnion d.fields L.offs := by
  exact ⟨(defRel_some hm hL).1, (defRel_some hm hL).2, offsetsV_ref ps d hm L hL⟩

/-- definitions with a variable-length member have no C layout, and the code reports an infinite size -/
theorem layout_var_infinite (ps : Nat) (d : Def) (hm : d.modelled ps = true) (hL : refDef ps d = none) :
    d.sizeV ps = none := by
  have h := (defRel ps d hm).2
  rw [hL] at h
  exact h

/-- the code's `Field.align` is "round up to the next multiple" — the least one -/
theorem align_least (o a : Nat) (ha : 0 < a) :
    a ∣ alignTo o a ∧ o ≤ alignTo o a ∧ ∀ m, o ≤ m → a ∣ m → alignTo o a ≤ m := by
  rw [alignTo_eq_roundUp o a ha]
  have := roundUp_spec o a ha
  exact ⟨this.1, this.2.1, this.2.2.2⟩

/-- declarative reading of the reference: the offsets `placeMembers` assigns are the unique ones that
    put every member at the least suitably aligned offset after its predecessor -/
theorem abi_placement_least (ms : List (Nat × Nat)) (e : Nat) (hp : ∀ m ∈ ms, 0 < m.2)
    (os : List Nat) (e' : Nat) (h : Placed ms e os e') :
    os = (placeMembers ms e).1 ∧ e' = (placeMembers ms e).2 :=
  placed_unique h (placeMembers_placed ms e hp)

/-- the size of a fixed-size definition is a multiple of its alignment -/
theorem size_multiple_of_align (ps : Nat) (d : Def) (hm : d.modelled ps = true) (s : Nat)
    (h : d.sizeV ps = some s) : s % d.alignV ps = 0 :=
  sizeV_mod_alignV hm h

/-- **Packing the unpacked values reproduces the original bytes.**
    For every well-formed definition of the modelled fragment (scalars, arrays, nested structures,
    unions, typedefs, bit-fields, counted / bound / terminated / LEB128 variable-length fields), every
    `psize`, every byte string and offset at which `unpack` succeeds:
    `pack` returns exactly `n = len(instance)` bytes, equal to the bytes read at `pos` on every data
    bit, and zero on every padding bit.  `m` is the data mask of the instance (ghost output of the
    model's `unpack`: `0xff` on data bytes, the covered bits of bit-field units, `0` on padding);
    `canonical = true` says that every LEB128 number met was in shortest form — the only encodings a
    writer can reproduce. -/
theorem pack_unpack (ps : Nat) (d : Def) (hwf : d.wf ps = true) (hm : d.modelled ps = true)
    (data : Bytes) (pos : Nat) (v : Val) (n : Nat) (m : Bytes)
    (h : unpackDef ps data pos d = some (v, n, m, true)) :
    packDef ps d v = some (canon m (data.drop pos)) ∧ m.length = n := by
  obtain ⟨h1, h2, _⟩ := defRT ps data d hwf hm pos v n m true h rfl
  exact ⟨h1, h2⟩

/-- where the mask says "all data" (no padding, e.g. packed definitions) the packed bytes are the
    original bytes, verbatim -/
theorem pack_unpack_exact (ps : Nat) (d : Def) (hwf : d.wf ps = true) (hm : d.modelled ps = true)
    (data : Bytes) (pos : Nat) (v : Val) (n : Nat)
    (h : unpackDef ps data pos d = some (v, n, ones n, true)) (hlen : pos + n ≤ data.length) :
    packDef ps d v = some ((data.drop pos).take n) := by
  obtain ⟨h1, _⟩ := pack_unpack ps d hwf hm data pos v n (ones n) h
  rw [h1, canon_ones n _ (by rw [List.length_drop]; omega)]

/-- for a fixed-size definition the instance is as long as the C ABI size -/
theorem unpack_len_eq_size (ps : Nat) (d : Def) (hwf : d.wf ps = true) (hm : d.modelled ps = true)
    (data : Bytes) (pos : Nat) (v : Val) (n : Nat) (m : Bytes)
    (h : unpackDef ps data pos d = some (v, n, m, true)) (L : Lay) (hL : refDef ps d = some L) :
    n = L.size := by
  obtain ⟨_, _, h3⟩ := defRT ps data d hwf hm pos v n m true h rfl
  exact h3 L.size (layout_eq_abi ps d hm L hL).1

/-- **Unpacking reads each field from exactly the C layout.**  For a fixed-size definition (one the
    C ABI reference lays out), `unpack` at `pos` succeeds exactly when the reference decoder does, and
    returns its value: every member decoded from the bytes at `pos +` its ABI offset (arrays at the
    ABI stride, nested aggregates recursively, bit-field parts from their storage unit), with
    `len(instance)` the ABI size, the data mask the reference mask (members at their offsets, padding
    zero) — and no LEB128 caveat (`canonical = true`). -/
theorem unpack_reads_layout (ps : Nat) (d : Def) (hwf : d.wf ps = true) (hm : d.modelled ps = true)
    (L : Lay) (hL : refDef ps d = some L) (data : Bytes) (pos : Nat) :
    unpackDef ps data pos d
      = (refDecodeDef ps (data.drop pos) d).map (fun v => (v, L.size, refMaskDef ps d, true)) :=
  defRef ps data d hwf hm L hL pos

/-- fixed-size definitions: `pack (unpack bytes)` is the original `size` bytes with the padding
    (as given by the ABI reference) zeroed — in particular the inner padding is kept in place -/
theorem pack_unpack_fixed (ps : Nat) (d : Def) (hwf : d.wf ps = true) (hm : d.modelled ps = true)
    (L : Lay) (hL : refDef ps d = some L) (data : Bytes) (pos : Nat) (v : Val) (n : Nat) (m : Bytes) (c : Bool)
    (h : unpackDef ps data pos d = some (v, n, m, c)) :
    packDef ps d v = some (canon (refMaskDef ps d) (data.drop pos)) ∧ n = L.size ∧
      (refMaskDef ps d).length = L.size := by
  have href := unpack_reads_layout ps d hwf hm L hL data pos
  rw [h] at href
  cases hd : refDecodeDef ps (data.drop pos) d with
  | none => rw [hd] at href; simp at href
  | some v' =>
    rw [hd] at href
    simp only [Option.map_some, Option.some.injEq, Prod.mk.injEq] at href
    obtain ⟨rfl, rfl, rfl, rfl⟩ := href
    obtain ⟨h1, h2⟩ := pack_unpack ps d hwf hm data pos v L.size (refMaskDef ps d) h
    exact ⟨h1, rfl, h2⟩

open Amoco.Leb128

/-- unsigned LEB128: reading what was written gives the value back and consumes exactly the bytes
    written, for ALL values, at any offset, whatever follows -/
theorem uleb_roundtrip (v : Nat) (pre rest : List UInt8) :
    readLeb false (pre ++ (writeU v ++ rest)) pre.length = some ((v : Int), (writeU v).length) := by
  rw [readLeb_drop, readLeb_writeU]

/-- signed LEB128: the same for ALL integers -/
theorem sleb_roundtrip (v : Int) (pre rest : List UInt8) :
    readLeb true (pre ++ (writeS v ++ rest)) pre.length = some (v, (writeS v).length) := by
  rw [readLeb_drop, readLeb_writeS]

/-- unsigned LEB128: writing what was read gives the bytes back, for canonical encodings -/
theorem uleb_canonical (data : List UInt8) (pos : Nat) (v : Int) (n : Nat)
    (h : readLeb false data pos = some (v, n)) (hc : canonU ((data.drop pos).take n) = true) :
    0 ≤ v ∧ writeU v.toNat = (data.drop pos).take n := by
  obtain ⟨hv, hw, _⟩ := readLeb_canonU h hc
  rw [hv]
  exact ⟨by omega, by simpa using hw⟩

/-- signed LEB128: the same -/
theorem sleb_canonical (data : List UInt8) (pos : Nat) (v : Int) (n : Nat)
    (h : readLeb true data pos = some (v, n)) (hc : canonS ((data.drop pos).take n) = true) :
    writeS v = (data.drop pos).take n :=
  (readLeb_canonS h hc).1

/-- the writer only produces canonical encodings (so the hypothesis `canonU …` of `uleb_canonical` is exactly
    "these bytes could have been written") -/
theorem uleb_written_is_canonical (v : Nat) : canonU (writeU v) = true := canonU_writeU v

/-! ## non-vacuity: the hypotheses are met by concrete definitions, data and values -/

/-- `c: a \n I: b` — the definition of DESIGN.md §12 -/
def exCI : Def := .mk .struct false [.raw "a" .c false 0, .raw "b" .I false 0]

def exData : Bytes := [0x41, 0xff, 0xff, 0xff, 0xef, 0xcd, 0xab, 0x89]

example : exCI.wf 8 = true ∧ exCI.modelled 8 = true := by decide

example : refDef 8 exCI = some { size := 8, align := 4, offs := [0, 4] } := by decide

example : (unpackDef 8 exData 0 exCI).map (fun r => (r.2.1, r.2.2.1, r.2.2.2))
    = some (8, [0xff, 0, 0, 0, 0xff, 0xff, 0xff, 0xff], true) := by decide

example : refMaskDef 8 exCI = [0xff, 0, 0, 0, 0xff, 0xff, 0xff, 0xff] := by decide

/-- the padding bytes `ff ff ff` come back as zeros, everything else verbatim -/
example : (unpackDef 8 exData 0 exCI).bind (fun r => packDef 8 exCI r.1)
    = some [0x41, 0, 0, 0, 0xef, 0xcd, 0xab, 0x89] := by decide

example : readLeb false [0xe5, 0x8e, 0x26, 0x99] 0 = some (624485, 3) ∧
    readLeb true [0x07, 0xc0, 0xbb, 0x78] 1 = some (-123456, 3) := by decide

example : writeU 624485 = [0xe5, 0x8e, 0x26] :=
  (uleb_canonical [0xe5, 0x8e, 0x26, 0x99] 0 624485 3 (by decide) (by decide)).2

example : writeS (-123456) = [0xc0, 0xbb, 0x78] :=
  sleb_canonical [0x07, 0xc0, 0xbb, 0x78] 1 (-123456) 3 (by decide) (by decide)

example : canonS [0xc0, 0xbb, 0x78] = true ∧ canonU [0x80, 0x00] = false := by decide

end Amoco.Struct.Props
