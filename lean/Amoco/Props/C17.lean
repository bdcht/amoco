/-
  C17 — Decoding and executing any bytes never crashes; instructions are well formed.
  Only the *framework* is a theorem: hooks, formatters and semantics functions are ≈1000 Python
  functions whose contracts are exercised by spec-directed enumeration in the harness (partial).
-/
import Amoco.Model.Frame
import Amoco.Proofs.Dis

namespace Amoco.Frame.Props

open Amoco Amoco.Dis Amoco.Frame

/-- If no hook raises anything but `DecodeError`/`InstructionError` (the decode outcome is never `.raise`),
    `xdata` does not raise, accepted specs are no longer than the input and at least one byte long, then
    for every byte string, pending state and candidate function the call returns an instruction or `None` —
    it never raises, and never exhausts the recursion budget (fuel above the input length).  `r` is
    `resetOnRaise`: the code with and without the try/finally of C11. -/
theorem framework_total {I} (r : Bool) (cands : List Nat → List SpecK)
    (dec : Option I → List Nat → SpecK → Out I) (xd : I → Option I)
    (hhook : ∀ st b s e, dec st b s ≠ .raise e)
    (hxd : ∀ i, (xd i).isSome)
    (hlen : ∀ st b s i, dec st b s = .ok i → 8 ≤ s.size ∧ s.size / 8 ≤ b.length) :
    ∀ (fuel : Nat) (st : Option I) (bytes : List Nat), bytes.length < fuel →
      ∀ e, (call r cands dec xd fuel st bytes).2 ≠ .raised e := by
  intro fuel st bytes
  -- the branches of `call` that can answer `.raised`: case1 fuel exhausted (excluded by `bytes.length < fuel`),
  -- case4 a hook raises, case5 the recursion after a prefix (the input gets shorter by `s.size / 8 ≥ 1`),
  -- case7 `xdata` raises
  fun_induction call r cands dec xd fuel st bytes with
  | case1 => exact fun h => absurd h (Nat.not_lt_zero _)
  | case4 _ st bytes s e' hraise => exact absurd (firstHit_some _ _ _ _ hraise).1 (hhook st bytes s e')
  | case5 _ st bytes s i hfh hprefix ih =>
    intro h
    have hl := hlen st bytes s i (firstHit_some _ _ _ _ hfh).1
    exact ih (by rw [List.length_drop]; omega)
  | case7 _ _ _ _ i _ hxdata hx =>
    have := hxd i
    rw [hx] at this
    cases this
  | _ => exact fun _ _ h => nomatch h

/-- applying an instruction to a map: with a semantics function that does not raise, `icore.__call__`
    either updates the map or logs that the semantics are missing. -/
theorem exec_total (uarch : Option (List String)) (sem : String → Option Nat) (m : String)
    (hsem : sem m = none) : exec uarch sem m = .done ∨ exec uarch sem m = .logged := by
  unfold exec
  cases uarch with
  | none => simp
  | some tbl =>
    simp only
    by_cases h : tbl.contains ("i_" ++ m) = true
    · rw [if_pos h, hsem]; exact Or.inl rfl
    · rw [if_neg h]; exact Or.inr rfl

/-- pickling: `__setstate__` restores the hook the spec had, provided formats identify specs within
    their module. -/
theorem state_roundtrip (ispecs : List PSpec) (s : PSpec) (hs : s ∈ ispecs)
    (huniq : ∀ a ∈ ispecs, ∀ b ∈ ispecs, a.format = b.format → a = b) :
    restoreHook ispecs s.format = some s.hook := by
  unfold restoreHook
  induction ispecs with
  | nil => cases hs
  | cons a l ih =>
    simp only [List.find?_cons]
    by_cases h : a.format = s.format
    · have : a = s := huniq a List.mem_cons_self s hs h
      simp [this]
    · have hne : (a.format == s.format) = false := by simpa using h
      simp only [hne]
      rcases List.mem_cons.mp hs with rfl | hs'
      · exact absurd rfl h
      · exact ih hs' (fun x hx y hy => huniq x (List.mem_cons_of_mem _ hx) y (List.mem_cons_of_mem _ hy))

/-- …and when two specs of one module share a format (they exist: variants distinguished only by a
    precondition) the second one comes back with the first one's hook. -/
theorem state_roundtrip_fails_on_duplicates :
    restoreHook [⟨"8>[ {90} ]", 1⟩, ⟨"8>[ {90} ]", 2⟩] "8>[ {90} ]" = some 1 := by decide

example : exec (some ["i_NOP"]) (fun _ => none) "NOP" = .done := by decide
example : exec (some ["i_NOP"]) (fun _ => none) "XYZ" = .logged := by decide

end Amoco.Frame.Props
