/-
  C18 — Sweeps, blocks and control-flow graphs partition the code.
-/
import Amoco.Model.Blocks
import Amoco.Model.Cfg
import Amoco.Proofs.Cfg

namespace Amoco.Blocks.Props

open Amoco Amoco.Blocks

/-- the sweep yields consecutive instructions: each next one starts where the previous one ends
    (in the address arithmetic `norm` of the start address), for every reader, start address and
    number of instructions drawn. -/
theorem sequence_consecutive (read : Reader) (norm : Nat → Nat) (fuel loc : Nat) :
    ∀ pre x y post, sequence read norm fuel loc = pre ++ x :: y :: post →
      y.addr = norm (x.addr + x.length) := by
  induction fuel generalizing loc with
  | zero => intro pre x y post h; simp [sequence] at h
  | succ n ih =>
    intro pre x y post h
    unfold sequence at h
    split at h
    · simp at h
    · rename_i i hi
      cases pre with
      | nil =>
        simp only [List.nil_append, List.cons.injEq] at h
        obtain ⟨hx, hrest⟩ := h
        subst hx
        cases n with
        | zero => simp [sequence] at hrest
        | succ m =>
          unfold sequence at hrest
          split at hrest
          · simp at hrest
          · simp only [List.cons.injEq] at hrest
            rw [← hrest.1]
      | cons p pre' =>
        simp only [List.cons_append, List.cons.injEq] at h
        exact ih _ pre' x y post h.2

/-- the first instruction is at the start address, and every instruction is what the reader gives
    at its own address. -/
theorem sequence_reads (read : Reader) (norm : Nat → Nat) (fuel loc : Nat) :
    (∀ x r, sequence read norm fuel loc = x :: r → x.addr = loc) ∧
    (∀ x ∈ sequence read norm fuel loc, ∃ i, read x.addr = some i ∧ x = { i with addr := x.addr }) := by
  induction fuel generalizing loc with
  | zero => simp [sequence]
  | succ n ih =>
    unfold sequence
    split
    · simp
    · rename_i i hi
      constructor
      · intro x r h
        simp only [List.cons.injEq] at h
        rw [← h.1]
      · intro x hx
        rcases List.mem_cons.mp hx with rfl | hx
        · exact ⟨i, hi, rfl⟩
        · exact (ih _).2 x hx

/-- the sweep stops before `fuel` instructions only where the reader gives nothing. -/
theorem sequence_stops (read : Reader) (norm : Nat → Nat) (fuel loc : Nat)
    (h : (sequence read norm fuel loc).length < fuel) :
    match (sequence read norm fuel loc).getLast? with
    | none => read loc = none
    | some x => read (norm (x.addr + x.length)) = none := by
  induction fuel generalizing loc with
  | zero => simp at h
  | succ n ih =>
    cases hr : read loc with
    | none => simp [sequence, hr]
    | some i =>
      simp only [sequence, hr] at h ⊢
      simp only [List.length_cons, Nat.add_lt_add_iff_right] at h
      have := ih _ h
      rw [List.getLast?_cons]
      cases hl : (sequence read norm n (norm (loc + Instr.length { i with addr := loc }))).getLast? with
      | none => rw [hl] at this; simpa using this
      | some y => rw [hl] at this; simpa using this

/-- `iterblocks` cuts the instruction stream into the maximal runs that end at a block end
    (`endsBlock`: a control-flow instruction without delay slot, or the instruction after a delayed
    one): the blocks concatenate to the stream; every block except possibly the last one is
    non-empty, has no block end before its last instruction and a block end at its last instruction;
    a last unterminated block is non-empty and has no block end at all. -/
theorem blocks_maximal_runs (s : List Instr) :
    (iterblocks s).flatten = s ∧
    ∃ closed trailing, iterblocks s = closed ++ trailing ∧
      (∀ b ∈ closed, ClosedBlock b) ∧
      (trailing = [] ∨ ∃ t, trailing = [t] ∧ t ≠ [] ∧ NoEnd t) := by
  obtain ⟨c, t, e1, e2, e3, e4⟩ := iterblocksAux_spec s [] false (by simp [lastDelayed]) (by simpa using noEnd_nil)
  exact ⟨by simpa [iterblocks] using e4, c, t, e1, e2, e3⟩

/-- the delay-slot state at the start of every block is "not armed": the instruction before a
    block (the last one of a closed block) is never a delayed one. -/
theorem closed_block_last_not_delayed (b : List Instr) (h : ClosedBlock b) : lastDelayed b = false := by
  obtain ⟨p, x, rfl, _, he⟩ := h
  rw [lastDelayed_append_singleton]
  simp [endsBlock] at he
  simp [he.1]

/-- a block of consecutive instructions covers `[address, address + length)`, ends where its last
    instruction ends, and its raw bytes are the instructions' bytes in order, `length` of them. -/
theorem block_raw_concat (a : Instr) (p : List Instr) (h : Consecutive (a :: p)) :
    support (a :: p) = some (a.addr, a.addr + blen (a :: p)) ∧
    (∀ q x, p = q ++ [x] → x.addr + x.length = a.addr + blen (a :: p)) ∧
    raw (a :: p) = ((a :: p).map (·.bytes)).flatten ∧
    (raw (a :: p)).length = blen (a :: p) := by
  refine ⟨rfl, ?_, rfl, raw_length _⟩
  intro q x hp
  subst hp
  exact consecutive_end a q x h

/-- slicing: a successful `block[sta:sto]` selects the instructions between two instruction
    boundaries `i < j`; its byte offsets are the resolved slice bounds, its raw bytes are that slice of
    the block's raw bytes, its length the difference, and (for a consecutive block) its address range
    starts at `address + sta`. -/
theorem block_getitem_concat (b b' : Block) (sta sto : Option Int) (h : getitem b sta sto = some b') :
    ∃ i j, i < j ∧ j ≤ b.length ∧ b' = (b.take j).drop i ∧
      blen (b.take i) = sliceBound sta 0 (blen b) ∧
      blen (b.take j) = sliceBound sto (blen b) (blen b) ∧
      raw b' = ((raw b).take (blen (b.take j))).drop (blen (b.take i)) ∧
      blen (b.take i) + blen b' = blen (b.take j) ∧
      (Consecutive b → ∀ a, address? b = some a →
        Consecutive b' ∧ support b' = some (a + blen (b.take i), a + blen (b.take j))) := by
  obtain ⟨i, j, hij, hj, rfl, h1, h2⟩ := getitem_spec b b' sta sto h
  have hlen : blen (b.take i) + blen ((b.take j).drop i) = blen (b.take j) := by
    have := blen_take_add_drop (b.take j) i
    rw [List.take_take] at this
    rw [show min i j = i by omega] at this
    exact this
  refine ⟨i, j, hij, hj, rfl, h1, h2, raw_drop_take b i j (by omega), hlen, ?_⟩
  intro hc a ha
  refine ⟨consecutive_drop _ _ (consecutive_take _ _ hc), ?_⟩
  have hcj := consecutive_take b j hc
  have haj : address? (b.take j) = some a := by rw [address_take b j (by omega)]; exact ha
  have := address_drop (b.take j) i a (by simp; omega) hcj haj
  rw [List.take_take, show min i j = i by omega] at this
  simp only [support, this, Option.map_some]
  congr 2
  omega

/-- cutting: `cut` at an instruction address keeps exactly the instructions before it (the first
    occurrence), reports how many were removed, the raw bytes are the corresponding prefix, and (for
    a consecutive block) the kept part ends at the cut address; at any other address nothing happens. -/
theorem block_cut_concat (b : Block) (addr : Nat) :
    ((cut b addr).2 = 0 → (cut b addr).1 = b ∧ ∀ x ∈ b, x.addr ≠ addr) ∧
    ((cut b addr).2 ≠ 0 →
      ∃ x rem, b = (cut b addr).1 ++ x :: rem ∧ x.addr = addr ∧ (cut b addr).2 = rem.length + 1 ∧
        (∀ y ∈ (cut b addr).1, y.addr ≠ addr) ∧
        raw (cut b addr).1 = (raw b).take (blen (cut b addr).1) ∧
        (Consecutive b → ∀ a, address? b = some a → a + blen (cut b addr).1 = addr)) := by
  refine ⟨cut_spec_none b addr, ?_⟩
  intro h
  obtain ⟨x, rem, hb, hx, hn, hmin, htake⟩ := cut_spec_some b addr h
  refine ⟨x, rem, hb, hx, hn, hmin, ?_, ?_⟩
  · rw [htake]; exact raw_take b _
  · intro hc a ha
    have := consecutive_addr' (cut b addr).1 x rem a (hb ▸ hc) (hb ▸ ha)
    omega

-- non-vacuity: a concrete reader, stream and block meeting the hypotheses
private def rd : Reader := fun a =>
  if a = 0 then some ⟨0, [0x31, 0xc0], false, false⟩
  else if a = 2 then some ⟨0, [0xc3], true, false⟩
  else if a = 3 then some ⟨0, [0x90], false, false⟩ else none

example : sequence rd id 10 0 = [⟨0, [0x31, 0xc0], false, false⟩, ⟨2, [0xc3], true, false⟩, ⟨3, [0x90], false, false⟩] := by
  decide
example : iterblocks (sequence rd id 10 0) =
    [[⟨0, [0x31, 0xc0], false, false⟩, ⟨2, [0xc3], true, false⟩], [⟨3, [0x90], false, false⟩]] := by decide
example : Consecutive (sequence rd id 10 0) := by
  show Consecutive [_, _, _]
  exact ⟨by decide, by decide, trivial⟩
example : getitem (sequence rd id 10 0) (some 2) none = some [⟨2, [0xc3], true, false⟩, ⟨3, [0x90], false, false⟩] := by decide
example : cut (sequence rd id 10 0) 2 = ([⟨0, [0x31, 0xc0], false, false⟩], 2) := by decide

end Amoco.Blocks.Props

namespace Amoco.Cfg.Props

open Amoco Amoco.Blocks Amoco.Cfg

/-- For every instruction stream satisfying `StreamOK` (consecutive instructions of positive length;
    `sequence_consecutive` shows the first of the sweep up to its address arithmetic `norm`, the second
    is assumed) and every list `hist` of blocks cut from it (`IsRun`: non-empty contiguous parts;
    the list is the insertion history, so this quantifies over every order, subset and repetition),
    inserting them one after the other into an empty graph succeeds, and afterwards the main support
      * is sorted with pairwise disjoint address ranges,
      * holds only non-empty blocks cut from the same stream, each stored at its own address,
      * contains exactly the instructions that were inserted,
      * each of them once (the instruction addresses along the support are strictly increasing). -/
theorem cfg_partition (S : List Instr) (hS : StreamOK S) (hist : List Block) (hh : ∀ v ∈ hist, IsRun S v) :
    ∃ g, addAll Graph.empty hist = some g ∧
      g.support.Pairwise (fun m1 m2 => m1.end ≤ m2.vaddr) ∧
      (∀ m ∈ g.support, IsRun S m.blk ∧ address? m.blk = some m.vaddr) ∧
      (∀ x, x ∈ (g.support.map (·.blk)).flatten ↔ ∃ v ∈ hist, x ∈ v) ∧
      ((g.support.map (·.blk)).flatten).Nodup := by
  obtain ⟨H, ivs, E, hH, hhist, hr, hinv, hmem⟩ := history_result hS hist hh
  refine ⟨_, hr, rep_pairwise hinv.ok, ?_, ?_, (flatten_rep_sorted hS hinv.ok).imp fun h heq => ?_⟩
  · intro m hm
    simp only [rep, List.mem_map] at hm
    obtain ⟨iv, hiv, rfl⟩ := hm
    have hmm := hinv.ok.mem hiv
    refine ⟨⟨?_, run_isInfix _ _ (by omega)⟩, address_run hS _ _ hmm.1 hmm.2⟩
    intro h0
    have := (run_eq_nil_iff (S := S) iv.1 iv.2 hmm.2).mp h0
    omega
  · intro x
    rw [mem_flatten_rep hinv.ok]
    exact hmem x
  · rw [heq] at h; exact Nat.lt_irrefl _ h

/-- … with a fall-through edge wherever a block was split: whenever two stored blocks are adjacent
    (`m1` ends where `m2` starts) and some inserted block contains both the last instruction of `m1`
    and the first instruction of `m2` (it was split there), the graph has the edge `m1 → m2`. -/
theorem cfg_fallthrough (S : List Instr) (hS : StreamOK S) (hist : List Block) (hh : ∀ v ∈ hist, IsRun S v) :
    ∃ g, addAll Graph.empty hist = some g ∧
      ∀ m1 ∈ g.support, ∀ m2 ∈ g.support, m1.end = m2.vaddr →
        (∃ v ∈ hist, ∃ x y, m1.blk.getLast? = some x ∧ m2.blk.head? = some y ∧ x ∈ v ∧ y ∈ v) →
        (m1.vaddr, m2.vaddr) ∈ g.edges := by
  obtain ⟨H, ivs, E, hH, hhist, hr, hinv, hmem⟩ := history_result hS hist hh
  refine ⟨_, hr, ?_⟩
  intro m1 hm1 m2 hm2 hend ⟨v, hv, x, y, hx, hy, hxv, hyv⟩
  simp only [rep, List.mem_map] at hm1 hm2
  obtain ⟨iv1, hiv1, rfl⟩ := hm1
  obtain ⟨iv2, hiv2, rfl⟩ := hm2
  have mm1 := hinv.ok.mem hiv1
  have mm2 := hinv.ok.mem hiv2
  rw [repMo_end iv1 (by omega) mm1.2] at hend
  have hp : iv1.2 = iv2.1 := addrOf_inj hS _ _ mm1.2 (by omega) hend
  rw [hhist] at hv
  obtain ⟨h, hm, rfl⟩ := List.mem_map.mp hv
  have hmh := hH h hm
  simp only [repMo] at hx hy
  rw [run_getLast? iv1.1 iv1.2 mm1.1 mm1.2] at hx
  rw [run_head? iv2.1 iv2.2 mm2.1] at hy
  obtain ⟨k1, a1, a2, a3⟩ := (mem_run hmh.2).mp hxv
  obtain ⟨k2, b1, b2, b3⟩ := (mem_run hmh.2).mp hyv
  have e1 := stream_index_unique hS a3 hx
  have e2 := stream_index_unique hS b3 hy
  have hfall := hinv.edges iv2.1 ⟨iv1.1, by rw [← hp]; exact hiv1⟩ ⟨iv2.2, hiv2⟩
    ⟨h, by simpa using hm, by omega, by omega⟩
  obtain ⟨s1, e2', f1, f2, f3⟩ := hfall
  have : s1 = iv1.1 := hinv.ok.end_unique f1 (by rw [← hp]; exact hiv1)
  subst this
  exact f3

/-- `get_with_address` finds, for the address of every inserted instruction, the stored block that
    contains it, and nothing for an instruction of the stream that was never inserted. -/
theorem get_with_address_spec (S : List Instr) (hS : StreamOK S) (hist : List Block) (hh : ∀ v ∈ hist, IsRun S v) :
    ∃ g, addAll Graph.empty hist = some g ∧
      ∀ x ∈ S,
        ((∃ v ∈ hist, x ∈ v) → ∃ m ∈ g.support, getWithAddress g x.addr = some m ∧ x ∈ m.blk) ∧
        ((¬ ∃ v ∈ hist, x ∈ v) → getWithAddress g x.addr = none) := by
  obtain ⟨H, ivs, E, hH, hhist, hr, hinv, hmem⟩ := history_result hS hist hh
  refine ⟨_, hr, ?_⟩
  intro x hx
  obtain ⟨k, hk, rfl⟩ := List.getElem_of_mem hx
  rw [addrOf_getElem hS k hk]
  have hcov : cov ivs k ↔ ∃ v ∈ hist, S[k] ∈ v := by
    refine ⟨fun hc => (hmem _).mp ⟨k, hc, List.getElem?_eq_getElem hk⟩, fun hv => ?_⟩
    obtain ⟨k', hc, hk'⟩ := (hmem _).mpr hv
    exact stream_index_unique hS hk' (List.getElem?_eq_getElem hk) ▸ hc
  constructor
  · intro hv
    obtain ⟨iv, hiv, g1, g2⟩ := hcov.mpr hv
    refine ⟨repMo S iv, List.mem_map.mpr ⟨iv, hiv, rfl⟩, getWithAddress_rep_some hS E hinv.ok hiv g1 g2, ?_⟩
    exact (mem_run (hinv.ok.mem hiv).2).mpr ⟨k, g1, g2, List.getElem?_eq_getElem hk⟩
  · intro hv
    exact getWithAddress_rep_none hS E hinv.ok (by omega) (fun hc => hv (hcov.mp hc))

/-- one insertion, stated on its own: into any zone of runs of the stream (index intervals `ivs`),
    `add_vertex` of the run `s..e-1` returns the node stored at its start address and the new zone is
    again a zone of runs that covers the old instructions and the new ones, all other blocks kept. -/
theorem add_vertex_step (S : List Instr) (hS : StreamOK S) (ivs : List Iv) (E : Edges) (s e : Nat)
    (hok : IvsOK S.length ivs) (hse : s < e) (he : e ≤ S.length) :
    ∃ ivs' E', addVertex ((run S s e).length + 1) ⟨rep S ivs, E⟩ (run S s e) = .ok ⟨rep S ivs', E'⟩ (addrOf S s) ∧
      IvsOK S.length ivs' ∧ (∀ k, cov ivs' k ↔ (cov ivs k ∨ (s ≤ k ∧ k < e))) ∧
      (∀ iv ∈ ivs, ¬(iv.1 < s ∧ s < iv.2) → iv ∈ ivs') := by
  obtain ⟨ivs', E', hr, sp⟩ := addVertex_spec hS ((run S s e).length + 1) ivs E s e hok hse he
    (by rw [run_length s e he]; omega)
  exact ⟨ivs', E', hr, sp.ok, sp.covers, sp.keep⟩

-- non-vacuity: a stream of five instructions; blocks inserted out of order, one starting in the
-- middle of a stored block, one swallowing a later one, one equal block twice
private def S5 : List Instr :=
  [⟨0, [1, 2], false, false⟩, ⟨2, [3], false, false⟩, ⟨3, [4, 5, 6], true, false⟩,
   ⟨6, [7], false, false⟩, ⟨7, [8, 9], true, false⟩]

example : StreamOK S5 :=
  ⟨⟨by decide, by decide, by decide, by decide, trivial⟩, by decide⟩

example : ∀ v ∈ [S5.drop 3, (S5.take 3).drop 1, S5.take 4, (S5.take 3).drop 2, S5.drop 3], IsRun S5 v := by
  intro v hv
  simp only [List.mem_cons, List.not_mem_nil, or_false] at hv
  rcases hv with rfl | rfl | rfl | rfl | rfl
  · exact ⟨by decide, ⟨S5.take 3, [], by decide⟩⟩
  · exact ⟨by decide, ⟨S5.take 1, S5.drop 3, by decide⟩⟩
  · exact ⟨by decide, ⟨[], S5.drop 4, by decide⟩⟩
  · exact ⟨by decide, ⟨S5.take 2, S5.drop 3, by decide⟩⟩
  · exact ⟨by decide, ⟨S5.take 3, [], by decide⟩⟩

example : (addAll Graph.empty [S5.drop 3, (S5.take 3).drop 1, S5.take 4, (S5.take 3).drop 2, S5.drop 3]).map
      (fun g => (g.support.map (fun m => (m.vaddr, blen m.blk)), g.edges)) =
    some ([(0, 2), (2, 1), (3, 3), (6, 3)], [(0, 2), (3, 6), (2, 3)]) := by decide +kernel

end Amoco.Cfg.Props
