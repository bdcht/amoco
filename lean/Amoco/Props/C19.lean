/-
  C19 — Merging two maps over-approximates both.
-/
import Amoco.Model.Merge

namespace Amoco.Merge.Props

open Amoco.Merge

variable {E V : Type}

/-- set-valued denotation under a fixed concrete state: `val e` is the value of expression `e`. -/
def Den (val : E → V) : MV E → V → Prop
  | .top, _ => True
  | .leaf e, x => x = val e
  | .vec l, x => ∃ e ∈ l, x = val e
  | .vecw _, _ => True

theorem dedupBy_acc (eq : E → E → Bool) : ∀ (l acc : List E) (e : E), e ∈ acc → e ∈ dedupBy eq acc l
  | [], _, _, h => h
  | a :: rest, acc, e, h => by
    unfold dedupBy
    split
    · exact dedupBy_acc eq rest acc e h
    · exact dedupBy_acc eq rest (acc ++ [a]) e (List.mem_append_left _ h)

theorem dedupBy_covers (eq : E → E → Bool) (val : E → V) (heq : ∀ a b, eq a b = true → val a = val b) :
    ∀ (l acc : List E) (e : E), e ∈ l → ∃ e' ∈ dedupBy eq acc l, val e' = val e
  | [], _, _, h => by cases h
  | a :: rest, acc, e, h => by
    unfold dedupBy
    rcases List.mem_cons.mp h with rfl | h'
    · split
      · rename_i hany
        obtain ⟨b, hb, hab⟩ := List.any_eq_true.mp hany
        exact ⟨b, dedupBy_acc eq rest acc b hb, (heq _ _ hab).symm⟩
      · exact ⟨e, dedupBy_acc eq rest (acc ++ [e]) e (List.mem_append_right _ List.mem_cons_self), rfl⟩
    · split
      · exact dedupBy_covers eq val heq rest acc e h'
      · exact dedupBy_covers eq val heq rest (acc ++ [a]) e h'

theorem gather_spec (val : E → V) : ∀ (cs : List (MV E)) (acc : List E),
    match gather cs acc with
    | .inl v => ∀ x, Den val v x
    | .inr l => (∀ e ∈ acc, e ∈ l) ∧ ∀ c ∈ cs, ∀ x, Den val c x → ∃ e ∈ l, x = val e
  | [], _ => ⟨fun _ h => h, fun _ hc => nomatch hc⟩
  | .top :: _, _ => fun _ => trivial
  | .vecw _ :: _, _ => fun _ => trivial
  | .vec l' :: rest, acc => by
    have ih := gather_spec val rest (acc ++ l')
    rw [gather]
    cases hg : gather rest (acc ++ l') with
    | inl v => rw [hg] at ih; exact ih
    | inr l =>
      rw [hg] at ih
      refine ⟨fun e he => ih.1 e (List.mem_append_left _ he), fun c hc x hx => ?_⟩
      rcases List.mem_cons.mp hc with rfl | hc
      · obtain ⟨e, he, hxe⟩ := hx
        exact ⟨e, ih.1 e (List.mem_append_right _ he), hxe⟩
      · exact ih.2 c hc x hx
  | .leaf a :: rest, acc => by
    have ih := gather_spec val rest (acc ++ [a])
    rw [gather]
    cases hg : gather rest (acc ++ [a]) with
    | inl v => rw [hg] at ih; exact ih
    | inr l =>
      rw [hg] at ih
      refine ⟨fun e he => ih.1 e (List.mem_append_left _ he), fun c hc x hx => ?_⟩
      rcases List.mem_cons.mp hc with rfl | hc
      · exact ⟨a, ih.1 a (List.mem_append_right _ List.mem_cons_self), hx⟩
      · exact ih.2 c hc x hx

/-- **`vec.simplify` covers every alternative**, for every widening flag and complexity threshold:
    whatever a child may denote, the simplified vector either is 'unknown' (`top`, widened) or lists a
    term with that value.  `heq`: terms the algebra considers equal (same rendering) have the same value. -/
theorem vecSimplify_covers (eq : E → E → Bool) (val : E → V)
    (heq : ∀ a b, eq a b = true → val a = val b)
    (cplx : E → Nat) (thr : Nat) (widening : Bool) (children : List (MV E))
    (c : MV E) (hc : c ∈ children) (x : V) (hx : Den val c x) :
    Den val (vecSimplify eq cplx thr widening children) x := by
  unfold vecSimplify
  have hs := gather_spec val children []
  cases hg : gather children [] with
  | inl v => rw [hg] at hs; exact hs x
  | inr l =>
    rw [hg] at hs
    obtain ⟨e, he, hxe⟩ := hs.2 c hc x hx
    obtain ⟨e', he', hv⟩ := dedupBy_covers eq val heq l [] e he
    simp only
    split
    · rename_i e0 h1
      rw [h1] at he'
      simp only [List.mem_singleton] at he'
      subst he'
      show x = val e'
      rw [hxe, hv]
    · split
      · trivial
      · split
        · trivial
        · exact ⟨e', he', by rw [hxe, hv]⟩

theorem get_of_mem (input : Loc → E) : ∀ (m : Map E) (loc : Loc) (v : MV E),
    m.find? (fun p => p.1 == loc) = some (loc, v) → m.get input loc = v := by
  intro m loc v h; simp [Map.get, h]

def valOf (val : E → V) (input : Loc → E) (m : Map E) (loc : Loc) : V → Prop := Den val (m.get input loc)

theorem den_unless_flag (val : E → V) (flag : Bool) {b : MV E} {x : V} (h : Den val b x) :
    Den val (if flag then MV.top else b) x := by
  cases flag
  · exact h
  · trivial

theorem pair_covers {val : E → V} {simp : MV E → MV E} {vs : List (MV E) → MV E}
    (hsimp : ∀ v x, Den val v x → Den val (simp v) x)
    (hvs : ∀ cs c, c ∈ cs → ∀ x, Den val c x → Den val (vs cs) x) (a b : MV E) (x : V) :
    (Den val a x → Den val (vs [simp a, simp b]) x) ∧
    (Den val b x → Den val (vs [simp a, simp b]) x) :=
  ⟨fun h => hvs _ _ List.mem_cons_self x (hsimp a x h),
    fun h => hvs _ _ (List.mem_cons_of_mem _ List.mem_cons_self) x (hsimp b x h)⟩

/-- For a location written by the first map with value `v1`: a value `v` of the shape the merge gives such an
    entry (`vs [simp v1, simp …]`, assumed here as an equation; `hm` is not used) covers `v1` and — unless the
    location is a flag, which becomes `top` — the value the location has in the second map (the written one, or
    the untouched input).  That every entry of the merge has this shape, for both maps, is `merge_entry_covers`.
    `simp` is any sound simplifier, `vs` any covering vec-simplifier (e.g. `vecSimplify`, by
    `vecSimplify_covers`). -/
theorem merge_covers (val : E → V) (input : Loc → E) (simp : MV E → MV E) (vs : List (MV E) → MV E)
    (hsimp : ∀ v x, Den val v x → Den val (simp v) x)
    (hvs : ∀ cs c, c ∈ cs → ∀ x, Den val c x → Den val (vs cs) x)
    (m1 m2 : Map E) (loc : Loc) (v : MV E)
    (hm : (loc, v) ∈ merge input simp vs m1 m2) (x : V) :
    (∀ v1, (loc, v1) ∈ m1 → v = vs [simp v1, simp (if loc.isFlag then MV.top else m2.get input loc)] →
        (Den val v1 x → Den val v x) ∧ (Den val (m2.get input loc) x → Den val v x)) := by
  intro v1 _ hv
  subst hv
  have h := pair_covers hsimp hvs v1 (if loc.isFlag then MV.top else m2.get input loc) x
  exact ⟨h.1, fun h2 => h.2 (den_unless_flag val _ h2)⟩

/-- every entry of the merge has the shape the code gives it, and covers both maps' values. -/
theorem merge_entry_covers (val : E → V) (input : Loc → E) (simp : MV E → MV E) (vs : List (MV E) → MV E)
    (hsimp : ∀ v x, Den val v x → Den val (simp v) x)
    (hvs : ∀ cs c, c ∈ cs → ∀ x, Den val c x → Den val (vs cs) x)
    (m1 m2 : Map E) (loc : Loc) (v : MV E)
    (hm : (loc, v) ∈ merge input simp vs m1 m2) :
    (∃ v1, (loc, v1) ∈ m1 ∧ ∀ x, (Den val v1 x → Den val v x) ∧ (Den val (m2.get input loc) x → Den val v x)) ∨
    (∃ v2, (loc, v2) ∈ m2 ∧ ∀ x, (Den val v2 x → Den val v x) ∧ (Den val (m1.get input loc) x → Den val v x)) := by
  unfold merge at hm
  simp only [List.mem_append, List.mem_map, List.mem_filter, Prod.mk.injEq, Prod.exists] at hm
  rcases hm with ⟨l, v1, hin, rfl, rfl⟩ | ⟨l, v2, ⟨hin, _⟩, rfl, rfl⟩
  · refine Or.inl ⟨v1, hin, fun x => ?_⟩
    have h := pair_covers hsimp hvs v1 (if l.isFlag then MV.top else m2.get input l) x
    exact ⟨h.1, fun h2 => h.2 (den_unless_flag val _ h2)⟩
  · refine Or.inr ⟨v2, hin, fun x => ?_⟩
    have h := pair_covers hsimp hvs (if l.isFlag then MV.top else m1.get input l) v2 x
    exact ⟨h.2, fun h1 => h.1 (den_unless_flag val _ h1)⟩

theorem has_map (m : Map E) (f : Loc → MV E → MV E) (loc : Loc) :
    Map.has (m.map (fun p => (p.1, f p.1 p.2))) loc = m.has loc := by
  unfold Map.has
  induction m with
  | nil => rfl
  | cons a l ih => simp only [List.map_cons, List.any_cons, ih]

theorem has_filter (m : Map E) (q : Loc → Bool) (loc : Loc) :
    Map.has (m.filter fun p => q p.1) loc = (q loc && m.has loc) := by
  unfold Map.has
  rw [List.any_filter]
  induction m with
  | nil => exact (Bool.and_false _).symm
  | cons a l ih =>
    rw [List.any_cons, List.any_cons, ih, Bool.and_or_distrib_left]
    congr 1
    cases h : a.1 == loc
    · rw [Bool.and_false, Bool.and_false]
    · rw [beq_iff_eq.1 h]

/-- every location written by either map is in the merge, and locations written by neither are not. -/
theorem merge_keys (input : Loc → E) (simp : MV E → MV E) (vs : List (MV E) → MV E) (m1 m2 : Map E) (loc : Loc) :
    (merge input simp vs m1 m2).has loc = (m1.has loc || m2.has loc) := by
  unfold merge
  dsimp only
  rw [show ∀ (a b : Map E), Map.has (a ++ b) loc = (a.has loc || b.has loc) from
        fun a b => List.any_append]
  simp only [has_map m1 fun l v => vs [simp v, simp (if l.isFlag then MV.top else m2.get input l)],
    has_map _ fun l v => vs [simp (if l.isFlag then MV.top else m1.get input l), simp v],
    has_filter m2 fun l => !m1.has l]
  cases m1.has loc <;> rfl

example : vecSimplify (E := Nat) (· == ·) (fun _ => 1) 0 false [.leaf 3, .vec [3, 4], .leaf 5] = .vec [3, 4, 5] := by decide
example : vecSimplify (E := Nat) (· == ·) (fun _ => 1) 0 false [.leaf 3, .leaf 3] = .leaf 3 := by decide
example : vecSimplify (E := Nat) (· == ·) (fun _ => 2) 3 false [.leaf 3, .leaf 4] = .top := by decide
example : vecSimplify (E := Nat) (· == ·) (fun _ => 2) 3 true [.leaf 3, .leaf 4] = .vecw [3, 4] := by decide

end Amoco.Merge.Props
