/-
  C20 — Program identification (`amoco.system.core.read_program`) is total and reports only format
  errors.  ELF, HEX and SREC constructors are modelled in full, PE / Mach-O / COFF at header level with
  the rest abstracted by `Bodies` (returns or raises its own error type: trusted, observed by the harness).
-/
import Amoco.Model.HexSrec
import Amoco.Model.Elf
import Amoco.Proofs.Fmt
import Amoco.Proofs.FmtAlloc

namespace Amoco.Fmt.Props20

open Amoco Amoco.Fmt

/-- Each fully modelled constructor lets only its own error type out (ELF additionally the struct
    layer's `StructureError`, which `read_program` catches alongside): every `assert`, `int(…)`,
    `unhexlify`, short `struct` read, index, `%` by zero, `decode` inside is accounted for. -/
theorem constructors_raise_only_format_errors (env : ElfEnv) (data : Bytes) :
    (∀ e, elfInit env data = .error e → e = .elfError ∨ e = .structureError) ∧
    (∀ e, hexInit data = .error e → e = .hexError) ∧
    (∀ e, srecInit data = .error e → e = .srecError) ∧
    (∀ raw e, hexLineSet raw = .error e → e = .hexError) ∧
    (∀ raw e, srecLineSet raw = .error e → e = .srecError) :=
  ⟨raises_elfInit env data, raises_hexInit data, raises_srecInit data,
   fun raw => raises_hexLineSet raw, fun raw => raises_srecLineSet raw⟩

/-- For every byte string, every table of known types and every behaviour of the PE / Mach-O / COFF
    bodies (within their contract), `read_program` returns a format object or the raw fallback —
    no exception of any class leaves it; termination is Lean totality (every loop is bounded by a
    file field of bounded width or by the length of the input). -/
theorem read_program_total (env : ElfEnv) (B : Bodies) (data : Bytes) :
    ∃ o, readProgram env B data = .ok o :=
  tryFormat_total _ _ _ _ (raises_mono (by rintro _ (rfl | rfl) <;> rfl) (raises_elfInit env data)) <|
  tryFormat_total _ _ _ _ (raises_peInit B data) <|
  tryFormat_total _ _ _ _ (raises_machoInit B data) <|
  tryFormat_total _ _ _ _ (raises_coffInit B data) <|
  tryFormat_total _ _ _ _ (raises_mono (by rintro _ rfl; rfl) (raises_hexInit data)) <|
  tryFormat_total _ _ _ _ (raises_mono (by rintro _ rfl; rfl) (raises_srecInit data)) ⟨.raw, rfl⟩

/-- the chain hands out the ELF object whenever the ELF constructor accepts. -/
theorem read_program_elf_first (env : ElfEnv) (B : Bodies) (data : Bytes) (o : ElfObj)
    (h : elfInit env data = .ok o) : readProgram env B data = .ok (.elf o) := by
  unfold readProgram
  rw [h]; rfl

/-- The acceptance predicates are pairwise exclusive on the first byte of the file: what ELF accepts
    starts with 0x7f, PE with 'M', Mach-O with 0xCE/0xCF/0xCA, a non-empty HEX file with ':' and an
    S-record file with 'S' (after blanks of the first line); HEX and SREC both accept only the empty
    file.  Hence a valid file of one of these formats is never claimed by another one earlier in the
    chain.  (COFF has no magic at all: `coffHeaderOK` is `length ≥ 20` — not covered.) -/
theorem magic_disjoint (env : ElfEnv) (data : Bytes) (hb : BytesOK data) :
    ¬ (accElf env data = true ∧ peHeaderOK data = true) ∧
    ¬ (accElf env data = true ∧ machoHeaderOK data = true) ∧
    ¬ (accElf env data = true ∧ accHex data = true) ∧
    ¬ (accElf env data = true ∧ accSrec data = true) ∧
    ¬ (peHeaderOK data = true ∧ machoHeaderOK data = true) ∧
    ¬ (peHeaderOK data = true ∧ accHex data = true) ∧
    ¬ (peHeaderOK data = true ∧ accSrec data = true) ∧
    ¬ (machoHeaderOK data = true ∧ accHex data = true) ∧
    ¬ (machoHeaderOK data = true ∧ accSrec data = true) ∧
    (accHex data = true ∧ accSrec data = true → data = []) :=
  ⟨fun ⟨h1, h2⟩ => (accElf_head env data h1).disjoint (peHeaderOK_head data h2) (by decide),
   fun ⟨h1, h2⟩ => (accElf_head env data h1).disjoint (machoHeaderOK_head data hb h2) (by decide),
   fun ⟨h1, h2⟩ => accHex_starts h2 (accElf_head env data h1) (by decide),
   fun ⟨h1, h2⟩ => accSrec_starts h2 (accElf_head env data h1) (by decide),
   fun ⟨h1, h2⟩ => (peHeaderOK_head data h1).disjoint (machoHeaderOK_head data hb h2) (by decide),
   fun ⟨h1, h2⟩ => accHex_starts h2 (peHeaderOK_head data h1) (by decide),
   fun ⟨h1, h2⟩ => accSrec_starts h2 (peHeaderOK_head data h1) (by decide),
   fun ⟨h1, h2⟩ => accHex_starts h2 (machoHeaderOK_head data hb h1) (by decide),
   fun ⟨h1, h2⟩ => accSrec_starts h2 (machoHeaderOK_head data hb h1) (by decide),
   fun ⟨h1, h2⟩ => accHex_accSrec data h1 h2⟩

/-- **No unbounded allocation (HEX).**  Whatever `HEX.__init__` accepts, the object it builds holds at
    most one record per input line — hence per input byte — and at most one data byte per two input
    characters: memory is linear in the length of the file, whatever the count fields say. -/
theorem hex_alloc_bounded (data : Bytes) (h : HexFile) (e : hexInit data = .ok h) :
    h.lines.length ≤ data.length ∧ 2 * hexDataBytes h.lines ≤ data.length := by
  have := hexInitLoop_bound (readlines data) _ h e
  have hs := readlines_sum data
  simp only [List.length_nil, hexDataBytes, List.map_nil, List.sum_nil] at this
  simp only [hexDataBytes]
  omega

/-- **No unbounded allocation (S-records).** -/
theorem srec_alloc_bounded (data : Bytes) (h : SrecFile) (e : srecInit data = .ok h) :
    h.lines.length ≤ data.length ∧ 2 * srecDataBytes h.lines ≤ data.length := by
  have := srecInitLoop_bound (readlines data) _ h e
  have hs := readlines_sum data
  simp only [List.length_nil, srecDataBytes, List.map_nil, List.sum_nil] at this
  simp only [srecDataBytes]
  omega

/-- the bytes the loaders place in memory (`decode`) are among the data bytes counted above -/
theorem hex_decode_bounded (data : Bytes) (h : HexFile) (e : hexInit data = .ok h) :
    2 * ((hexDecode h.lines).map (fun p => p.2.length)).sum ≤ data.length := by
  have hb := (hex_alloc_bounded data h e).2
  have : ∀ (ls : List HexLine) (b : Int),
      ((hexDecodeLoop ls b).map (fun p => p.2.length)).sum ≤ hexDataBytes ls := by
    intro ls
    induction ls with
    | nil => intro b; simp [hexDecodeLoop, hexDataBytes]
    | cons l rest ih =>
      intro b
      rw [hexDecodeLoop, hexDataBytes_cons]
      split
      · exact Nat.le_trans (ih _) (Nat.le_add_left _ _)
      split
      · exact Nat.le_trans (ih _) (Nat.le_add_left _ _)
      split
      · rw [List.map_cons, List.sum_cons]; exact Nat.add_le_add_left (ih b) _
      · exact Nat.le_trans (ih b) (Nat.le_add_left _ _)
  have := this h.lines 0
  unfold hexDecode; omega

-- a one-record HEX file is accepted by HEX and by nothing before it in the chain
example : readProgram { knownPT := [], knownSHT := [] }
    { pe := fun _ => true, macho := fun _ => true, coff := fun _ => false }
    [58, 48, 48, 48, 48, 48, 48, 48, 49, 70, 70, 10] =
    .ok (.hex { lines := [⟨0, 0, 1, [], 255, .none⟩], entry := .zero, eip := none }) := by
  rfl

-- `:0100000041BE` keeps 1 data byte of 13 characters
example : ∃ h, hexInit [58, 48, 49, 48, 48, 48, 48, 48, 48, 52, 49, 66, 69, 10] = .ok h ∧ hexDataBytes h.lines = 1 ∧ h.lines.length = 1 :=
  ⟨_, rfl, rfl, rfl⟩

example : readProgram { knownPT := [], knownSHT := [] }
    { pe := fun _ => true, macho := fun _ => true, coff := fun _ => true } [1, 2, 3] = .ok .raw := by
  rfl

end Amoco.Fmt.Props20
