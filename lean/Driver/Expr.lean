/-
  Driver.Expr — JSON-lines ops of the expression-algebra model (ops prefixed "expr.").
    expr.run     {script, action, cplx, fuel?}  run a build script on the model, then the action
    expr.compwf  {dump}                          K-tie: CompWF (+ smask agreement) of every comp in a dump
    expr.parse   {dump}                          round-trip of a dump (self-test of the parser)
  `Driver.Expr.handle` only serves "expr."; the "map." ops are in Driver/Map.lean.
-/
import Driver.Proto
import Amoco.Model.Eval

open Lean Amoco Amoco.Expr

namespace Driver.Expr

/-! ### complexity oracle with IEEE doubles, as the Python code computes it -/

mutual
partial def depth : Expr → Float
  | .cst .. | .reg .. | .ext .. | .mem .. | .ptr .. => 1.0
  | .top .. | .vecw .. => 1.0 / 0.0
  | .slc x .. => 2.0 * depth x
  | .comp _ _ ps => (sortParts ps).foldl (fun a p => a + depth p.2.2) 0.0
  | .tst t l r _ _ => (depth t + depth l + depth r) / 3.0
  | .op _ l r _ _ _ => depth l + depth r
  | .uop _ r _ _ _ => depth r
  | .vec l s _ => if s == 0 then 0.0 else (l.foldl (fun m e => if depth e > m then depth e else m) 0.0) * l.length.toFloat
end

def complexity (e : Expr) : Float :=
  let factor : Nat := match e with | .op _ _ _ _ _ p => p | .uop _ _ _ _ p => p | _ => 1
  (depth e + (symbolsOf e).length.toFloat) * factor.toFloat

def mkCfg (threshold : Nat) (topHashEq : Bool := true) : Cfg :=
  { cplx := fun e => threshold > 0 && complexity e > threshold.toFloat
    vecCplx := fun l => threshold > 0 && (l.foldl (fun a e => a + complexity e) 0.0) > threshold.toFloat
    topHashEq := topHashEq }

/-! ### JSON ⇄ Expr -/

def jstr (s : String) : Json := Json.str s
def jb (b : Bool) : Json := Json.bool b

partial def dump : Expr → Json
  | .cst v s f => Json.arr #[jstr "cst", jnat v, jnat s, jb f]
  | .reg n s f => Json.arr #[jstr "reg", jstr n, jnat s, jb f]
  | .ext n s f => Json.arr #[jstr "ext", jstr n, jnat s, jb f]
  | .slc x p s f r k => Json.arr #[jstr "slc", dump x, jnat p, jnat s, jb f, jopt jstr r, jnat k]
  | .comp s f ps =>
      Json.arr #[jstr "comp", jnat s, jb f, jlist (fun (p : Part) => Json.arr #[jnat p.1, jnat p.2.1, dump p.2.2]) ps]
  | .tst t l r s f => Json.arr #[jstr "tst", dump t, dump l, dump r, jnat s, jb f]
  | .op o l r s f p => Json.arr #[jstr "op", jstr o.symbol, dump l, dump r, jnat s, jb f, jnat p]
  | .uop o r s f p => Json.arr #[jstr "uop", jstr o.symbol, dump r, jnat s, jb f, jnat p]
  | .ptr b sg d s f => Json.arr #[jstr "ptr", dump b, jopt dump sg, jint d, jnat s, jb f]
  | .mem a s f en ms =>
      Json.arr #[jstr "mem", dump a, jnat s, jb f, jint (if en then -1 else 1),
                 jlist (fun (m : Expr × Expr) => Json.arr #[dump m.1, dump m.2]) ms]
  | .vec l s f => Json.arr #[jstr "vec", jlist dump l, jnat s, jb f]
  | .vecw l s f => Json.arr #[jstr "vecw", jlist dump l, jnat s, jb f]
  | .top s f => Json.arr #[jstr "top", jnat s, jb f]

def arrGet (a : Array Json) (i : Nat) : Except String Json :=
  match a[i]? with | some j => pure j | none => throw "short array"

partial def parse (j : Json) : Except String Expr := do
  let a ← j.getArr?
  let k ← (← arrGet a 0).getStr?
  let nat (i : Nat) : Except String Nat := do (← arrGet a i).getNat?
  let bool (i : Nat) : Except String Bool := do (← arrGet a i).getBool?
  let str (i : Nat) : Except String String := do (← arrGet a i).getStr?
  let sub (i : Nat) : Except String Expr := do parse (← arrGet a i)
  let subs (i : Nat) : Except String (List Expr) := do
    let l ← (← arrGet a i).getArr?
    l.toList.mapM parse
  match k with
  | "cst" => return .cst (← nat 1) (← nat 2) (← bool 3)
  | "reg" => return .reg (← str 1) (← nat 2) (← bool 3)
  | "ext" => return .ext (← str 1) (← nat 2) (← bool 3)
  | "slc" =>
      let r := match (← arrGet a 5).getStr? with | .ok s => some s | .error _ => none
      return .slc (← sub 1) (← nat 2) (← nat 3) (← bool 4) r (← nat 6)
  | "comp" =>
      let ps ← (← arrGet a 3).getArr?
      let parts ← ps.toList.mapM (fun pj => do
        let pa ← pj.getArr?
        let lo ← (← arrGet pa 0).getNat?
        let hi ← (← arrGet pa 1).getNat?
        let e ← parse (← arrGet pa 2)
        pure ((lo, hi, e) : Part))
      return .comp (← nat 1) (← bool 2) parts
  | "tst" => return .tst (← sub 1) (← sub 2) (← sub 3) (← nat 4) (← bool 5)
  | "op" =>
      match Op.ofSymbol? (← str 1) with
      | some o => return .op o (← sub 2) (← sub 3) (← nat 4) (← bool 5) (← nat 6)
      | none => throw "op symbol"
  | "uop" =>
      match Op.ofSymbol? (← str 1) with
      | some o => return .uop o (← sub 2) (← nat 3) (← bool 4) (← nat 5)
      | none => throw "op symbol"
  | "vec" => return .vec (← subs 1) (← nat 2) (← bool 3)
  | "vecw" => return .vecw (← subs 1) (← nat 2) (← bool 3)
  | "top" => return .top (← nat 1) (← bool 2)
  | _ => throw s!"unmodelled kind {k}"

/-! ### build scripts -/

def errStr : Err → String
  | .fuel => "fuel" | .value => "value" | .div0 => "div0" | .assert => "assert" | .type => "type"
  | .attr => "attr" | .overflow => "overflow" | .unmodelled => "unmodelled"

def binPy : String → Option Op
  | "add" => some .add | "sub" => some .sub | "mul" => some .mul | "pow" => some .mul2 | "div" => some .div
  | "mod" => some .mod | "and" => some .and | "or" => some .or | "xor" => some .xor | "shl" => some .lsl
  | "shr" => some .lsr | "asr" => some .asr | "eq" => some .eq | "ne" => some .neq | "lt" => some .lt
  | "le" => some .le | "gt" => some .gt | "ge" => some .ge
  | _ => none

def binOper : String → Option Op
  | "ltu" => some .ltu | "geu" => some .geu | "ror" => some .ror | "rol" => some .rol
  | _ => none

def pop1 (st : List Expr) : R (Expr × List Expr) :=
  match st with | x :: tl => .ok (x, tl) | _ => .error .unmodelled

/-- one instruction of a build script on the stack (top of stack first). -/
def step (cfg : Cfg) (fuel : Nat) (st : List Expr) (ins : Array Json) : R (List Expr) := do
  let o := match ins[0]? with | some (Json.str s) => s | _ => ""
  let natArg (i : Nat) : R Nat := match ins[i]? with
    | some j => (match j.getNat? with | .ok n => pure n | .error _ => throw .unmodelled)
    | none => throw .unmodelled
  let intArg (i : Nat) : R Int := match ins[i]? with
    | some j => (match j.getInt? with | .ok n => pure n | .error _ => throw .unmodelled)
    | none => throw .unmodelled
  let strArg (i : Nat) : R String := match ins[i]? with
    | some (Json.str s) => pure s
    | _ => throw .unmodelled
  match o with
  | "cst" => return mkCst (← intArg 1) (← natArg 2) :: st
  | "reg" => return .reg (← strArg 1) (← natArg 2) false :: st
  | "ext" => return .ext (← strArg 1) (← natArg 2) false :: st
  | "top" => return mkTop (← natArg 1) :: st
  -- ["mem", name, size, disp, endian, basesize]: mem(reg(name, basesize), size, disp=disp, endian=±1)
  | "mem" =>
      let bs ← natArg 5
      let en ← intArg 4
      return Expr.mem (.ptr (.reg (← strArg 1) bs false) none (← intArg 3) bs false) (← natArg 2) false (en == -1) [] :: st
  -- ["setpart", lo, hi]: pops v then c; `c[lo:hi] = v` through comp.__setitem__ (a non-comp `c` is first
  -- wrapped: `cc = comp(c.size); cc[0:c.size] = c`)
  | "setpart" =>
      let (v, tl) ← pop1 st
      let (c, tl) ← pop1 tl
      let c ← (match c with
        | .comp .. => pure c
        | _ => setitem cfg fuel (Expr.comp c.size false []) 0 (c.size : Int) c)
      return (← setitem cfg fuel c (← intArg 1) (← intArg 2) v) :: tl
  | "signed" => let (x, tl) ← pop1 st; return x.setSf true :: tl
  | "unsigned" => let (x, tl) ← pop1 st; return x.setSf false :: tl
  | "neg" => let (x, tl) ← pop1 st; return (← apiNeg cfg fuel x) :: tl
  | "not" => let (x, tl) ← pop1 st; return (← apiNot cfg fuel x) :: tl
  | "slice" =>
      let (x, tl) ← pop1 st
      return (← getitem cfg fuel x (← intArg 1) (← intArg 2)) :: tl
  | "bit" => let (x, tl) ← pop1 st; return (← bitOf cfg fuel x (← natArg 1)) :: tl
  | "compose" =>
      let n ← natArg 1
      if st.length < n then throw .unmodelled
      let parts := (st.take n).reverse
      return (← composer cfg fuel parts) :: st.drop n
  | "tst" =>
      let (r, tl) ← pop1 st
      let (l, tl) ← pop1 tl
      let (t, tl) ← pop1 tl
      return (← mkTst t l r) :: tl
  | "zext" => let (x, tl) ← pop1 st; return (← extend cfg fuel false x (← natArg 1)) :: tl
  | "sext" => let (x, tl) ← pop1 st; return (← extend cfg fuel true x (← natArg 1)) :: tl
  -- RAW constructors: the node is built by the class constructor alone, no construction-time simplification
  | "rawop" =>
      let (r, tl) ← pop1 st
      let (l, tl) ← pop1 tl
      let name ← strArg 1
      match (match binPy name with | some o => some o | none => binOper name) with
      | some bo => return (← mkOp bo l r) :: tl
      | none => throw .unmodelled
  | "rawuop" =>
      let (x, tl) ← pop1 st
      match (← strArg 1) with
      | "neg" => return mkUop .sub x :: tl
      | "not" => return mkUop .not x :: tl
      | _ => throw .unmodelled
  | "rawslc" =>
      let (x, tl) ← pop1 st
      return (← mkSlc cfg fuel x (← natArg 1) (← natArg 2)) :: tl
  | "rawcomp" =>
      -- `c = comp(total); c[pos:pos+p.size] = p` for each part, no simplification
      let n ← natArg 1
      if st.length < n then throw .unmodelled
      let parts := (st.take n).reverse
      let total := parts.foldl (fun a x => a + x.size) 0
      let (c, _) ← parts.foldlM (fun (acc : Expr × Nat) (x : Expr) => do
        let c ← setitem cfg fuel acc.1 (acc.2 : Int) ((acc.2 + x.size : Nat) : Int) x
        pure (c, acc.2 + x.size)) (Expr.comp total false [], 0)
      return c :: st.drop n
  | "simp" => let (x, tl) ← pop1 st; return (← simplify cfg fuel {} x) :: tl
  | "simpb" => let (x, tl) ← pop1 st; return (← simplify cfg fuel { bitslice := true } x) :: tl
  | _ =>
    let (r, tl) ← pop1 st
    let (l, tl) ← pop1 tl
    match binPy o with
    | some bo => return (← api cfg fuel bo l r) :: tl
    | none =>
      match binOper o with
      | some bo => return (← oper cfg fuel bo l r) :: tl
      | none =>
        match o with
        | "ltuh" => return (← helperCmp cfg fuel .ltu l r) :: tl
        | "geuh" => return (← helperCmp cfg fuel .geu l r) :: tl
        | "rorh" => return (← helperRot cfg fuel .ror l r) :: tl
        | "rolh" => return (← helperRot cfg fuel .rol l r) :: tl
        | _ => throw .unmodelled

def build (cfg : Cfg) (fuel : Nat) (script : Array Json) : R Expr := do
  let st ← script.foldlM (fun st ins => match ins with
    | Json.arr a => step cfg fuel st a
    | _ => throw .unmodelled) ([] : List Expr)
  match st with
  | [e] => pure e
  | _ => throw .unmodelled

def parseOpts (j : Json) : Opts :=
  match j with
  | Json.str "bitslice" => { bitslice := true }
  | Json.str "widening" => { widening := true }
  | _ => {}

/-- valuation `[[name,size,value]…]` → environment of constants (what `mapper.__getitem__` returns). -/
def parseVal (j : Json) : Except String Env := do
  let a ← j.getArr?
  a.toList.mapM (fun t => do
    let ta ← t.getArr?
    let n ← (← arrGet ta 0).getStr?
    let s ← (← arrGet ta 1).getNat?
    let v ← (← arrGet ta 2).getInt?
    pure (n, s, mkCst v s))

/-- symbolic environment `[[name,size,script]…]`: `m[reg] = build(script)` stores `comp{[0:size] ↦ v.simplify()}`
    (flattened when `v` is a comp) and `mapper.__getitem__` returns `r[0:size]` of it. -/
def parseEnvX (cfg : Cfg) (fuel : Nat) (j : Json) : Except String (R Env) := do
  let a ← j.getArr?
  let items ← a.toList.mapM (fun t => do
    let ta ← t.getArr?
    let n ← (← arrGet ta 0).getStr?
    let s ← (← arrGet ta 1).getNat?
    let sc ← (← arrGet ta 2).getArr?
    pure (n, s, sc))
  return items.mapM (fun (n, s, sc) => do
    let v ← build cfg fuel sc
    let v ← simplify cfg fuel {} v
    let c ← setitem cfg fuel (.comp s false []) 0 s (.reg n s false)
    let c ← setitem cfg fuel c 0 s v
    let r ← getitem cfg fuel c 0 s
    pure (n, s, r))

/-- does the tree contain a node without a single value (`top`, `vec`, `vecw`, `mem`, `ptr`)? -/
partial def nondet : Expr → Bool
  | .cst .. | .reg .. | .ext .. => false
  | .slc x .. => nondet x
  | .comp _ _ ps => ps.any (fun p => nondet p.2.2)
  | .tst t l r _ _ => nondet t || nondet l || nondet r
  | .op _ l r _ _ _ => nondet l || nondet r
  | .uop _ r _ _ _ => nondet r
  | _ => true

/-- executable `SfIs` (Amoco.Model.Eval): the operand is read with signedness `s` -/
partial def sfIsB (s : Bool) : Expr → Bool
  | .cst v sz f => f == s || !v.testBit (sz - 1)
  | .reg _ _ f | .ext _ _ f | .slc _ _ _ f _ _ | .comp _ f _ | .op _ _ _ _ f _ | .uop _ _ _ f _ => f == s
  | .tst _ l r _ _ => sfIsB s l && sfIsB s r
  | _ => false

/-- executable `SignOK`: every sign-dependent operator has two operands of ONE declared signedness — the trees on
    which `ideal` (one reading per operator, taken from the left operand) is the meaning; the real operators read
    each operand with its own flag, so on other trees `ideal` is not compared with the reference evaluator -/
partial def signOKB : Expr → Bool
  | .slc x .. => signOKB x
  | .comp _ _ ps => ps.all (fun p => signOKB p.2.2)
  | .tst t l r _ _ => signOKB t && signOKB l && signOKB r
  | .op o l r _ _ _ => signOKB l && signOKB r && (!signDep o || (sfIsB l.sf l && sfIsB l.sf r))
  | .uop _ r _ _ _ => signOKB r
  | _ => true

/-- valuations `[[[name,size,value]…]…]` → the Lean reference value `ideal ρ e` for each (null when `e` has no
    single value) -/
def idealsOf (e : Expr) (j : Json) : Json :=
  match j.getArr? with
  | .error _ => Json.null
  | .ok vals =>
    if nondet e || !signOKB e then Json.null else
    Json.arr (vals.map (fun vj =>
      match parseVal vj with
      | .error _ => Json.null
      | .ok env => jnat (ideal (envVal env) e)))

def outcome (r : R Expr) (ideals : Json := Json.null) : Json :=
  match r with
  | .ok e => Json.arr #[jstr "ok", dump e, jstr (render e), jnat e.size, idealsOf e ideals]
  | .error .unmodelled => jstr "unmodelled"
  | .error .fuel => jstr "fuel"
  | .error k => Json.arr #[jstr "raise", jstr (errStr k)]

def opRun (j : Json) : Json :=
  match getArr j "script", getArr j "action" with
  | .ok script, .ok action =>
    let thr := match getNat j "cplx" with | .ok n => n | .error _ => 0
    let fuel := match getNat j "fuel" with | .ok n => n | .error _ => 4000
    let topeq := match getBool j "topeq" with | .ok b => b | .error _ => true
    let cfg := mkCfg thr topeq
    let act := match action[0]? with | some (Json.str s) => s | _ => ""
    let res : R Expr := do
      let e ← build cfg fuel script
      match act with
      | "build" => pure e
      | "simplify" => simplify cfg fuel (parseOpts (action[1]?.getD Json.null)) e
      | "eval" =>
          match parseVal (action[1]?.getD Json.null) with
          | .ok env => eval cfg fuel env e
          | .error _ => throw .unmodelled
      | "simpeval" =>
          match parseVal (action[2]?.getD Json.null) with
          | .ok env => do
              let e ← simplify cfg fuel (parseOpts (action[1]?.getD Json.null)) e
              eval cfg fuel env e
          | .error _ => throw .unmodelled
      | "evalx" =>
          match parseEnvX cfg fuel (action[1]?.getD Json.null) with
          | .ok renv => do
              let env ← renv
              eval cfg fuel env e
          | .error _ => throw .unmodelled
      | _ => throw .unmodelled
    outcome res (match j.getObjVal? "ideals" with | .ok v => v | .error _ => Json.null)
  | _, _ => jerr "args"

/-! ### K-tie: CompWF on dumped comps (with the real `smask`) -/

/-- problems of one comp `["comp", size, sf, parts, smask]`. -/
def compProblems (j : Json) : List String :=
  match j.getArr? with
  | .error _ => ["not an array"]
  | .ok a =>
    match parse (Json.arr (a.extract 0 4)) with
    | .error e => if e.startsWith "unmodelled" then [] else ["parse: " ++ e]
    | .ok (.comp size _ parts) =>
        let p1 := if compWF size parts then [] else ["CompWF fails: parts do not tile [0,size) with their own widths"]
        let p2 := match a[4]? with
          | some (Json.arr sm) =>
              if sm.size != size then ["smask length"] else
              let bad := (List.range size).filter (fun b =>
                let want := match cover b parts with | some (lo, hi, _) => Json.arr #[jnat lo, jnat hi] | none => Json.null
                (sm[b]?.getD Json.null) != want)
              if bad.isEmpty then [] else [s!"smask disagrees with parts at bit {bad.head!}"]
          | _ => []
        p1 ++ p2
    | .ok _ => ["not a comp"]

partial def allComps (j : Json) (acc : Array Json) : Array Json :=
  match j with
  | Json.arr a =>
      let acc := match a[0]? with | some (Json.str "comp") => acc.push j | _ => acc
      a.foldl (fun acc x => allComps x acc) acc
  | _ => acc

def opCompWF (j : Json) : Json :=
  match j.getObjVal? "dump" with
  | .error e => jerr e
  | .ok d =>
    let cs := allComps d #[]
    let probs := cs.toList.flatMap compProblems
    Json.mkObj [("comps", jnat cs.size), ("problems", jlist jstr probs)]

def opParse (j : Json) : Json :=
  match j.getObjVal? "dump" with
  | .error e => jerr e
  | .ok d => match parse d with
    | .ok e => Json.arr #[dump e, jstr (render e)]
    | .error e => jerr e

def handle (j : Json) : Json :=
  match getStr j "op" with
  | .ok "expr.run" => opRun j
  | .ok "expr.compwf" => opCompWF j
  | .ok "expr.parse" => opParse j
  | .ok o => jerr s!"unknown op {o}"
  | .error e => jerr e

end Driver.Expr
