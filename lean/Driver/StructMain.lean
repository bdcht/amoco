/-
  drv_struct — compiled model driver for the struct language, LEB128 (C16) and the file
  formats built on it (C14 C15 C20):
    ops "struct.*" / "leb.*"  → Driver.Struct.handle   (C16)
    ops "fmt.*"               → Driver.Fmt.handle
-/
import Driver.Proto
import Driver.Struct
import Driver.Fmt

open Lean

def handleAll (j : Json) : Json :=
  match Driver.getStr j "op" with
  | .ok o =>
    if o.startsWith "struct." || o.startsWith "leb." then Driver.Struct.handle j
    else if o.startsWith "fmt." then Driver.Fmt.handle j
    else Driver.jerr s!"unknown op {o}"
  | .error e => Driver.jerr e

def main : IO Unit := Driver.run handleAll
