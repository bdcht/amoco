-- Root of the library `Generated`: the tables under Generated/ are rewritten from /repo by the translators on
-- every run and imported, one by one, by the property files and drivers that use them.
